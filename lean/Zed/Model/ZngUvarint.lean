/-!
  L0 — unsigned varints as `encoding/binary` reads and writes them, and Go's `int(uint64)`
  conversion.  Anchors: `binary.AppendUvarint`, `binary.ReadUvarint`, `binary.Uvarint`,
  `zio/zngio/reader.go readUvarintAsInt`.

  Bytes are `List UInt8`.  `readUvarint` is total: it consumes at most 10 bytes
  (`MaxVarintLen64`) and reports the three ways the Go function fails.
-/
namespace Zed.Zng

abbrev Bytes := List UInt8

/-- `binary.AppendUvarint(nil, n)` (for `n < 2^64`; the definition itself is unbounded). -/
def uvarint (n : Nat) : Bytes :=
  if n < 128 then [UInt8.ofNat n] else UInt8.ofNat (n % 128 + 128) :: uvarint (n / 128)
decreasing_by omega

inductive UvErr where
  | eof            -- io.EOF: no byte at all
  | unexpectedEof  -- io.ErrUnexpectedEOF: input ends inside the varint
  | overflow       -- more than 64 bits
  deriving DecidableEq, Repr

/-- `binary.ReadUvarint` with `k` bytes still allowed (10 at the start).  `first` tells
    whether no byte has been consumed yet (io.EOF vs io.ErrUnexpectedEOF). -/
def readUvarintAux : Nat → Bool → Bytes → Except UvErr (Nat × Bytes)
  | 0, _, _ => .error .overflow
  | _ + 1, first, [] => .error (if first then .eof else .unexpectedEof)
  | k + 1, _, b :: bs =>
    if b.toNat < 128 then
      if k = 0 ∧ b.toNat > 1 then .error .overflow else .ok (b.toNat, bs)
    else
      match readUvarintAux k false bs with
      | .ok (v, r) => .ok (b.toNat - 128 + 128 * v, r)
      | .error e => .error e

/-- `binary.ReadUvarint(r)`: the decoded `uint64` and the unread rest. -/
def readUvarint (bs : Bytes) : Except UvErr (Nat × Bytes) := readUvarintAux 10 true bs

/-- Stated here (not in `Proofs/`) because the decoders' termination proofs need the progress it
    implies. -/
theorem readUvarintAux_ok : ∀ (k : Nat) (f : Bool) (bs : Bytes) (v : Nat) (r : Bytes),
    readUvarintAux k f bs = .ok (v, r) →
    ∃ p, bs = p ++ r ∧ 0 < p.length ∧ p.length ≤ k ∧ v < 2 * 128 ^ (k - 1) := by
  intro k
  induction k with
  | zero => intro f bs v r h; cases h
  | succ k ih =>
    intro f bs v r h
    cases bs with
    | nil => cases h
    | cons b bs =>
      rw [readUvarintAux] at h
      rw [Nat.add_sub_cancel]
      split at h
      · split at h
        · cases h
        · next hnot =>
          cases h
          refine ⟨[b], rfl, Nat.zero_lt_one, Nat.le_add_left 1 k, ?_⟩
          cases k with
          | zero => have : ¬ b.toNat > 1 := fun hc => hnot ⟨rfl, hc⟩; omega
          | succ k => have := Nat.pow_pos (n := k + 1) (show 0 < 128 by decide); omega
      · split at h
        · next v' r' heq =>
          obtain ⟨p, hp, _, hl, hv⟩ := ih false bs v' r' heq
          have := b.toNat_lt
          cases h
          refine ⟨b :: p, congrArg (b :: ·) hp, Nat.zero_lt_succ _, Nat.succ_le_succ hl, ?_⟩
          cases k with
          | zero => cases heq
          | succ k => rw [Nat.add_sub_cancel] at hv; rw [Nat.pow_succ]; omega
        · cases h

theorem readUvarint_progress (bs : Bytes) (v : Nat) (r : Bytes)
    (h : readUvarint bs = .ok (v, r)) : r.length < bs.length := by
  obtain ⟨p, rfl, hp, _⟩ := readUvarintAux_ok 10 true bs v r h
  rw [List.length_append]; omega

def two63 : Nat := 9223372036854775808
def two64 : Nat := 18446744073709551616

/-- Go's `int(u)` for `u : uint64` on a 64-bit platform (two's complement). -/
def asInt (u : Nat) : Int := if u % two64 < two63 then Int.ofNat (u % two64) else Int.ofNat (u % two64) - Int.ofNat two64

/-- Go's `uint64(i)` for `i : int`. -/
def asU64 (i : Int) : Nat := (i % (Int.ofNat two64)).toNat

/-- 64-bit wrap-around of an integer result (`int` arithmetic in Go never traps). -/
def wrapInt (i : Int) : Int := asInt (asU64 i)

/-- `readUvarintAsInt`. -/
def readUvarintAsInt (bs : Bytes) : Except UvErr (Int × Bytes) :=
  match readUvarint bs with
  | .ok (u, r) => .ok (asInt u, r)
  | .error e => .error e

theorem readUvarintAsInt_progress (bs : Bytes) (v : Int) (r : Bytes)
    (h : readUvarintAsInt bs = .ok (v, r)) : r.length < bs.length := by
  unfold readUvarintAsInt at h
  split at h
  · rename_i u r' heq
    cases h
    exact readUvarint_progress bs u _ heq
  · cases h

/-- `n ≤ l.length`, computed in `O(n)` (the remaining input can be long). -/
def hasLen : List α → Nat → Bool
  | _, 0 => true
  | [], _ + 1 => false
  | _ :: l, n + 1 => hasLen l n

theorem hasLen_iff : ∀ (l : List α) (n : Nat), hasLen l n = true ↔ n ≤ l.length
  | _, 0 => by simp [hasLen]
  | [], _ + 1 => by simp [hasLen]
  | _ :: l, n + 1 => by simp [hasLen, hasLen_iff l n]

end Zed.Zng

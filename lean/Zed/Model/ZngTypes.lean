import Zed.Model.ZngUvarint
import Zed.Generated.C01
/-!
  ZNG typedefs (`zio/zngio/types.go`): structural types, the per-stream local type context
  (`zed.Context` as used by `zngio.Encoder` / `zngio.Decoder.local`: complex types numbered
  from `IDTypeComplex` in the order they are first entered, looked up structurally), the
  typedef encoder and the typedef decoder.

  Not to be confused with the `Ty` model of C05: this file is self-contained.
-/
namespace Zed.Zng
open Zed.Generated.C01

mutual
inductive ZTy where
  | prim (id : Nat)
  | record (fs : ZFields)
  | array (t : ZTy)
  | set (t : ZTy)
  | map (k v : ZTy)
  | union (ts : ZTys)
  | enum (syms : List Bytes)
  | error (t : ZTy)
  | named (name : Bytes) (t : ZTy)
  deriving DecidableEq, Repr
inductive ZFields where
  | nil
  | cons (name : Bytes) (t : ZTy) (rest : ZFields)
  deriving DecidableEq, Repr
inductive ZTys where
  | nil
  | cons (t : ZTy) (rest : ZTys)
  deriving DecidableEq, Repr
end

instance : Inhabited ZTy := ⟨.prim 0⟩

def ZFields.toList : ZFields → List (Bytes × ZTy)
  | .nil => []
  | .cons n t r => (n, t) :: r.toList
def ZFields.ofList : List (Bytes × ZTy) → ZFields
  | [] => .nil
  | (n, t) :: r => .cons n t (ZFields.ofList r)
def ZTys.toList : ZTys → List ZTy
  | .nil => []
  | .cons t r => t :: r.toList
def ZTys.ofList : List ZTy → ZTys
  | [] => .nil
  | t :: r => .cons t (ZTys.ofList r)

theorem ZFields.ofList_toList : ∀ fs : ZFields, ZFields.ofList fs.toList = fs
  | .nil => rfl
  | .cons n t r => by simp [ZFields.toList, ZFields.ofList, ZFields.ofList_toList r]
theorem ZTys.ofList_toList : ∀ ts : ZTys, ZTys.ofList ts.toList = ts
  | .nil => rfl
  | .cons t r => by simp [ZTys.toList, ZTys.ofList, ZTys.ofList_toList r]

mutual
def ZTy.size : ZTy → Nat
  | .prim _ => 1
  | .record fs => 1 + fs.size
  | .array t => 1 + t.size
  | .set t => 1 + t.size
  | .map k v => 1 + k.size + v.size
  | .union ts => 1 + ts.size
  | .enum _ => 1
  | .error t => 1 + t.size
  | .named _ t => 1 + t.size
def ZFields.size : ZFields → Nat
  | .nil => 0
  | .cons _ t r => 1 + t.size + r.size
def ZTys.size : ZTys → Nat
  | .nil => 0
  | .cons t r => 1 + t.size + r.size
end

/-! ### The local type context -/

/-- Complex types in the order they were entered; the type at index `i` has id `30 + i`. -/
abbrev Ctx := List ZTy

def Ctx.find : Ctx → ZTy → Option Nat
  | [], _ => none
  | x :: xs, t => if x = t then some 0 else (Ctx.find xs t).map (· + 1)

/-- `Context.LookupType*`: the existing type if there is one, else a new id. -/
def Ctx.enter (ctx : Ctx) (t : ZTy) : Ctx × Nat :=
  match ctx.find t with
  | some i => (ctx, idTypeComplex + i)
  | none => (ctx ++ [t], idTypeComplex + ctx.length)

/-- `zed.TypeID` of (the internal copy of) `t` in `ctx`. -/
def Ctx.idOf (ctx : Ctx) : ZTy → Nat
  | .prim id => id
  | t => match ctx.find t with
    | some i => idTypeComplex + i
    | none => 0

/-- `Context.LookupType(id)` (`LookupPrimitiveByID` below `IDTypeComplex`). -/
def Ctx.typeOfId (ctx : Ctx) (id : Int) : Option ZTy :=
  if id < 0 then none
  else if id.toNat < idTypeComplex then
    (if primitiveIDs.contains id.toNat then some (.prim id.toNat) else none)
  else ctx[id.toNat - idTypeComplex]?

/-! ### `CompareTypes` and the union member order -/

def ZTy.under : ZTy → ZTy
  | .named _ t => t.under
  | t => t

def ZTy.kind : ZTy → Nat
  | .prim _ => primitiveKind
  | .record _ => recordKind
  | .array _ => arrayKind
  | .set _ => setKind
  | .map _ _ => mapKind
  | .union _ => unionKind
  | .enum _ => enumKind
  | .error _ => errorKind
  | .named _ t => t.kind

def cmpNat (a b : Nat) : Int := if a < b then -1 else if a > b then 1 else 0

/-- `strings.Compare` on byte strings. -/
def cmpBytes : Bytes → Bytes → Int
  | [], [] => 0
  | [], _ :: _ => -1
  | _ :: _, [] => 1
  | a :: as, b :: bs => if a < b then -1 else if a > b then 1 else cmpBytes as bs

/-- `zed.CompareTypes` on structural types of one context (`a.ID() == b.ID()` iff the
    types under the names are the same type).  Fuel: `a.size` always suffices. -/
def compareTypesF : Nat → ZTy → ZTy → Int
  | 0, _, _ => 0
  | fuel + 1, a, b =>
    if a.under = b.under then
      match a, b with
      | .named na ta, .named nb tb =>
        -- ordered by name, then by the types they name (repo commit 2f4e3fba9)
        let c := cmpBytes na nb
        if c ≠ 0 then c else compareTypesF fuel ta tb
      | .named _ _, _ => 1
      | _, .named _ _ => -1
      | _, _ => 0
    else if a.kind ≠ b.kind then cmpNat a.kind b.kind
    else
      let firstNZ (l : List Int) : Int := (l.find? (· ≠ 0)).getD 0
      match a.under, b.under with
      | .prim x, .prim y => cmpNat x y
      | .record fa, .record fb =>
        let la := fa.toList
        let lb := fb.toList
        if la.length ≠ lb.length then cmpNat la.length lb.length
        else
          let names := firstNZ ((la.zip lb).map fun (x, y) => cmpBytes x.1 y.1)
          if names ≠ 0 then names
          else firstNZ ((la.zip lb).map fun (x, y) => compareTypesF fuel x.2 y.2)
      | .array x, .array y => compareTypesF fuel x y
      | .set x, .set y => compareTypesF fuel x y
      | .map ka va, .map kb vb =>
        let c := compareTypesF fuel ka kb
        if c ≠ 0 then c else compareTypesF fuel va vb
      | .union ta, .union tb =>
        let la := ta.toList
        let lb := tb.toList
        if la.length ≠ lb.length then cmpNat la.length lb.length
        else firstNZ ((la.zip lb).map fun (x, y) => compareTypesF fuel x y)
      | .enum sa, .enum sb =>
        if sa.length ≠ sb.length then cmpNat sa.length sb.length
        else firstNZ ((sa.zip sb).map fun (x, y) => cmpBytes x y)
      | .error x, .error y => compareTypesF fuel x y
      | _, _ => 0

def compareTypes (a b : ZTy) : Int := compareTypesF (a.size + 1) a b

/-- Stable insertion: `x` goes before the first element that is not less than it …
    i.e. after every element `y` with `¬ (x < y)`; `x` originally precedes all of `l`. -/
def insertTy (x : ZTy) : List ZTy → List ZTy
  | [] => [x]
  | y :: ys => if compareTypes y x < 0 then y :: insertTy x ys else x :: y :: ys

/-- `sort.SliceStable(types, CompareTypes(i,j) < 0)` (`LookupTypeUnion`). -/
def sortTys : List ZTy → List ZTy
  | [] => []
  | x :: xs => insertTy x (sortTys xs)

/-- Adjacent members are in order (what `LookupTypeUnion` leaves behind). -/
def sortedTys : List ZTy → Bool
  | [] => true
  | [_] => true
  | x :: y :: r => !(decide (compareTypes y x < 0)) && sortedTys (y :: r)

/-! ### UTF-8 validity (`utf8.ValidString`) and primitive type names -/

def validUtf8 : Bytes → Bool
  | [] => true
  | b0 :: rest =>
    let cont (b : UInt8) : Bool := 0x80 ≤ b && b ≤ 0xBF
    if b0 < 0x80 then validUtf8 rest
    else if 0xC2 ≤ b0 && b0 ≤ 0xDF then
      match rest with
      | b1 :: r => cont b1 && validUtf8 r
      | _ => false
    else if 0xE0 ≤ b0 && b0 ≤ 0xEF then
      match rest with
      | b1 :: b2 :: r =>
        let lo : UInt8 := if b0 = 0xE0 then 0xA0 else 0x80
        let hi : UInt8 := if b0 = 0xED then 0x9F else 0xBF
        (lo ≤ b1 && b1 ≤ hi) && cont b2 && validUtf8 r
      | _ => false
    else if 0xF0 ≤ b0 && b0 ≤ 0xF4 then
      match rest with
      | b1 :: b2 :: b3 :: r =>
        let lo : UInt8 := if b0 = 0xF0 then 0x90 else 0x80
        let hi : UInt8 := if b0 = 0xF4 then 0x8F else 0xBF
        (lo ≤ b1 && b1 ≤ hi) && cont b2 && cont b3 && validUtf8 r
      | _ => false
    else false

/-- `Context.LookupTypeNamed` accepts the name. -/
def validTypeName (n : Bytes) : Bool := validUtf8 n && !(primitiveNameBytes.contains n)

def hasDup : List Bytes → Bool
  | [] => false
  | x :: xs => xs.contains x || hasDup xs

/-! ### Typedef encoder (`zngio.Encoder`) -/

structure EncSt where
  ctx : Ctx := []
  /-- `Encoder.encoded`: external type (context tag, structure) already encoded. -/
  cache : List (Nat × ZTy) := []
  /-- `Encoder.bytes`: typedefs not yet flushed. -/
  bytes : Bytes := []
  /-- every integer written so far fits in a Go `int` -/
  small : Bool := true
  deriving Repr

def EncSt.put (s : EncSt) (b : Bytes) : EncSt := { s with bytes := s.bytes ++ b }
def EncSt.putUv (s : EncSt) (n : Nat) : EncSt :=
  { s with bytes := s.bytes ++ uvarint n, small := s.small && decide (n < two63) }
def EncSt.putCounted (s : EncSt) (b : Bytes) : EncSt := (s.putUv b.length).put b

def putFields : List (Bytes × Nat) → EncSt → EncSt
  | [], s => s
  | (n, id) :: r, s => putFields r ((s.putCounted n).putUv id)
def putIds : List Nat → EncSt → EncSt
  | [], s => s
  | id :: r, s => putIds r (s.putUv id)
def putSyms : List Bytes → EncSt → EncSt
  | [], s => s
  | b :: r, s => putSyms r (s.putCounted b)

/-- finish one typedef: enter the type, remember the external type, return its id -/
def EncSt.finish (s : EncSt) (cid : Nat) (t : ZTy) : EncSt × Nat :=
  let (ctx', id) := s.ctx.enter t
  ({ s with ctx := ctx', cache := (cid, t) :: s.cache }, id)

mutual
/-- `Encoder.Encode`: returns the id of the internal type; emits typedefs for every
    external type not yet in `encoded` (children first). -/
def encTy (cid : Nat) : ZTy → EncSt → EncSt × Nat
  | .prim id, s => (s, id)
  | .record fs, s =>
    if s.cache.contains (cid, .record fs) then (s, s.ctx.idOf (.record fs)) else
    let (s1, ids) := encFields cid fs s
    let s2 := putFields ids ((s1.put [UInt8.ofNat typeDefRecord]).putUv ids.length)
    s2.finish cid (.record fs)
  | .array e, s =>
    if s.cache.contains (cid, .array e) then (s, s.ctx.idOf (.array e)) else
    let (s1, eid) := encTy cid e s
    ((s1.put [UInt8.ofNat typeDefArray]).putUv eid).finish cid (.array e)
  | .set e, s =>
    if s.cache.contains (cid, .set e) then (s, s.ctx.idOf (.set e)) else
    let (s1, eid) := encTy cid e s
    ((s1.put [UInt8.ofNat typeDefSet]).putUv eid).finish cid (.set e)
  | .map k v, s =>
    if s.cache.contains (cid, .map k v) then (s, s.ctx.idOf (.map k v)) else
    let (s1, kid) := encTy cid k s
    let (s2, vid) := encTy cid v s1
    (((s2.put [UInt8.ofNat typeDefMap]).putUv kid).putUv vid).finish cid (.map k v)
  | .union ts, s =>
    if s.cache.contains (cid, .union ts) then (s, s.ctx.idOf (.union ts)) else
    let (s1, ids) := encTys cid ts s
    (putIds ids ((s1.put [UInt8.ofNat typeDefUnion]).putUv ids.length)).finish cid (.union ts)
  | .enum syms, s =>
    if s.cache.contains (cid, .enum syms) then (s, s.ctx.idOf (.enum syms)) else
    (putSyms syms ((s.put [UInt8.ofNat typeDefEnum]).putUv syms.length)).finish cid (.enum syms)
  | .error e, s =>
    if s.cache.contains (cid, .error e) then (s, s.ctx.idOf (.error e)) else
    let (s1, eid) := encTy cid e s
    ((s1.put [UInt8.ofNat typeDefError]).putUv eid).finish cid (.error e)
  | .named n e, s =>
    if s.cache.contains (cid, .named n e) then (s, s.ctx.idOf (.named n e)) else
    let (s1, eid) := encTy cid e s
    (((s1.put [UInt8.ofNat typeDefName]).putCounted n).putUv eid).finish cid (.named n e)
def encFields (cid : Nat) : ZFields → EncSt → EncSt × List (Bytes × Nat)
  | .nil, s => (s, [])
  | .cons n t r, s =>
    let (s1, id) := encTy cid t s
    let (s2, rest) := encFields cid r s1
    (s2, (n, id) :: rest)
def encTys (cid : Nat) : ZTys → EncSt → EncSt × List Nat
  | .nil, s => (s, [])
  | .cons t r, s =>
    let (s1, id) := encTy cid t s
    let (s2, rest) := encTys cid r s1
    (s2, id :: rest)
end

/-! ### Typedef decoder (`zngio.Decoder`) -/

inductive DErr where
  | bad                    -- an ordinary error return
  | panic (site : String)  -- the Go code panics here
  deriving DecidableEq, Repr

/-- `readUvarintAsInt(b)`; any failure is `errBadFormat`. -/
def rdInt (bs : Bytes) : Except DErr (Int × Bytes) :=
  match readUvarintAsInt bs with
  | .ok x => .ok x
  | .error _ => .error .bad

/-- `Decoder.readCountedString`: a negative count is refused before `buffer.read(n)` (which
    slices `data[off:off+n]`) is reached. -/
def rdCounted (bs : Bytes) : Except DErr (Bytes × Bytes) :=
  match rdInt bs with
  | .error e => .error e
  | .ok (n, r) =>
    -- `err != nil || n < 0` → errBadFormat (the sign test: repo commit 0b09f99cc)
    if n < 0 then .error .bad
    else if !hasLen r n.toNat then .error .bad
    else .ok (r.take n.toNat, r.drop n.toNat)

/-- a type id followed by `LookupType` -/
def rdType (ctx : Ctx) (bs : Bytes) : Except DErr (ZTy × Bytes) :=
  match rdInt bs with
  | .error e => .error e
  | .ok (id, r) =>
    match ctx.typeOfId id with
    | some t => .ok (t, r)
    | none => .error .bad

/-- `for k := 0; k < n; k++ { readField }` -/
def rdFields (ctx : Ctx) : Nat → Bytes → Except DErr (List (Bytes × ZTy) × Bytes)
  | 0, bs => .ok ([], bs)
  | n + 1, bs =>
    match rdCounted bs with
    | .error e => .error e
    | .ok (name, r) =>
      match rdType ctx r with
      | .error e => .error e
      | .ok (t, r2) =>
        match rdFields ctx n r2 with
        | .error e => .error e
        | .ok (fs, r3) => .ok ((name, t) :: fs, r3)

def rdTypes (ctx : Ctx) : Nat → Bytes → Except DErr (List ZTy × Bytes)
  | 0, bs => .ok ([], bs)
  | n + 1, bs =>
    match rdType ctx bs with
    | .error e => .error e
    | .ok (t, r) =>
      match rdTypes ctx n r with
      | .error e => .error e
      | .ok (ts, r2) => .ok (t :: ts, r2)

def rdSyms : Nat → Bytes → Except DErr (List Bytes × Bytes)
  | 0, bs => .ok ([], bs)
  | n + 1, bs =>
    match rdCounted bs with
    | .error e => .error e
    | .ok (s, r) =>
      match rdSyms n r with
      | .error e => .error e
      | .ok (ss, r2) => .ok (s :: ss, r2)

def Reads {α : Type} (P : α → Bytes → Prop) : Except DErr (α × Bytes) → Prop
  | .ok (a, r) => P a r
  | .error e => e = .bad

section
variable {α : Type} {P : α → Bytes → Prop} {x : Except DErr (α × Bytes)}

theorem Reads.ok (h : Reads P x) {a : α} {r : Bytes} (hx : x = .ok (a, r)) : P a r := by
  subst hx; exact h

theorem Reads.error (h : Reads P x) {e : DErr} (hx : x = .error e) : e = .bad := by
  subst hx; exact h

end

theorem rdInt_reads {bs : Bytes} : Reads (fun _ r => r.length < bs.length) (rdInt bs) := by
  unfold rdInt
  split
  · next x hx => exact readUvarintAsInt_progress bs x.1 x.2 hx
  · rfl

/-- After a successful `rdInt` only the continuation on the shorter rest is left to look at;
    `rdCounted_then` and `rdType_then` are the same for the other two readers (a lemma generic in the
    payload type would not do: its `match` compiles to a matcher with one more argument and does not
    unify with these terms). -/
theorem rdInt_then {β : Type} {Q : β → Bytes → Prop} {bs : Bytes}
    {f : Int → Bytes → Except DErr (β × Bytes)} (h : ∀ n r, r.length < bs.length → Reads Q (f n r)) :
    Reads Q (match rdInt bs with | .error e => .error e | .ok (n, r) => f n r) := by
  split
  · next e he => exact rdInt_reads.error he
  · next n r he => exact h n r (rdInt_reads.ok he)

theorem rdCounted_reads {bs : Bytes} : Reads (fun _ r => r.length < bs.length) (rdCounted bs) := by
  unfold rdCounted
  refine rdInt_then fun n r hr => ?_
  split
  · rfl
  · split
    · rfl
    · show (r.drop n.toNat).length < bs.length
      rw [List.length_drop]; omega

theorem rdCounted_then {β : Type} {Q : β → Bytes → Prop} {bs : Bytes}
    {f : Bytes → Bytes → Except DErr (β × Bytes)} (h : ∀ s r, r.length < bs.length → Reads Q (f s r)) :
    Reads Q (match rdCounted bs with | .error e => .error e | .ok (s, r) => f s r) := by
  split
  · next e he => exact rdCounted_reads.error he
  · next s r he => exact h s r (rdCounted_reads.ok he)

theorem rdType_reads {ctx : Ctx} {bs : Bytes} :
    Reads (fun _ r => r.length < bs.length) (rdType ctx bs) := by
  unfold rdType
  refine rdInt_then fun id r hr => ?_
  split
  · exact hr
  · rfl

theorem rdType_then {β : Type} {Q : β → Bytes → Prop} {ctx : Ctx} {bs : Bytes}
    {f : ZTy → Bytes → Except DErr (β × Bytes)} (h : ∀ t r, r.length < bs.length → Reads Q (f t r)) :
    Reads Q (match rdType ctx bs with | .error e => .error e | .ok (t, r) => f t r) := by
  split
  · next e he => exact rdType_reads.error he
  · next t r he => exact h t r (rdType_reads.ok he)

/-- The loops consume input in proportion to their trip count: they cannot spin. -/
theorem rdFields_reads {ctx : Ctx} {n : Nat} {bs : Bytes} :
    Reads (fun fs r => r.length + 2 * n ≤ bs.length ∧ fs.length = n) (rdFields ctx n bs) := by
  induction n generalizing bs with
  | zero => exact ⟨Nat.le_refl _, rfl⟩
  | succ n ih =>
    rw [rdFields]
    refine rdCounted_then fun name r1 h1 => rdType_then fun t r2 h2 => ?_
    split
    · next e he => exact ih.error he
    · next fs r3 h3 =>
      have := ih.ok h3
      exact ⟨by omega, congrArg (· + 1) this.2⟩

theorem rdTypes_reads {ctx : Ctx} {n : Nat} {bs : Bytes} :
    Reads (fun ts r => r.length + n ≤ bs.length ∧ ts.length = n) (rdTypes ctx n bs) := by
  induction n generalizing bs with
  | zero => exact ⟨Nat.le_refl _, rfl⟩
  | succ n ih =>
    rw [rdTypes]
    refine rdType_then fun t r1 h1 => ?_
    split
    · next e he => exact ih.error he
    · next ts r2 h2 =>
      have := ih.ok h2
      exact ⟨by omega, congrArg (· + 1) this.2⟩

theorem rdSyms_reads {n : Nat} {bs : Bytes} :
    Reads (fun ss r => r.length + n ≤ bs.length ∧ ss.length = n) (rdSyms n bs) := by
  induction n generalizing bs with
  | zero => exact ⟨Nat.le_refl _, rfl⟩
  | succ n ih =>
    rw [rdSyms]
    refine rdCounted_then fun s r1 h1 => ?_
    split
    · next e he => exact ih.error he
    · next ss r2 h2 =>
      have := ih.ok h2
      exact ⟨by omega, congrArg (· + 1) this.2⟩

theorem rdFields_progress {ctx : Ctx} : ∀ {n : Nat} {bs r : Bytes} {fs : List (Bytes × ZTy)},
    rdFields ctx n bs = .ok (fs, r) → r.length + 2 * n ≤ bs.length ∧ fs.length = n :=
  rdFields_reads.ok

theorem rdTypes_progress {ctx : Ctx} : ∀ {n : Nat} {bs r : Bytes} {ts : List ZTy},
    rdTypes ctx n bs = .ok (ts, r) → r.length + n ≤ bs.length ∧ ts.length = n :=
  rdTypes_reads.ok

theorem rdSyms_progress : ∀ {n : Nat} {bs r : Bytes} {ss : List Bytes},
    rdSyms n bs = .ok (ss, r) → r.length + n ≤ bs.length ∧ ss.length = n :=
  rdSyms_reads.ok

/-- `Mapper.Enter` → `Context.TranslateType` → `DecodeTypeValue` refuses over-long
    records, unions and enums (`Max*`); everything else translates (C05). -/
def translatable : ZTy → Bool
  | .record fs => decide (fs.toList.length ≤ maxRecordFields)
  | .union ts => decide (ts.toList.length ≤ maxUnionTypes)
  | .enum syms => decide (syms.length ≤ maxEnumSymbols)
  | _ => true

/-- enter into the local context, then into the mapper -/
def enterLocal (ctx : Ctx) (t : ZTy) : Except DErr Ctx :=
  let ctx' := (ctx.enter t).1
  if translatable t then .ok ctx' else .error .bad

/-- The type one typedef denotes (after its code byte) and the unread rest. -/
def rdTypedef (ctx : Ctx) (code : Nat) (bs : Bytes) : Except DErr (ZTy × Bytes) :=
  if code = typeDefRecord then
    match rdInt bs with
    | .error e => .error e
    | .ok (n, r) =>
      match rdFields ctx n.toNat r with
      | .error e => .error e
      | .ok (fs, r2) =>
        if hasDup (fs.map (·.1)) then .error .bad else .ok (.record (ZFields.ofList fs), r2)
  else if code = typeDefArray then
    match rdType ctx bs with
    | .error e => .error e
    | .ok (t, r) => .ok (.array t, r)
  else if code = typeDefSet then
    match rdType ctx bs with
    | .error e => .error e
    | .ok (t, r) => .ok (.set t, r)
  else if code = typeDefMap then
    match rdType ctx bs with
    | .error e => .error e
    | .ok (k, r) =>
      match rdType ctx r with
      | .error e => .error e
      | .ok (v, r2) => .ok (.map k v, r2)
  else if code = typeDefUnion then
    match rdInt bs with
    | .error e => .error e
    | .ok (n, r) =>
      if n = 0 then .error .bad
      else match rdTypes ctx n.toNat r with
        | .error e => .error e
        | .ok (ts, r2) => .ok (.union (ZTys.ofList (sortTys ts)), r2)
  else if code = typeDefEnum then
    match rdInt bs with
    | .error e => .error e
    | .ok (n, r) =>
      match rdSyms n.toNat r with
      | .error e => .error e
      | .ok (ss, r2) => .ok (.enum ss, r2)
  else if code = typeDefName then
    match rdCounted bs with
    | .error e => .error e
    | .ok (name, r) =>
      match rdType ctx r with
      | .error e => .error e
      | .ok (t, r2) => if !validTypeName name then .error .bad else .ok (.named name t, r2)
  else if code = typeDefError then
    match rdType ctx bs with
    | .error e => .error e
    | .ok (t, r) => .ok (.error t, r)
  else .error .bad

theorem rdTypedef_reads {ctx : Ctx} {code : Nat} {bs : Bytes} :
    Reads (fun _ r => r.length < bs.length) (rdTypedef ctx code bs) := by
  have wrap (f : ZTy → ZTy) : Reads (fun _ r => r.length < bs.length)
      (match rdType ctx bs with | .error e => .error e | .ok (t, r) => .ok (f t, r)) :=
    rdType_then fun _ _ hr => hr
  unfold rdTypedef
  by_cases h : code = typeDefRecord
  · rw [if_pos h]
    refine rdInt_then fun n r1 h1 => ?_
    split
    · next e he => exact rdFields_reads.error he
    · next fs r2 h2 =>
      have := (rdFields_reads.ok h2).1
      split
      · rfl
      · show r2.length < bs.length; omega
  rw [if_neg h]
  by_cases h : code = typeDefArray
  · rw [if_pos h]; exact wrap _
  rw [if_neg h]
  by_cases h : code = typeDefSet
  · rw [if_pos h]; exact wrap _
  rw [if_neg h]
  by_cases h : code = typeDefMap
  · rw [if_pos h]
    refine rdType_then fun k r1 h1 => rdType_then fun v r2 h2 => ?_
    show r2.length < bs.length; omega
  rw [if_neg h]
  by_cases h : code = typeDefUnion
  · rw [if_pos h]
    refine rdInt_then fun n r1 h1 => ?_
    split
    · rfl
    · split
      · next e he => exact rdTypes_reads.error he
      · next ts r2 h2 =>
        have := (rdTypes_reads.ok h2).1
        show r2.length < bs.length; omega
  rw [if_neg h]
  by_cases h : code = typeDefEnum
  · rw [if_pos h]
    refine rdInt_then fun n r1 h1 => ?_
    split
    · next e he => exact rdSyms_reads.error he
    · next ss r2 h2 =>
      have := (rdSyms_reads.ok h2).1
      show r2.length < bs.length; omega
  rw [if_neg h]
  by_cases h : code = typeDefName
  · rw [if_pos h]
    refine rdCounted_then fun name r1 h1 => rdType_then fun t r2 h2 => ?_
    split
    · rfl
    · show r2.length < bs.length; omega
  rw [if_neg h]
  by_cases h : code = typeDefError
  · rw [if_pos h]; exact wrap _
  rw [if_neg h]
  rfl

/-- One typedef, after its code byte: the new context and the unread rest. -/
def decTypedef (ctx : Ctx) (code : Nat) (bs : Bytes) : Except DErr (Ctx × Bytes) :=
  match rdTypedef ctx code bs with
  | .error e => .error e
  | .ok (t, r) =>
    match enterLocal ctx t with
    | .error e => .error e
    | .ok c => .ok (c, r)

theorem decTypedef_reads {ctx : Ctx} {code : Nat} {bs : Bytes} :
    Reads (fun _ r => r.length < bs.length) (decTypedef ctx code bs) := by
  unfold decTypedef
  split
  · next e he => exact rdTypedef_reads.error he
  · next t r h1 =>
    split
    · next e he =>
      unfold enterLocal at he
      split at he
      · cases he
      · cases he; rfl
    · exact rdTypedef_reads.ok h1

theorem decTypedef_progress {ctx ctx' : Ctx} {code : Nat} {bs r : Bytes}
    (h : decTypedef ctx code bs = .ok (ctx', r)) : r.length ≤ bs.length :=
  Nat.le_of_lt (decTypedef_reads.ok h)

/-- `Decoder.decode`: typedefs until the buffer is empty.  Terminates because every
    iteration consumes the code byte. -/
def decTypedefs (ctx : Ctx) (bs : Bytes) : Except DErr Ctx :=
  match bs with
  | [] => .ok ctx
  | code :: rest =>
    match h : decTypedef ctx code.toNat rest with
    | .error e => .error e
    | .ok (ctx', r) =>
      have : r.length < (code :: rest).length := by
        have := decTypedef_progress h; simp; omega
      decTypedefs ctx' r
termination_by bs.length

theorem decTypedefs_nil (ctx : Ctx) : decTypedefs ctx [] = .ok ctx := by
  rw [decTypedefs]

theorem decTypedefs_cons {ctx ctx' : Ctx} {code : UInt8} {bs r : Bytes}
    (h : decTypedef ctx code.toNat bs = .ok (ctx', r)) :
    decTypedefs ctx (code :: bs) = decTypedefs ctx' r := by
  rw [decTypedefs]
  split
  · rename_i e he; rw [h] at he; cases he
  · rename_i c2 r2 he; rw [h] at he; cases he; rfl

theorem decTypedefs_no_panic {ctx : Ctx} {bs : Bytes} {s : String} :
    decTypedefs ctx bs ≠ .error (.panic s) := by
  fun_induction decTypedefs ctx bs with
  | case1 => nofun
  | case2 _ _ _ e he => rw [decTypedef_reads.error he]; nofun
  | case3 _ _ _ _ _ _ _ ih => exact ih

end Zed.Zng

/-
  Comparators as Boolean `≤` relations (shared by the C10 / C08 models).
  `expr.Comparator.Compare` / `expr.CompareFn` return -1/0/+1; the model uses
  `le a b := Compare(a, b) ≤ 0`.  That the real comparator is a total preorder is C06's
  subject; here it is a hypothesis of the theorems.
-/
namespace Zed.Agg

structure TotalPreorder {α : Type} (le : α → α → Bool) : Prop where
  total : ∀ a b, le a b = true ∨ le b a = true
  trans : ∀ a b c, le a b = true → le b c = true → le a c = true

theorem TotalPreorder.refl {α : Type} {le : α → α → Bool} (h : TotalPreorder le) (a : α) : le a a = true := by
  rcases h.total a a with h | h <;> exact h

theorem TotalPreorder.total_or {α : Type} {le : α → α → Bool} (h : TotalPreorder le) (a b : α) :
    (le a b || le b a) = true :=
  Bool.or_eq_true_iff.2 (h.total a b)

theorem TotalPreorder.comap {α β : Type} {le : α → α → Bool} (h : TotalPreorder le) (f : β → α) :
    TotalPreorder (fun a b => le (f a) (f b)) :=
  ⟨fun a b => h.total (f a) (f b), fun a b c => h.trans (f a) (f b) (f c)⟩

theorem TotalPreorder.flip {α : Type} {le : α → α → Bool} (h : TotalPreorder le) :
    TotalPreorder (fun a b => le b a) :=
  ⟨fun a b => (h.total a b).symm, fun a b c hba hcb => h.trans c b a hcb hba⟩

theorem intLe_totalPreorder : TotalPreorder (fun (a b : Int) => decide (a ≤ b)) :=
  ⟨fun a b => by simp only [decide_eq_true_eq]; exact Int.le_total a b,
   fun a b c => by simp only [decide_eq_true_eq]; exact Int.le_trans⟩

end Zed.Agg

/-
  C04 — the buffer filter pushed into the ZNG scanner and its compiler.

  Anchors: compiler/kernel/bufferfilter.go (CompileBufferFilter, isFieldEqualOrIn,
  newBufferFilterForLiteral), runtime/sam/expr/bufferfilter.go (BufferFilter.Eval and the
  constructors' "unprofitable pattern" rules), runtime/sam/expr/fieldnamefinder.go
  (FieldNameFinder.Find), pkg/stringsearch (Finder / CaseFinder: Boyer–Moore, modelled as
  "the pattern occurs"), zio/zngio/scanner.go (worker.scanBatch: a frame whose buffer filter
  is false is dropped unread).

  The filter expression is the model DAG expression of `Zed.Opt`; literals are resolved through
  a table (ZSON text ↦ type and value), which the harness fills with the real ZSON parser.
-/
import Zed.Model.OptDag
import Zed.Model.BfEval
namespace Zed.Bf
open Zed.Opt (Expr Path)

inductive BufFilter where
  | and (l r : BufFilter)
  | or (l r : BufFilter)
  | fieldName (pat : Bytes)
  | stringCase (pat : Bytes)
  | string (pat : Bytes)
  deriving Repr, DecidableEq

/-- a parsed literal: its type, its value, and the NFC bytes when it is a string. -/
structure Lit where
  ty : Ty
  val : Val
  deriving Repr, DecidableEq

abbrev Lits := String → Option Lit

def pathBytes (p : Path) : List Bytes := p.map fun s => s.toUTF8.toList

def primBytes : Val → Bytes
  | .prim b => b
  | _ => []

/-- `NewBufferFilterForString`: patterns shorter than 2 bytes are unprofitable. -/
def forString (pat : Bytes) : Option BufFilter := if pat.length < 2 then none else some (.string pat)

/-- `NewBufferFilterForStringCase`: additionally all-ASCII. -/
def forStringCase (pat : Bytes) : Option BufFilter :=
  if pat.length < 2 then none else if isAscii pat then some (.stringCase pat) else none

/-- `newBufferFilterForLiteral`: numbers and null have no useful byte pattern; otherwise the
    complete tagged value. -/
def forLiteral (l : Lit) : Option BufFilter :=
  match under l.ty with
  | .prim id => if isNumberId id || id == idNull then none else forString (enc l.val)
  | _ => forString (enc l.val)

/-- `isFieldEqualOrIn`: `this.path == literal` or `literal in this.path`; the outer option is
    "the shape matched". -/
def fieldEqualOrIn (lits : Lits) (op : String) (l r : Expr) : Option Lit :=
  match l, r with
  | .this _, .lit v => if op == "==" then lits v else none
  | .lit v, .this _ =>
    if op == "in" then
      match lits v with
      | some lit => if lit.ty == .prim idNet then none else some lit
      | none => none
    else none
  | _, _ => none

/-- `CompileBufferFilter`; `none` = no useful filter (every frame is read). -/
def compile (lits : Lits) : Expr → Option BufFilter
  | .bin op l r =>
    match fieldEqualOrIn lits op l r with
    | some lit => forLiteral lit
    | none =>
      if op == "and" then
        match compile lits l, compile lits r with
        | none, x => x
        | x, none => x
        | some a, some b => some (.and a b)
      else if op == "or" then
        match compile lits l, compile lits r with
        | some a, some b => some (.or a b)
        | _, _ => none
      else none
  | .search text value (.this _) =>
    match lits value with
    | none => none
    | some lit =>
      match under lit.ty with
      | .prim id =>
        if id == idNet then none
        else if id == idString then
          match forStringCase (primBytes lit.val) with
          | none => none
          | some left => some (.or left (.fieldName (primBytes lit.val)))
        else
          match forStringCase text.toUTF8.toList, forLiteral lit with
          | some left, some right => some (.or left right)
          | _, _ => none
      | _ => none      -- the evaluator has no comparison for such a literal: the program does not compile
  -- a search over a computed operand has no buffer filter: the term need not occur in the frame
  | _ => none

/-- the local type context of a stream segment: type id ↦ type. -/
abbrev Ctx := Nat → Option Ty

/-- `FieldNameFinder.Find` over the messages of a frame: true for a non-record value, for an
    unknown type id, and when a leaf name of a record type inside the value's type contains the
    pattern. -/
def fieldNameFind (ctx : Ctx) (pat : Bytes) : List (Nat × Val) → Bool
  | [] => false
  | (id, _) :: r =>
    (match ctx id with
     | none => true
     | some t =>
       match under t with
       | .record fs => matchType pat (.record fs)
       | _ => true) || fieldNameFind ctx pat r

def byteEq (a b : UInt8) : Bool := a == b

/-- `BufferFilter.Eval` on a frame (given both as messages and as its bytes). -/
def BufFilter.eval (ctx : Ctx) (frame : List (Nat × Val)) (bytes : Bytes) : BufFilter → Bool
  | .and l r => l.eval ctx frame bytes && r.eval ctx frame bytes
  | .or l r => l.eval ctx frame bytes || r.eval ctx frame bytes
  | .fieldName pat => fieldNameFind ctx pat frame
  | .stringCase pat => findBy foldEq (pat.map lowerAscii) bytes
  | .string pat => findBy byteEq pat bytes

/-- `scanBatch`: the frame is read iff there is no buffer filter or it says true. -/
def bufferFilter (ctx : Ctx) (bf : Option BufFilter) (frame : List (Nat × Val)) : Bool :=
  match bf with
  | none => true
  | some f => f.eval ctx frame (encFrame frame)

/-! ## the filter itself on one value (the subset that has a push-down) -/

/-- result of a predicate as far as "is it Bool true" goes: true, false, error("missing"),
    any other error (incl. a non-boolean result). -/
inductive Tri where
  | tt | ff | miss | err
  deriving DecidableEq, Repr

/-- `And.Eval`. -/
def Tri.and : Tri → Tri → Tri
  | .tt, b => b
  | .ff, _ => .ff
  | .miss, _ => .miss
  | .err, _ => .err

/-- `Or.Eval`: a true left operand wins, a non-missing error is returned at once, otherwise
    (false or missing) the result is the right operand. -/
def Tri.or : Tri → Tri → Tri
  | .tt, _ => .tt
  | .err, _ => .err
  | _, b => b

/-- `Not.Eval`. -/
def Tri.not : Tri → Tri
  | .tt => .ff
  | .ff => .tt
  | r => r

def ofBool (b : Bool) : Tri := if b then .tt else .ff

/-- What is not modelled (comparisons with numbers, regular expressions, function calls…) is a
    parameter. -/
abbrev Atoms := Expr → Ty → Val → Tri

def missingBytes : Bytes := [109, 105, 115, 115, 105, 110, 103]   -- "missing"

/-- an operand that is an error value: `error("missing")` or any other error. -/
def errOperand (t : Ty) (v : Val) : Option Tri :=
  match under t with
  | .error et => if under et == .prim idString && v == .prim missingBytes then some .miss else some .err
  | _ => none

/-- evaluate a field operand and continue with `k`; a missing field or an error-valued operand
    is the result (`numeric.eval`, `In.Eval`: an error operand is returned as is). -/
def withField (t : Ty) (v : Val) (p : List Bytes) (k : Ty → Val → Tri) : Tri :=
  match getPath t v p with
  | none => .miss
  | some (ft, fv) =>
    match errOperand ft fv with
    | some e => e
    | none => k ft fv

/-- the operand of a search: a missing field or an error value makes the search false. -/
def withSearched (t : Ty) (v : Val) (p : List Bytes) (k : Ty → Val → Tri) : Tri :=
  match getPath t v p with
  | none => .ff
  | some (ft, fv) =>
    match errOperand ft fv with
    | some _ => .ff
    | none => k ft fv

def evalFilter (lits : Lits) (atoms : Atoms) : Expr → Ty → Val → Tri
  | .bin op l r, t, v =>
    if op == "and" then (evalFilter lits atoms l t v).and (evalFilter lits atoms r t v)
    else if op == "or" then (evalFilter lits atoms l t v).or (evalFilter lits atoms r t v)
    else
      match op, l, r with
      | "==", .this p, .lit lv =>
        match lits lv with
        | some lit =>
          (match under lit.ty with
           | .prim id =>
             if isNumberId id || id == idNull then atoms (.bin op l r) t v
             else withField t v (pathBytes p) fun ft fv => ofBool (litEq lit.ty lit.val ft fv)
           | _ => withField t v (pathBytes p) fun ft fv => ofBool (litEq lit.ty lit.val ft fv))
        | none => atoms (.bin op l r) t v
      | "in", .lit lv, .this p =>
        match lits lv with
        | some lit =>
          (match under lit.ty with
           | .prim id =>
             if isNumberId id || id == idNull then atoms (.bin op l r) t v
             else withField t v (pathBytes p) fun ft fv => ofBool (inEval lit.ty lit.val ft fv)
           | _ => withField t v (pathBytes p) fun ft fv => ofBool (inEval lit.ty lit.val ft fv))
        | none => atoms (.bin op l r) t v
      | _, _, _ => atoms (.bin op l r) t v
  | .un op a, t, v => if op == "!" then (evalFilter lits atoms a t v).not else atoms (.un op a) t v
  | .search text value e, t, v =>
    match lits value, e with
    | some lit, .this p =>
      withSearched t v (pathBytes p) fun ft fv =>
        match under lit.ty with
        | .prim id =>
          if id == idNet then atoms (.search text value e) t v
          else if id == idString then ofBool (searchStringEval (primBytes lit.val) ft fv)
          else if isNumberId id then atoms (.search text value e) t v
          else ofBool (searchLitEval text.toUTF8.toList lit.ty lit.val ft fv)
        | _ => atoms (.search text value e) t v
    | _, _ => atoms (.search text value e) t v
  | e, t, v => atoms e t v

theorem forString_some {pat : Bytes} {bf : BufFilter} (h : forString pat = some bf) :
    bf = .string pat := by
  unfold forString at h; split at h <;> simp_all

theorem forStringCase_some {pat : Bytes} {bf : BufFilter} (h : forStringCase pat = some bf) :
    bf = .stringCase pat := by
  unfold forStringCase at h
  split at h
  · cases h
  · split at h
    · exact (Option.some.inj h).symm
    · cases h

theorem forLiteral_some {lit : Lit} {bf : BufFilter} (h : forLiteral lit = some bf) :
    bf = .string (enc lit.val) ∧
      ∀ id, under lit.ty = .prim id → (isNumberId id || id == idNull) = false := by
  unfold forLiteral at h
  split at h
  · rename_i id hu
    split at h
    · cases h
    · rename_i hn
      refine ⟨forString_some h, fun id' hid => ?_⟩
      rw [hu] at hid; cases hid; simpa using hn
  · rename_i hu
    exact ⟨forString_some h, fun id hid => absurd hid (hu id)⟩

/-- `field == literal` for a literal that `forLiteral` accepts (no number, not null). -/
theorem evalFilter_eq {lits : Lits} {atoms : Atoms} {p : Path} {lv : String} {lit : Lit} (t : Ty) (v : Val)
    (hl : lits lv = some lit)
    (hn : ∀ id, under lit.ty = .prim id → (isNumberId id || id == idNull) = false) :
    evalFilter lits atoms (.bin "==" (.this p) (.lit lv)) t v =
      withField t v (pathBytes p) fun ft fv => ofBool (litEq lit.ty lit.val ft fv) := by
  simp only [evalFilter, hl]
  rw [if_neg (by decide), if_neg (by decide)]
  split
  · rename_i id hu
    rw [if_neg (by simp [hn id hu])]
  · rfl

theorem evalFilter_in {lits : Lits} {atoms : Atoms} {p : Path} {lv : String} {lit : Lit} (t : Ty) (v : Val)
    (hl : lits lv = some lit)
    (hn : ∀ id, under lit.ty = .prim id → (isNumberId id || id == idNull) = false) :
    evalFilter lits atoms (.bin "in" (.lit lv) (.this p)) t v =
      withField t v (pathBytes p) fun ft fv => ofBool (inEval lit.ty lit.val ft fv) := by
  simp only [evalFilter, hl]
  rw [if_neg (by decide), if_neg (by decide)]
  split
  · rename_i id hu
    rw [if_neg (by simp [hn id hu])]
  · rfl

theorem evalFilter_search_string {lits : Lits} {atoms : Atoms} {text value : String} {p : Path}
    {lit : Lit} {id : Nat} (t : Ty) (v : Val) (hl : lits value = some lit)
    (hu : under lit.ty = .prim id) (hnet : ¬(id == idNet) = true) (hstr : (id == idString) = true) :
    evalFilter lits atoms (.search text value (.this p)) t v =
      withSearched t v (pathBytes p) fun ft fv =>
        ofBool (searchStringEval (primBytes lit.val) ft fv) := by
  simp only [evalFilter, hl, hu, hnet, hstr, Bool.false_eq_true, if_true, if_false]

theorem evalFilter_search_lit {lits : Lits} {atoms : Atoms} {text value : String} {p : Path}
    {lit : Lit} {id : Nat} (t : Ty) (v : Val) (hl : lits value = some lit)
    (hu : under lit.ty = .prim id) (hnet : ¬(id == idNet) = true) (hstr : ¬(id == idString) = true)
    (hnum : isNumberId id = false) :
    evalFilter lits atoms (.search text value (.this p)) t v =
      withSearched t v (pathBytes p) fun ft fv =>
        ofBool (searchLitEval text.toUTF8.toList lit.ty lit.val ft fv) := by
  simp only [evalFilter, hl, hu, hnet, hstr, hnum, Bool.false_eq_true, if_false]

theorem Tri.and_eq_tt {a b : Tri} (h : a.and b = .tt) : a = .tt ∧ b = .tt := by
  cases a <;> cases b <;> simp_all [Tri.and]

theorem Tri.or_eq_tt {a b : Tri} (h : a.or b = .tt) : a = .tt ∨ b = .tt := by
  cases a <;> cases b <;> simp_all [Tri.or]

theorem ofBool_eq_tt {b : Bool} (h : ofBool b = .tt) : b = true := by
  cases b <;> simp_all [ofBool]

theorem errOperand_ne_tt (t : Ty) (v : Val) : errOperand t v ≠ some .tt := by
  unfold errOperand
  split
  · split <;> exact fun h => nomatch h
  · exact fun h => nomatch h

theorem withField_tt {t : Ty} {v : Val} {p : List Bytes} {k : Ty → Val → Tri}
    (h : withField t v p k = .tt) : ∃ ft fv, getPath t v p = some (ft, fv) ∧ k ft fv = .tt := by
  unfold withField at h
  split at h
  · cases h
  · rename_i ft fv hg
    split at h
    · rename_i e he
      exact absurd (h ▸ he) (errOperand_ne_tt ft fv)
    · exact ⟨ft, fv, hg, h⟩

theorem withSearched_tt {t : Ty} {v : Val} {p : List Bytes} {k : Ty → Val → Tri}
    (h : withSearched t v p k = .tt) : ∃ ft fv, getPath t v p = some (ft, fv) ∧ k ft fv = .tt := by
  unfold withSearched at h
  split at h
  · cases h
  · rename_i ft fv hg
    split at h
    · cases h
    · exact ⟨ft, fv, hg, h⟩

end Zed.Bf

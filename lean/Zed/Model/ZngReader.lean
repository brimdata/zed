import Zed.Model.ZngZcode
import Zed.Model.ZngTypes
import Zed.Model.ZngValidate
/-!
  The ZNG parser and value decoder (`zio/zngio/parser.go`, `types.go`, `scanner.go
  decodeVal/scanBatch`, `pkg/peeker`) as one **total** function from bytes to
  (values delivered, allocation requests, how the stream ended).  Every bound check of the
  Go code is here; where the Go code has none and panics, the model returns the panic site.
  LZ4 is a parameter `decomp zbytes size` (`none` = UncompressBlock fails or yields a
  different size).

  Sequential semantics: what `Reader.Read` delivers before it returns `nil`/an error.  The
  threaded scanner delivers the same sequence (`ZngScanner`, `scanner_order`).
-/
namespace Zed.Zng
open Zed.Generated.C01

structure ROpts where
  /-- `ReaderOpts.Max` (`parser.maxSize` and the peeker's limit) -/
  maxSize : Nat
  validate : Bool

inductive Outcome where
  | eof                    -- clean end of input
  | err                    -- an error is returned
  | panic (site : String)  -- the Go code panics (escapes unless the caller recovers)
  deriving DecidableEq, Repr

structure RVal where
  ty : ZTy
  body : Option Bytes
  deriving DecidableEq, Repr

structure RRes where
  vals : List RVal
  /-- buffer sizes requested from the allocator / buffer pool, in order -/
  allocs : List Nat
  out : Outcome
  deriving Repr

/-! ### peeker -/

inductive PeekRes where
  | ok (b rest : Bytes)
  | eof
  | err

/-- `peeker.Reader.Read(n)` at a point where the parser is still running (so the peeker has
    not yet seen EOF): negative → error; more than the limit → ErrBufferOverflow; nothing
    left → io.EOF; fewer than `n` left → ErrTruncated. -/
def peekRead (limit : Nat) (n : Int) (bs : Bytes) : PeekRes :=
  if n < 0 then .err
  else if n.toNat ≤ limit ∧ hasLen bs n.toNat then .ok (bs.take n.toNat) (bs.drop n.toNat)
  else if n.toNat > limit then .err
  else if bs.isEmpty then .eof
  else .err

/-! ### values frame: `scanBatch` / `decodeVal` -/

inductive ValRes where
  | ok (v : RVal) (rest : Bytes)
  | err
  | panic (site : String)
  deriving DecidableEq

/-- `buffer.read(n)` for `n > 0`; `io.EOF` (nothing left at all) is let through with
    `b = nil`, a negative `n` (null tag, or a length ≥ 2^63) leaves `b = nil`. -/
def readBody (n : Int) (r : Bytes) : Option (Option Bytes × Bytes) :=
  if n = 0 then some (some [], r)
  else if n < 0 then some (none, r)
  else if hasLen r n.toNat then some (some (r.take n.toNat), r.drop n.toNat)
  else if r.isEmpty then some (none, r)
  else none

theorem readBody_le {n : Int} {r r' : Bytes} {b : Option Bytes} (h : readBody n r = some (b, r')) :
    r'.length ≤ r.length := by
  unfold readBody at h
  by_cases h0 : n = 0
  · rw [if_pos h0] at h; cases h; exact Nat.le_refl _
  rw [if_neg h0] at h
  by_cases h1 : n < 0
  · rw [if_pos h1] at h; cases h; exact Nat.le_refl _
  rw [if_neg h1] at h
  by_cases h2 : hasLen r n.toNat = true
  · rw [if_pos h2] at h; cases h; rw [List.length_drop]; exact Nat.sub_le _ _
  rw [if_neg h2] at h
  by_cases h3 : r.isEmpty = true
  · rw [if_pos h3] at h; cases h; exact Nat.le_refl _
  · rw [if_neg h3] at h; cases h

def decodeVal (o : ROpts) (ctx : Ctx) (bs : Bytes) : ValRes :=
  match readUvarintAsInt bs with
  | .error _ => .err
  | .ok (id, r1) =>
    match readUvarint r1 with            -- zcode.ReadTag
    | .error _ => .err
    | .ok (tag, r2) =>
      match readBody (if tag = tagNull then -1 else asInt (tagLength tag)) r2 with
      | none => .err
      | some (b, r3) =>
        -- `MapperLookupCache.Lookup` returns nil for a negative id (repo commit 0b09f99cc)
        if id < 0 then .err
        else match ctx.typeOfId id with
          | none => .err
          | some t =>
            if o.validate && !validate t b then .err else .ok ⟨t, b⟩ r3

def ValRes.Safe (bs : Bytes) : ValRes → Prop
  | .ok _ r => r.length < bs.length
  | .err => True
  | .panic _ => False

theorem decodeVal_safe {o : ROpts} {ctx : Ctx} {bs : Bytes} : (decodeVal o ctx bs).Safe bs := by
  unfold decodeVal
  split
  · trivial
  · next id r1 h1 =>
    have p1 := readUvarintAsInt_progress bs id r1 h1
    split
    · trivial
    · next tag r2 h2 =>
      have p2 := readUvarint_progress r1 tag r2 h2
      split
      · trivial
      · next b r3 hb =>
        have p3 := readBody_le hb
        split
        · trivial
        · split
          · trivial
          · split
            · trivial
            · show r3.length < bs.length; omega

theorem decodeVal_progress {o : ROpts} {ctx : Ctx} {bs r : Bytes} {v : RVal}
    (h : decodeVal o ctx bs = .ok v r) : r.length < bs.length := by
  have := @decodeVal_safe o ctx bs; rwa [h] at this

/-- `scanBatch`: decode values until the buffer is empty; any error drops the whole frame. -/
def decodeVals (o : ROpts) (ctx : Ctx) (bs : Bytes) : Except Outcome (List RVal) :=
  if bs.isEmpty then .ok []
  else
    match h : decodeVal o ctx bs with
    | .err => .error .err
    | .panic s => .error (.panic s)
    | .ok v r =>
      have : r.length < bs.length := decodeVal_progress h
      match decodeVals o ctx r with
      | .ok vs => .ok (v :: vs)
      | .error e => .error e
termination_by bs.length

theorem decodeVals_nil {o : ROpts} {ctx : Ctx} {bs : Bytes} (h : bs.isEmpty = true) : decodeVals o ctx bs = .ok [] := by
  rw [decodeVals, if_pos h]

theorem decodeVals_of_ok {o : ROpts} {ctx : Ctx} {bs r : Bytes} {v : RVal}
    (h : decodeVal o ctx bs = .ok v r) :
    decodeVals o ctx bs = (match decodeVals o ctx r with | .ok vs => .ok (v :: vs) | .error e => .error e) := by
  have hne : ¬ bs.isEmpty = true := by
    have := decodeVal_progress h
    cases bs with
    | nil => exact absurd this (Nat.not_lt_zero _)
    | cons => exact Bool.false_ne_true
  rw [decodeVals, if_neg hne]
  split
  · next he => rw [h] at he; cases he
  · next he => rw [h] at he; cases he
  · next he => rw [h] at he; cases he; rfl

theorem decodeVals_of_err {o : ROpts} {ctx : Ctx} {bs : Bytes} (hne : bs.isEmpty = false)
    (h : decodeVal o ctx bs = .err) : decodeVals o ctx bs = .error .err := by
  rw [decodeVals, if_neg (by rw [hne]; exact Bool.false_ne_true)]
  split
  · rfl
  · next he => rw [h] at he; cases he
  · next he => rw [h] at he; cases he

theorem decodeVals_no_panic {o : ROpts} {ctx : Ctx} {bs : Bytes} {s : String} :
    decodeVals o ctx bs ≠ .error (.panic s) := by
  fun_induction decodeVals o ctx bs with
  | case1 => nofun
  | case2 => nofun
  | case3 bs _ s' hd => have := @decodeVal_safe o ctx bs; rw [hd] at this; exact this.elim
  | case4 => nofun
  | case5 bs _ v r _ _ e he ih => exact he ▸ ih

/-! ### frames: `parser.read` -/

/-- `parser.decodeLength`: `(v << 4) | (code & 0xf)` in 64-bit `int` arithmetic. -/
def frameLen (code : Nat) (bs : Bytes) : Except Outcome (Int × Bytes) :=
  match readUvarint bs with
  | .error .eof => .error .eof
  | .error _ => .error .err
  | .ok (u, r) => .ok (asInt (decodeLengthExpr u code), r)

theorem frameLen_progress {code : Nat} {bs r : Bytes} {n : Int} (h : frameLen code bs = .ok (n, r)) :
    r.length < bs.length := by
  unfold frameLen at h
  split at h
  · cases h
  · cases h
  · rename_i u r' heq; cases h; exact readUvarint_progress bs u _ heq

theorem frameLen_error {code : Nat} {bs : Bytes} {e : Outcome} (h : frameLen code bs = .error e) :
    ∀ s, e ≠ .panic s := by
  unfold frameLen at h
  split at h <;> cases h <;> nofun

/-- what a frame reader hands on: payload (already decompressed), rest, allocation requests -/
inductive FrameRes where
  | ok (payload rest : Bytes) (allocs : List Nat)
  | stop (o : Outcome) (allocs : List Nat)

/-- `parser.readFrame` (uncompressed). -/
def readPlainFrame (o : ROpts) (code : Nat) (bs : Bytes) : FrameRes :=
  match frameLen code bs with
  | .error e => .stop e []
  | .ok (size, r) =>
    if size > Int.ofNat o.maxSize then .stop .err []
    else match peekRead o.maxSize size r with
      | .ok b rest => .ok b rest [size.toNat]
      | .eof => .stop .eof []
      | .err => .stop .err []

theorem peekRead_ok {limit : Nat} {n : Int} {bs b rest : Bytes} (h : peekRead limit n bs = .ok b rest) :
    0 ≤ n ∧ b.length = n.toNat ∧ n.toNat ≤ limit ∧ rest.length ≤ bs.length := by
  unfold peekRead at h
  by_cases hn : n < 0
  · rw [if_pos hn] at h; cases h
  rw [if_neg hn] at h
  by_cases hc : n.toNat ≤ limit ∧ hasLen bs n.toNat = true
  · rw [if_pos hc] at h
    cases h
    have := (hasLen_iff bs n.toNat).mp hc.2
    simp only [List.length_take, List.length_drop]
    omega
  · rw [if_neg hc] at h
    split at h
    · cases h
    · split at h <;> cases h

def FrameRes.Safe (o : ROpts) (bs : Bytes) : FrameRes → Prop
  | .ok p rest al => rest.length < bs.length ∧ p.length ≤ o.maxSize ∧ ∀ a ∈ al, a ≤ o.maxSize
  | .stop e al => (∀ s, e ≠ .panic s) ∧ ∀ a ∈ al, a ≤ o.maxSize

theorem FrameRes.Safe.ok {o : ROpts} {bs p rest : Bytes} {al : List Nat} {x : FrameRes}
    (h : x.Safe o bs) (hx : x = .ok p rest al) :
    rest.length < bs.length ∧ p.length ≤ o.maxSize ∧ ∀ a ∈ al, a ≤ o.maxSize := by
  subst hx; exact h

theorem FrameRes.Safe.stop {o : ROpts} {bs : Bytes} {e : Outcome} {al : List Nat} {x : FrameRes}
    (h : x.Safe o bs) (hx : x = .stop e al) : (∀ s, e ≠ .panic s) ∧ ∀ a ∈ al, a ≤ o.maxSize := by
  subst hx; exact h

theorem readPlainFrame_safe {o : ROpts} {code : Nat} {bs : Bytes} :
    (readPlainFrame o code bs).Safe o bs := by
  unfold readPlainFrame
  split
  · next e he => exact ⟨frameLen_error he, nofun⟩
  · next size r hl =>
    have := frameLen_progress hl
    split
    · exact ⟨nofun, nofun⟩
    · split
      · next b rest hp =>
        have := peekRead_ok hp
        exact ⟨by omega, by omega, List.forall_mem_singleton.mpr (by omega)⟩
      · exact ⟨nofun, nofun⟩
      · exact ⟨nofun, nofun⟩

/-- what `parser.readCompressedFrame` returns (before decompression) -/
inductive CompRes where
  | ok (format : UInt8) (z : Bytes) (size : Int) (rest : Bytes)
  | stop (o : Outcome)

/-- `parser.readCompressedFrame`: length, format byte, declared uncompressed size, payload. -/
def readCompHeader (o : ROpts) (code : Nat) (bs : Bytes) : CompRes :=
  match frameLen code bs with
  | .error e => .stop e
  | .ok (n, r) =>
    match r with
    | [] => .stop .eof                       -- format byte: io.EOF
    | format :: r1 =>
      match readUvarint r1 with
      | .error .eof => .stop .eof
      | .error _ => .stop .err
      | .ok (usize, r2) =>
        let size := asInt usize
        -- `size < 0 || size > p.maxSize` (the sign test: repo commit 0b09f99cc)
        if size < 0 ∨ size > Int.ofNat o.maxSize then .stop .err
        else
          -- io.EOF from the peeker is let through with an empty compressed buffer
          match peekRead o.maxSize (wrapInt (n - (Int.ofNat (readCompExtra usize)))) r2 with
          | .ok b rest => .ok format b size rest
          | .eof => .ok format [] size r2
          | .err => .stop .err

/-- `parser.readCompressedFrame` followed by `frame.decompress`. -/
def readCompFrame (o : ROpts) (decomp : Bytes → Nat → Option Bytes) (code : Nat) (bs : Bytes) : FrameRes :=
  match readCompHeader o code bs with
  | .stop e => .stop e []
  | .ok format z size rest =>
    if format.toNat ≠ compressionFormatLZ4 then .stop .err [z.length, size.toNat]
    else match decomp z size.toNat with
      | none => .stop .err [z.length, size.toNat]
      | some ub => if ub.length ≠ size.toNat then .stop .err [z.length, size.toNat]
                   else .ok ub rest [z.length, size.toNat]

def readFrame (o : ROpts) (decomp : Bytes → Nat → Option Bytes) (code : Nat) (bs : Bytes) : FrameRes :=
  if code &&& compressedMask ≠ 0 then readCompFrame o decomp code bs else readPlainFrame o code bs

def CompRes.Safe (o : ROpts) (bs : Bytes) : CompRes → Prop
  | .ok _ z size rest => rest.length < bs.length ∧ z.length ≤ o.maxSize ∧ size.toNat ≤ o.maxSize
  | .stop e => ∀ s, e ≠ .panic s

theorem readCompHeader_safe {o : ROpts} {code : Nat} {bs : Bytes} :
    (readCompHeader o code bs).Safe o bs := by
  unfold readCompHeader
  split
  · next e he => exact frameLen_error he
  · next n r hl =>
    have hr := frameLen_progress hl
    split
    · exact nofun
    · next format r1 =>
      rw [List.length_cons] at hr
      split
      · exact nofun
      · exact nofun
      · next usize r2 hu =>
        have := readUvarint_progress r1 usize r2 hu
        simp only
        split
        · exact nofun
        · next hsz =>
          have hsz : (asInt usize).toNat ≤ o.maxSize := by simp only [Int.ofNat_eq_natCast] at hsz; omega
          split
          · next b rest hp =>
            have := peekRead_ok hp
            exact ⟨by omega, by omega, hsz⟩
          · exact ⟨by omega, Nat.zero_le _, hsz⟩
          · exact nofun

theorem readCompHeader_progress {o : ROpts} {code : Nat} {bs z rest : Bytes} {f : UInt8} {size : Int}
    (h : readCompHeader o code bs = .ok f z size rest) : rest.length < bs.length := by
  have := @readCompHeader_safe o code bs; rw [h] at this; exact this.1

theorem readCompFrame_safe {o : ROpts} {decomp : Bytes → Nat → Option Bytes} {code : Nat} {bs : Bytes} :
    (readCompFrame o decomp code bs).Safe o bs := by
  unfold readCompFrame
  split
  · next e he =>
    have := @readCompHeader_safe o code bs
    rw [he] at this
    exact ⟨this, nofun⟩
  · next format z size rest he =>
    have := @readCompHeader_safe o code bs
    rw [he] at this
    obtain ⟨hlt, hz, hsz⟩ := this
    have hal : ∀ a ∈ [z.length, size.toNat], a ≤ o.maxSize :=
      List.forall_mem_cons.mpr ⟨hz, List.forall_mem_singleton.mpr hsz⟩
    split
    · exact ⟨nofun, hal⟩
    · split
      · exact ⟨nofun, hal⟩
      · split
        · exact ⟨nofun, hal⟩
        · next hlen => exact ⟨hlt, by omega, hal⟩

theorem readFrame_safe {o : ROpts} {decomp : Bytes → Nat → Option Bytes} {code : Nat} {bs : Bytes} :
    (readFrame o decomp code bs).Safe o bs := by
  unfold readFrame
  split
  · exact readCompFrame_safe
  · exact readPlainFrame_safe

/-- one turn of `parser.read` plus what the scanner does with the frame -/
inductive Step where
  | done (o : Outcome) (allocs : List Nat)
  | cont (ctx : Ctx) (vals : List RVal) (allocs : List Nat) (rest : Bytes)

def step (o : ROpts) (decomp : Bytes → Nat → Option Bytes) (ctx : Ctx) (code : UInt8) (bs : Bytes) : Step :=
  let c := code.toNat
  if c = eos then .cont [] [] [] bs
  else if c &&& versionMask ≠ 0 then .done .err []
  else
    let kind := frameTypeOf c
    if kind = typesFrame then
      match readFrame o decomp c bs with
      | .stop e al => .done e al
      | .ok p rest al =>
        match decTypedefs ctx p with
        | .ok ctx' => .cont ctx' [] al rest
        | .error .bad => .done .err al
        | .error (.panic s) => .done (.panic s) al
    else if kind = valuesFrame then
      match readFrame o decomp c bs with
      | .stop e al => .done e al
      | .ok p rest al =>
        -- an uncompressed values frame is copied into a pooled buffer
        let al' := if c &&& compressedMask ≠ 0 then al else al ++ [p.length]
        match decodeVals o ctx p with
        | .ok vs => .cont ctx vs al' rest
        | .error e => .done e al'
    else if kind = controlFrame then
      match readFrame o decomp c bs with
      | .stop e al => .done e al
      | .ok p rest al => if p.isEmpty then .done .err al else .cont ctx [] al rest
    else .done .err []

/-- what `step` tests on a frame's code byte -/
structure CodeOf (kind : Nat) (c : UInt8) : Prop where
  notEos : c.toNat ≠ eos
  version : c.toNat &&& versionMask = 0
  kind : frameTypeOf c.toNat = kind

def Step.Safe (o : ROpts) (bs : Bytes) : Step → Prop
  | .done e al => (∀ s, e ≠ .panic s) ∧ ∀ a ∈ al, a ≤ o.maxSize
  | .cont _ _ al rest => rest.length ≤ bs.length ∧ ∀ a ∈ al, a ≤ o.maxSize

theorem step_safe {o : ROpts} {decomp : Bytes → Nat → Option Bytes} {ctx : Ctx} {code : UInt8}
    {bs : Bytes} : (step o decomp ctx code bs).Safe o bs := by
  have hf := @readFrame_safe o decomp code.toNat bs
  unfold step
  simp only
  by_cases h : code.toNat = eos
  · rw [if_pos h]; exact ⟨Nat.le_refl _, nofun⟩
  rw [if_neg h]
  by_cases h : code.toNat &&& versionMask ≠ 0
  · rw [if_pos h]; exact ⟨nofun, nofun⟩
  rw [if_neg h]
  by_cases h : frameTypeOf code.toNat = typesFrame
  · rw [if_pos h]
    split
    · next he => exact hf.stop he
    · next p rest al he =>
      obtain ⟨hlt, -, hal⟩ := hf.ok he
      split
      · exact ⟨Nat.le_of_lt hlt, hal⟩
      · exact ⟨nofun, hal⟩
      · next s hd => exact absurd hd decTypedefs_no_panic
  rw [if_neg h]
  by_cases h : frameTypeOf code.toNat = valuesFrame
  · rw [if_pos h]
    split
    · next he => exact hf.stop he
    · next p rest al he =>
      obtain ⟨hlt, hp, hal⟩ := hf.ok he
      have hal' : ∀ a ∈ (if code.toNat &&& compressedMask ≠ 0 then al else al ++ [p.length]),
          a ≤ o.maxSize := by
        split
        · exact hal
        · exact List.forall_mem_append.mpr ⟨hal, List.forall_mem_singleton.mpr hp⟩
      split
      · exact ⟨Nat.le_of_lt hlt, hal'⟩
      · next e hd => exact ⟨fun s hs => decodeVals_no_panic (hs ▸ hd), hal'⟩
  rw [if_neg h]
  by_cases h : frameTypeOf code.toNat = controlFrame
  · rw [if_pos h]
    split
    · next he => exact hf.stop he
    · next p rest al he =>
      obtain ⟨hlt, -, hal⟩ := hf.ok he
      split
      · exact ⟨nofun, hal⟩
      · exact ⟨Nat.le_of_lt hlt, hal⟩
  rw [if_neg h]
  exact ⟨nofun, nofun⟩

theorem step_progress {o : ROpts} {decomp : Bytes → Nat → Option Bytes} {ctx ctx' : Ctx} {code : UInt8}
    {bs rest : Bytes} {vs : List RVal} {al : List Nat}
    (h : step o decomp ctx code bs = .cont ctx' vs al rest) : rest.length ≤ bs.length := by
  have := @step_safe o decomp ctx code bs; rw [h] at this; exact this.1

/-- The whole stream: frames until the input ends or something fails.  Terminates because
    every frame consumes at least its code byte. -/
def readStream (o : ROpts) (decomp : Bytes → Nat → Option Bytes) (ctx : Ctx) (bs : Bytes) : RRes :=
  match bs with
  | [] => ⟨[], [], .eof⟩
  | code :: tl =>
    match h : step o decomp ctx code tl with
    | .done e al => ⟨[], al, e⟩
    | .cont ctx' vs al rest =>
      have : rest.length < (code :: tl).length := by
        have := step_progress h; simp; omega
      let r := readStream o decomp ctx' rest
      ⟨vs ++ r.vals, al ++ r.allocs, r.out⟩
termination_by bs.length

theorem readStream_nil (o : ROpts) (decomp : Bytes → Nat → Option Bytes) (ctx : Ctx) :
    readStream o decomp ctx [] = ⟨[], [], .eof⟩ := by
  rw [readStream]

theorem readStream_cont {o : ROpts} {decomp : Bytes → Nat → Option Bytes} {ctx ctx' : Ctx} {c : UInt8}
    {tl rest : Bytes} {vs : List RVal} {al : List Nat} (h : step o decomp ctx c tl = .cont ctx' vs al rest) :
    readStream o decomp ctx (c :: tl) =
      ⟨vs ++ (readStream o decomp ctx' rest).vals, al ++ (readStream o decomp ctx' rest).allocs,
        (readStream o decomp ctx' rest).out⟩ := by
  rw [readStream]
  split
  · next he => rw [h] at he; cases he
  · next he => rw [h] at he; cases he; rfl

theorem readStream_done {o : ROpts} {decomp : Bytes → Nat → Option Bytes} {ctx : Ctx} {c : UInt8}
    {tl : Bytes} {e : Outcome} {al : List Nat} (h : step o decomp ctx c tl = .done e al) :
    readStream o decomp ctx (c :: tl) = ⟨[], al, e⟩ := by
  rw [readStream]
  split
  · next he => rw [h] at he; cases he; rfl
  · next he => rw [h] at he; cases he

/-- The LZ4 blocks a stream asks to decompress, in order, found by walking the frames without
    decoding them (used by the driver to ask the harness for the oracle's answers). -/
def compRequests (o : ROpts) (bs : Bytes) : List (Bytes × Int) :=
  match bs with
  | [] => []
  | code :: tl =>
    let c := code.toNat
    if c = eos then
      have : tl.length < (code :: tl).length := Nat.lt_succ_self _
      compRequests o tl
    else if c &&& versionMask ≠ 0 then []
    else if frameTypeOf c > controlFrame then []
    else if c &&& compressedMask ≠ 0 then
      match h : readCompHeader o c tl with
      | .stop _ => []
      | .ok _ z size rest =>
        have : rest.length < (code :: tl).length := Nat.lt_succ_of_lt (readCompHeader_progress h)
        (z, size) :: compRequests o rest
    else
      match h : readPlainFrame o c tl with
      | .stop _ _ => []
      | .ok p rest al =>
        have : rest.length < (code :: tl).length := Nat.lt_succ_of_lt (readPlainFrame_safe.ok h).1
        compRequests o rest
termination_by bs.length

/-- `Reader.Read` until it returns nil or an error, from the start of a stream. -/
def readAll (o : ROpts) (decomp : Bytes → Nat → Option Bytes) (bs : Bytes) : RRes :=
  readStream o decomp [] bs

end Zed.Zng

import Zed.Model.ZngUvarint
import Zed.Generated.C01
/-!
  L0 — zcode: tag-length encoding of value bodies (`zcode/bytes.go`, `zcode/iter.go`,
  `zcode/builder.go`).  A body is `none` (Zed null, tag 0) or `some bytes` (tag = len+1),
  so null and the empty body are different encodings.  `toTag`/`tagLength`/`tagNull` are
  the regenerated (T1) expressions of `zcode/bytes.go`.

  `Iter.Next` panics in Go on malformed input; here it is a total function and the panic
  site is an error value.
-/
namespace Zed.Zng
open Zed.Generated.C01 (toTag tagLength tagNull)

/-- `zcode.Append(nil, val)`. -/
def zappend : Option Bytes → Bytes
  | none => uvarint tagNull
  | some b => uvarint (toTag b.length) ++ b

def zappendAll : List (Option Bytes) → Bytes
  | [] => []
  | v :: vs => zappend v ++ zappendAll vs

/-- Builder: a container body is the concatenation of its items; `EndContainer` prefixes
    the tag. -/
def zcontainer (items : List (Option Bytes)) : Bytes := zappendAll items

inductive ZErr where
  | badUvarint   -- Iter.Next: `panic("bad uvarint")`
  | outOfRange   -- Iter.Next: slice bounds out of range
  deriving DecidableEq, Repr

/-- `Iter.Next` on the bytes `bs` (whose `len` is `bs.length`): the body of the next value
    and the remaining iterator, or the panic it raises. -/
def znext (bs : Bytes) : Except ZErr (Option Bytes × Bytes) :=
  match readUvarint bs with
  | .error _ => .error .badUvarint
  | .ok (t, rest) =>
    if t = tagNull then .ok (none, rest)
    else
      let len := asInt (tagLength t)
      -- `end := n + tagLength(u64); val := (*i)[n:end]; *i = (*i)[end:]`
      if len < 0 then .error .outOfRange
      else if !hasLen rest len.toNat then .error .outOfRange
      else .ok (some (rest.take len.toNat), rest.drop len.toNat)

theorem znext_ok {bs r : Bytes} {v : Option Bytes} (h : znext bs = .ok (v, r)) :
    ∃ t rest, readUvarint bs = .ok (t, rest) ∧
      ((t = tagNull ∧ v = none ∧ r = rest) ∨
       (t ≠ tagNull ∧ ¬ asInt (tagLength t) < 0 ∧ hasLen rest (asInt (tagLength t)).toNat = true ∧
         v = some (rest.take (asInt (tagLength t)).toNat) ∧
         r = rest.drop (asInt (tagLength t)).toNat)) := by
  unfold znext at h
  split at h
  · cases h
  · rename_i t rest heq
    refine ⟨t, rest, heq, ?_⟩
    by_cases h1 : t = tagNull
    · rw [if_pos h1] at h; cases h; exact .inl ⟨h1, rfl, rfl⟩
    · rw [if_neg h1] at h
      by_cases h2 : asInt (tagLength t) < 0
      · simp only [h2, if_true] at h; cases h
      · cases h3 : hasLen rest (asInt (tagLength t)).toNat with
        | false => simp only [h2, h3, Bool.not_false, if_true, if_false] at h; cases h
        | true =>
          simp only [h2, h3, Bool.not_true, Bool.false_eq_true, if_false] at h
          cases h
          exact .inr ⟨h1, h2, rfl, rfl, rfl⟩

theorem znext_progress (bs : Bytes) (v : Option Bytes) (r : Bytes)
    (h : znext bs = .ok (v, r)) : r.length < bs.length := by
  obtain ⟨t, rest, heq, h | h⟩ := znext_ok h
  · rw [h.2.2]; exact readUvarint_progress bs t rest heq
  · have := readUvarint_progress bs t rest heq
    rw [h.2.2.2.2, List.length_drop]; omega

/-- Iterate to the end (`for !it.Done() { it.Next() }`).  Terminates because every `Next`
    consumes at least the tag byte (`znext_progress`). -/
def ziterAll (bs : Bytes) : Except ZErr (List (Option Bytes)) :=
  if bs.isEmpty then .ok []
  else
    match h2 : znext bs with
    | .error e => .error e
    | .ok (v, r) =>
      have : r.length < bs.length := znext_progress bs v r h2
      match ziterAll r with
      | .ok vs => .ok (v :: vs)
      | .error e => .error e
termination_by bs.length

theorem znext_nonempty {bs : Bytes} {v : Option Bytes} {r : Bytes} (h : znext bs = .ok (v, r)) :
    bs.isEmpty = false := by
  cases bs with
  | nil => exact absurd (znext_progress _ _ _ h) (Nat.not_lt_zero _)
  | cons a b => rfl

theorem ziterAll_nil : ziterAll [] = .ok [] := by rw [ziterAll]; rfl

theorem ziterAll_of_znext {bs r : Bytes} {v : Option Bytes} (h : znext bs = .ok (v, r)) :
    ziterAll bs = (match ziterAll r with | .ok vs => .ok (v :: vs) | .error e => .error e) := by
  rw [ziterAll, if_neg (by rw [znext_nonempty h]; exact Bool.false_ne_true)]
  split
  · next he => rw [h] at he; cases he
  · next he => rw [h] at he; cases he; rfl

end Zed.Zng

/-
  C01 — ZNG binary stream round trip is the identity.
  Property theorems only.  Wire constants and header expressions come from
  Zed.Generated.C01 (regenerated from zio/zngio, zcode and type.go on every check).
-/
import Zed.Proofs.ZngZcode
import Zed.Proofs.ZngTypes
import Zed.Proofs.ZngFrames
import Zed.Proofs.ZngScanner
import Zed.Proofs.ZngRoundtrip
import Zed.Proofs.ZngPeeker
namespace Zed.Props.C01
open Zed.Zng Zed.Generated.C01

/-! ## T1 obligations: the regenerated tables say what the model and docs/formats/zng.md assume -/

/-- The wire constants are the ones of the ZNG specification (docs/formats/zng.md): a change of
    any of them is a change of the format, even if writer and reader change together. -/
theorem wire_constants_match_spec :
    (typesFrame, valuesFrame, controlFrame, eos, compressionFormatLZ4) = (0, 1, 2, 255, 0) ∧
    (typeDefRecord, typeDefArray, typeDefSet, typeDefMap, typeDefUnion, typeDefEnum, typeDefError, typeDefName)
      = (0, 1, 2, 3, 4, 5, 6, 7) ∧
    idTypeComplex = 30 ∧ tagNull = 0 ∧ versionMask = 128 ∧ compressedMask = 64 ∧
    primitiveIDs = [0, 1, 2, 3, 6, 7, 8, 9, 12, 13, 14, 15, 16, 23, 24, 25, 26, 27, 28, 29] :=
  ⟨rfl, rfl, rfl, rfl, rfl, rfl, rfl⟩

/-- Order in which the header fields are appended, flush order (types frame first), the empty
    block rule and the shape of `EndStream` — the straight-line facts the writer model is
    written against. -/
theorem writer_shape :
    writeHeaderLayout = ["byte:byte(code)", "uvarint:uint64(size >> 4)"] ∧
    writeCompHeaderLayout = ["byte:byte(code)", "uvarint:uint64(zlen >> 4)", "byte:byte(CompressionFormatLZ4)", "uvarint:uint64(size)"] ∧
    writeValueLayout = ["binary.AppendUvarint(w.values, uint64(id))", "zcode.Append(w.values, val.Bytes())"] ∧
    flushOrder = ["TypesFrame:w.types.bytes", "ValuesFrame:w.values"] ∧
    writeBlockFirstStmt = "if len(b) == 0 { return nil }" ∧
    endStreamStmts = ["if err := w.flush(); err != nil { return err }",
      "if w.flushed != w.position { if err := w.write([]byte{EOS}); err != nil { return err } w.flushed = w.position }",
      "w.types.Reset()", "return nil"] ∧
    eosAction = "p.types.reset(); continue" ∧
    maxSizeChecks = ["readFrame: size > p.maxSize", "readCompressedFrame: size < 0 || size > p.maxSize"] :=
  ⟨rfl, rfl, rfl, rfl, rfl, rfl, rfl, rfl⟩

/-- The flush condition is monotone in both buffer lengths and fires exactly at the threshold
    (so a frame is never held back once a buffer has reached `thresh`). -/
theorem flushCond_spec (v t thresh : Nat) :
    flushCond v t thresh = true ↔ (thresh ≤ v ∨ thresh ≤ t) := by
  simp [flushCond]

/-- Writer and reader subtract/add the same amount for the compression sub-header. -/
theorem comp_extra_agree (size : Nat) : writeCompExtra size = readCompExtra size := rfl

theorem uvarint_roundtrip (n : Nat) (rest : Bytes) (hn : n < two64) :
    readUvarint (uvarint n ++ rest) = .ok (n, rest) :=
  readUvarint_uvarint n rest hn

example : (12345 : Nat) < two64 := by decide

/-- **zcode_roundtrip.**  Iterating over the concatenated encodings of any list of bodies
    gives back exactly that list — `none` (null) and `some []` (empty) stay different. -/
theorem zcode_roundtrip (vs : List (Option Bytes)) (h : ∀ v ∈ vs, BodyFits v) :
    ziterAll (zappendAll vs) = .ok vs :=
  ziterAll_zappendAll vs h

/-- non-vacuity of `BodyFits`, and null ≠ empty on the wire -/
example : ∀ v ∈ [none, some [], some [1, 2]], BodyFits v := by decide

theorem zcode_null_ne_empty : zappend none ≠ zappend (some []) ∧
    ziterAll (zappend none) = .ok [none] ∧ ziterAll (zappend (some [])) = .ok [some []] := by
  refine ⟨?_, ?_, ?_⟩
  · simp only [zappend, tagNull, toTag, List.length_nil, List.append_nil]
    rw [uvarint_small 0 (by decide), uvarint_small (0 + 1) (by decide)]
    decide
  · have := zcode_roundtrip [none] (by decide); simpa [zappendAll] using this
  · have := zcode_roundtrip [some []] (by decide); simpa [zappendAll] using this

/-- **frame header encode/decode inverse** (uncompressed frames, all three kinds): the reader
    recovers kind and payload from `writeHeader`'s bytes, and asks the allocator for no more than
    `maxSize`. -/
theorem frame_header_roundtrip (o : ROpts) (decomp : Bytes → Nat → Option Bytes) (kind : Nat) (hk : kind < 3)
    (payload rest : Bytes) (hs : payload.length < two63) (hfit : payload.length ≤ o.maxSize) :
    ∃ c tl al, frameHeader kind payload.length ++ payload ++ rest = c :: tl ∧
      c.toNat ≠ eos ∧ c.toNat &&& versionMask = 0 ∧ frameTypeOf c.toNat = kind ∧
      c.toNat &&& compressedMask = 0 ∧
      readFrame o decomp c.toNat tl = .ok payload rest al ∧ ∀ a ∈ al, a ≤ o.maxSize :=
  readFrame_plain o decomp kind hk payload rest hs hfit

example : ([1, 2, 3] : Bytes).length < two63 ∧ ([1, 2, 3] : Bytes).length ≤ (⟨1024, false⟩ : ROpts).maxSize := by decide

/-- **typedefs_before_use.**  For every well-formed type, every encoder state whose cache is
    consistent and every context tag: the typedef bytes one `Encode` call appends decode —
    starting from the context *before* the call, i.e. using only ids defined earlier in the
    stream segment — to exactly the encoder's context after the call, and the id the call
    returns denotes the type.  (`small` = every integer written fits a Go `int`.) -/
theorem typedefs_before_use (cid : Nat) (t : ZTy) (s : EncSt) (hv : t.valid = true) (hc : CacheOk s)
    (hs : (encTy cid t s).1.small = true) :
    ∃ d, (encTy cid t s).1.bytes = s.bytes ++ d ∧
      decTypedefs s.ctx d = .ok (encTy cid t s).1.ctx ∧
      (encTy cid t s).1.ctx.typeOfId (((encTy cid t s).2 : Nat) : Int) = some t ∧
      CacheOk (encTy cid t s).1 := by
  obtain ⟨hok, hid⟩ := encTy_spec cid t s hv hc hs
  obtain ⟨d, hd, hdec⟩ := hok.dec
  exact ⟨d, hd, Defines.ok hdec, hid, hok.cache⟩

/-- non-vacuity: a named record with a union, an enum, a set and a map is well-formed, the
    initial encoder state is consistent, and the sizes fit -/
example :
    let t : ZTy := .named [112] (.record (.cons [97] (.union (.cons (.prim 9) (.cons (.prim 25) .nil)))
      (.cons [98] (.enum [[120], [121]]) (.cons [99] (.map (.prim 25) (.set (.prim 26))) .nil))))
    t.valid = true ∧ CacheOk ({} : EncSt) ∧ (encTy 0 t {}).1.small = true := by
  refine ⟨by decide, ?_, by decide⟩
  intro c t h; simp at h

/-- hypotheses of the round trip, all decidable given the inputs:
    * every written type is well-formed (`ZTy.valid`: what `zed.Context` builds, within the reader's
      `Max*` limits) and,
      if the reader validates, every written value passes `Validate`;
    * `small`: every integer the writer emitted (type ids, counts, string, body and frame lengths)
      fits a Go `int`;
    * every frame fits the reader's limit (`ReaderOpts.Max`). -/
def RoundtripOk (wo : WOpts) (ro : ROpts) (comp : Bytes → Option Bytes) (ops : List WOp) : Prop :=
  (∀ v ∈ opsValues ops, v.ty.valid = true ∧ (ro.validate = true → validate v.ty v.body = true)) ∧
  (writeAll wo comp ops).small = true ∧ (writeAll wo comp ops).enc.small = true ∧
  (writeAll wo comp ops).maxFrame ≤ ro.maxSize

/-- **zng_roundtrip.**  For every sequence of writer operations (values whose types come from any
    number of type contexts, explicit end-of-stream markers anywhere — leading, doubled, trailing —
    and control messages), every frame threshold (including 0 and 1), compression on or off with
    ANY compressor/decompressor pair satisfying `decomp (comp b) = b` (the compressor may decline
    any block), and every reader limit and validation setting: reading the bytes of the closed
    writer delivers exactly the written values — same number, same order, same structural types,
    same body bytes with null and empty kept apart — and then ends cleanly.
    (The reader is the sequential one; `scanner_order` below carries the result over to every
    schedule of the threaded scanner.) -/
theorem zng_roundtrip (wo : WOpts) (ro : ROpts) (comp : Bytes → Option Bytes) (decomp : Bytes → Nat → Option Bytes)
    (hlz : ∀ b z, comp b = some z → decomp z b.length = some b)
    (ops : List WOp) (h : RoundtripOk wo ro comp ops) :
    (readAll ro decomp (writeAll wo comp ops).out).vals = (opsValues ops).map (fun v => ⟨v.ty, v.body⟩) ∧
    (readAll ro decomp (writeAll wo comp ops).out).out = .eof :=
  roundtrip wo ro comp decomp hlz ops h.1 ⟨h.2.1, h.2.2.1, h.2.2.2⟩

/-- **zng_concat.**  Streams written by independent writers can be concatenated: the reader
    delivers the values of the first, then those of the second (each closed writer leaves the
    reader in its initial state). -/
theorem zng_concat (wo₁ wo₂ : WOpts) (ro : ROpts) (comp : Bytes → Option Bytes) (decomp : Bytes → Nat → Option Bytes)
    (hlz : ∀ b z, comp b = some z → decomp z b.length = some b)
    (ops₁ ops₂ : List WOp) (h₁ : RoundtripOk wo₁ ro comp ops₁) (h₂ : RoundtripOk wo₂ ro comp ops₂) :
    (readAll ro decomp ((writeAll wo₁ comp ops₁).out ++ (writeAll wo₂ comp ops₂).out)).vals =
      (opsValues ops₁ ++ opsValues ops₂).map (fun v => ⟨v.ty, v.body⟩) ∧
    (readAll ro decomp ((writeAll wo₁ comp ops₁).out ++ (writeAll wo₂ comp ops₂).out)).out = .eof := by
  have p1 := roundtrip_prefix wo₁ ro comp decomp hlz ops₁ h₁.1 ⟨h₁.2.1, h₁.2.2.1, h₁.2.2.2⟩ (writeAll wo₂ comp ops₂).out
  have p2 := zng_roundtrip wo₂ ro comp decomp hlz ops₂ h₂
  unfold readAll at p2 ⊢
  exact ⟨by rw [p1.1, p2.1, List.map_append], by rw [p1.2, p2.2]⟩

/-- non-vacuity of the hypotheses on the compressor pair and on the types: the identity pair, and
    a record type with a union, written twice (once as null) around an end-of-stream -/
example :
    let t : ZTy := .record (.cons [97] (.union (.cons (.prim 9) (.cons (.prim 25) .nil))) (.cons [98] (.prim 25) .nil))
    let ops : List WOp := [.write ⟨0, t, some [3, 2, 2, 0]⟩, .endStream, .write ⟨1, t, none⟩]
    (∀ b z, (fun b => some b : Bytes → Option Bytes) b = some z → (fun z _ => some z : Bytes → Nat → Option Bytes) z b.length = some b) ∧
    (∀ v ∈ opsValues ops, v.ty.valid = true) := by
  refine ⟨?_, ?_⟩
  · intro b z h; simp at h; simp [h]
  · decide

/-- a concrete, fully evaluated instance of all hypotheses: an array value, an end-of-stream
    marker, a null of another type from a second context, frame threshold 1, no compression -/
theorem roundtripOk_example : RoundtripOk ⟨false, 1⟩ ⟨1000, false⟩ (fun _ => none)
    [.write ⟨0, .array (.prim 9), some [2, 2]⟩, .endStream, .write ⟨1, .prim 25, none⟩] := by
  refine ⟨by decide, ?_⟩
  simp (config := { decide := true }) [writeAll, WSt.run, WSt.step, encTy, WSt.addValue, WSt.flush, WSt.writeBlock, flushCond, blockSmall, blockMax,
    bodySmall, two63, uvarint_small, zappend, toTag, tagNull, EncSt.finish, EncSt.put, EncSt.putUv, Ctx.enter, Ctx.find, typeDefArray, idTypeComplex,
    typesFrame, valuesFrame]

/-- … to which `zng_roundtrip` applies -/
example : (readAll ⟨1000, false⟩ (fun _ _ => none)
    (writeAll ⟨false, 1⟩ (fun _ => none) [.write ⟨0, .array (.prim 9), some [2, 2]⟩, .endStream, .write ⟨1, .prim 25, none⟩]).out).vals
    = [⟨.array (.prim 9), some [2, 2]⟩, ⟨.prim 25, none⟩] :=
  (zng_roundtrip _ _ _ _ (by intro b z h; cases h) _ roundtripOk_example).1

/-- **read_buffer_independent.**  `pkg/peeker` with the chunking of the underlying reader made
    explicit (`Peeker.PState`: buffered bytes + the chunks the source will still deliver, any
    number, any sizes — whatever `ReaderOpts.Size` and the `io.Reader` do): every client that asks
    for single bytes and for blocks of at most `limit` bytes (readmax ≥ largest frame), looks at the
    answers and stops at the first failure — which is how `parser.read` uses the peeker — computes
    the same result as on the unchunked input. -/
theorem read_buffer_independent {α : Type} (limit : Nat) (hl : 1 ≤ limit) (p : Peeker.Prog α)
    (hb : p.Bounded limit) (buffered : Bytes) (chunks : List Bytes) :
    p.runP limit ⟨buffered, chunks, false⟩ = p.runL limit (buffered ++ chunks.flatten) :=
  Peeker.prog_sim limit hl p ⟨buffered, chunks, false⟩ _ ⟨rfl, rfl⟩ hb

/-- instance: the frame reader (`parser.readFrame`: length varint byte by byte, limit test,
    payload) returns the same payload or the same failure as the model's `readPlainFrame`, for every
    chunking of the input -/
theorem readFrame_chunk_independent (o : ROpts) (hl : 1 ≤ o.maxSize) (code : Nat) (buffered : Bytes) (chunks : List Bytes) :
    (Peeker.plainFrameProg o code).runP o.maxSize ⟨buffered, chunks, false⟩ =
      Peeker.frameAnswer (readPlainFrame o code (buffered ++ chunks.flatten)) := by
  rw [read_buffer_independent o.maxSize hl _ (Peeker.plainFrameProg_bounded o code)]
  exact Peeker.plainFrameProg_runL o code _

/-- non-vacuity: three chunks of one byte each -/
example : (Peeker.plainFrameProg ⟨16, false⟩ 0x12).runP 16 ⟨[], [[0], [7], [9]], false⟩ = .ok [7, 9] := by rfl

/-- **scanner_order.**  For every number of workers, every classification of items into
    work/control, and **every** schedule of dispatch / control / worker-completion / pull steps
    (steps that are not enabled cannot happen and are skipped): what `Pull` has delivered is
    exactly the results of items `0 … pulled-1` in stream order — the results of the frames in
    frame order, which is what the single-threaded reader produces. -/
theorem scanner_order {R : Type} (res : Nat → R) (isWork : Nat → Bool) (total threads : Nat)
    (sched : List Scanner.Action) :
    let s := Scanner.run res isWork total (Scanner.init threads) sched
    s.delivered = (List.range s.pulled).map res ∧ s.pulled ≤ s.next ∧
      s.queue = List.range' s.pulled (s.next - s.pulled) := by
  have h := Scanner.inv_run res isWork total sched (Scanner.init threads) (Scanner.inv_init res threads)
  exact ⟨h.delivered, h.le, h.queue⟩

/-- When everything has been parsed and pulled, the whole output is the frame results in order. -/
theorem scanner_complete {R : Type} (res : Nat → R) (isWork : Nat → Bool) (total threads : Nat)
    (sched : List Scanner.Action)
    (hdone : (Scanner.run res isWork total (Scanner.init threads) sched).pulled = total) :
    (Scanner.run res isWork total (Scanner.init threads) sched).delivered = (List.range total).map res := by
  have h := (scanner_order res isWork total threads sched).1
  rw [hdone] at h; exact h

/-- non-vacuity: a schedule in which the later worker finishes first still ends with
    everything delivered -/
example : (Scanner.run (R := Nat) id (fun _ => true) 2 (Scanner.init 2)
    [.dispatch, .dispatch, .finish 1, .pull, .finish 0, .pull, .pull]).pulled = 2 := by decide

end Zed.Props.C01

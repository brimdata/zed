/-
  C12 — branch and metadata updates are linearizable; accepted commits stay replayable.
  Property theorems only.  Model: Zed/Model/{StoreEngine,JournalQueue,BranchCommit}.lean — the
  labelled transition system of DESIGN.md §4 L5 (one `step c` = one storage operation of client c,
  atomic puts).  All theorems quantify over every label sequence, i.e. every number of clients,
  every history of started procedures and every interleaving; nothing is bounded.
  `Reach j s`: s is reachable from a state where journal j is freshly created by labels that do
  not delete pool j (for the lake-level `pools/` journal, j = 0, every label sequence qualifies:
  `reach_pools`).
-/
import Zed.Proofs.StoreFillRef
namespace Zed.Props.C12
open Zed.Store

/-! ### T1 obligations: the call order of the source is the call order of the model

  `Zed.Generated.C12` is regenerated from lake/journal/{queue,store}.go, lake/branch.go and
  lake/root.go on every check.  The model's procedures were written for exactly these call
  sequences; if the source changes them these theorems stop checking. -/

/-- `Queue.CommitAt`: the entry is put (if absent) *before* HEAD is written (`jstep`: putx → putHead). -/
theorem t1_commitAt_order :
    Zed.Generated.C12.commitAtCalls = ["q.uri", "q.engine.PutIfNotExists", "q.engine.Put", "q.writeHead"] := rfl

/-- `Store.commit`: load, then the constraint, then CommitAt, retry on "exists" (`jstep`, `afterLoad`). -/
theorem t1_storeCommit_order :
    Zed.Generated.C12.storeCommitCalls = ["s.load", "fn", "s.journal.CommitAt", "os.IsExist"] := rfl

/-- `Branch.commit`: lookup tip, build, Put object, Update, Remove on failure (`BPhase`). -/
theorem t1_branchCommit_order :
    Zed.Generated.C12.branchCommitCalls =
      ["b.pool.branches.LookupByName", "create", "b.pool.commits.Put", "b.pool.branches.Update",
       "b.pool.commits.Remove"] := rfl

/-- `Root.CreatePool` registers the name last and removes the directory on failure;
    `Root.RemovePool` unregisters first and deletes the directory last (`StoreApi.advance`). -/
theorem t1_pool_order :
    Zed.Generated.C12.createPoolCalls =
      ["r.pools.LookupByName", "CreatePool", "r.openPool", "RemovePool", "r.pools.Add", "RemovePool"] ∧
    Zed.Generated.C12.removePoolCalls =
      ["r.pools.LookupByID", "r.pools.Remove", "r.poolCache.Remove", "RemovePool"] := ⟨rfl, rfl⟩

/-- Every state a lake can get into is `Reach 0` (pools journal): no hypothesis on the labels. -/
theorem reach_pools (ls : List Label) : Reach 0 (Sys.init.run ls) :=
  ⟨Sys.init, ls, init_fresh, noReset_zero ls, rfl⟩

/-- **journal_linear** — in every reachable state the entries of journal j are exactly the
    positions 1..e (contiguous, none missing, none beyond), and HEAD is e or e-1. -/
theorem journal_linear (j : Nat) (s : Sys) (h : Reach j s) :
    ∃ e, (∀ n, (s.store (.ent j n)).isSome ↔ (1 ≤ n ∧ n ≤ e)) ∧
      headOf s.store j ≤ e ∧ e ≤ headOf s.store j + 1 := by
  obtain ⟨e, he⟩ := h.inv1
  exact ⟨e, he.range, he.he, he.eh⟩

/-- **entry_created_once** — an entry, once created, is never created again or changed: it
    keeps its value in every later state (so entry n+1 is created exactly once; the loser of the
    put-if-absent race writes nothing). -/
theorem entry_created_once (j : Nat) (s : Sys) (h : Reach j s) (ls : List Label) (hn : NoReset j ls)
    (n : Nat) (v : SVal) (hv : s.store (.ent j n) = some v) : (s.run ls).store (.ent j n) = some v := by
  obtain ⟨e, he⟩ := h.inv1
  obtain ⟨_, _, _, x⟩ := inv1_run ls he hn
  exact x.kept he.range hv

/-- **head_monotone** — HEAD never regresses. -/
theorem head_monotone (j : Nat) (s : Sys) (h : Reach j s) (ls : List Label) (hn : NoReset j ls) :
    headOf s.store j ≤ headOf (s.run ls).store j := by
  obtain ⟨e, he⟩ := h.inv1
  obtain ⟨_, _, _, x⟩ := inv1_run ls he hn
  exact x.head

/-- **head_writer_is_creator** — the causality behind `head_monotone`: when a client is about to
    write HEAD = n, entry n exists and is the last one, HEAD is still n-1, and no other client is at
    a HEAD write.  A change that writes HEAD before the entry, or lets the loser of the race write
    it, breaks this proof. -/
theorem head_writer_is_creator (j : Nat) (s : Sys) (h : Reach j s) (c n : Nat)
    (hc : (s.cl c).pcOn j = some (.putHead n)) :
    (s.store (.ent j n)).isSome ∧ s.store (.ent j (n + 1)) = none ∧ headOf s.store j + 1 = n ∧
      ∀ c' n', (s.cl c').pcOn j = some (.putHead n') → c' = c := by
  obtain ⟨e, he⟩ := h.inv1
  obtain ⟨hne, hH⟩ := he.ph c n hc
  subst hne
  exact ⟨(he.range n).mpr (by omega), he.range.none_succ, hH, fun c' n' hc' => he.uniq c' c n' n hc' hc⟩

/-- **constraint_exact** — every entry n+1 was written by one of the four journal.Store
    operations whose constraint held under *exactly* the table replayed from entries 1..n —
    never under a stale table: the loser of a put-if-absent race re-loads and re-checks.  (So a
    key is inserted only when absent — names stay unique —, a branch tip is updated only from
    the parent it was checked against, a delete removes the very value it was checked against.)
    A change that checks the constraint against a stale table, or retries without reloading,
    breaks this proof. -/
theorem constraint_exact (j : Nat) (s : Sys) (h : Reach j s) (n : Nat)
    (hn : (s.store (.ent j (n + 1))).isSome) :
    ∃ (op : JOp) (t : Table), tableAt s.store j n = some t ∧ op.check t = none ∧
      s.store (.ent j (n + 1)) = some (.entry op.acts) := by
  obtain ⟨e, h1, h2⟩ := h.inv12
  exact h2.wf n (by have := (h1.range (n + 1)).mp hn; omega)

/-- **names_unique** — a name table (pools: name ↦ pool, branches: name ↦ tip) replayed from a
    journal never holds a name twice, at any position, whatever the entries are: the table is keyed
    by name, Add/Update replace and Delete removes.  Together with `constraint_exact` (an insert or
    the target of a move is accepted only when the name is absent in exactly the preceding table)
    no create / rename can take a name that is in use.  (That a *handle's* cached copy of the table
    also stays duplicate-free is outside the model: harness sub-check `warm`.) -/
theorem names_unique (s : Sys) (j n : Nat) (t : Table) (h : tableAt s.store j n = some t) :
    (t.map (·.1)).Nodup :=
  tableAt_keys s.store j n t h

/-- **journal_replayable** — at every moment the journal replays without error, both up to
    HEAD (what readers see) and up to its end. -/
theorem journal_replayable (j : Nat) (s : Sys) (h : Reach j s) :
    (∃ t, visibleTable s.store j = some t) ∧
      ∀ n, (s.store (.ent j n)).isSome → ∃ t, tableAt s.store j n = some t := by
  obtain ⟨e, h1, h2⟩ := h.inv12
  refine ⟨h2.wf.tableAt_some _ h1.he, fun n hn => h2.wf.tableAt_some n ((h1.range n).mp hn).2⟩

/-- **failed_op_invisible** (journal level) — a journal procedure step that ends in failure
    (constraint, key exists, no such key, retries exceeded, I/O) writes neither an entry nor
    HEAD (a one-step fact about `jstep`; `JNF`: the step that creates an entry goes on to
    the HEAD write, which ends with `ok`). -/
theorem failed_op_invisible (s : Store) (j : Nat) (jc : JCache) (k : JKind) (pc : JPc)
    (st : Store) (jc' : JCache) (r : Res) (ev : Ev)
    (h : jstep s j jc k pc = .done st jc' r ev) (hr : r ≠ .ok) :
    (∀ n, st (.ent j n) = s (.ent j n)) ∧ st (.head j) = s (.head j) :=
  jstep_fail_quiet s j jc k pc st jc' r ev h hr

/-! ### Branch commits (`lake.Branch.commit`)

  `ReachB j s`: s is reachable from a state in which pool j has just been created (empty branches
  journal, no commit objects, nothing working on it) by any labels that do not delete pool j and do
  not remove or rename its branches (`NoDrop`: no raw delete/move on journal j) — any number of
  clients, any interleaving of branch commits, branch creations, loads, and anything at all on
  other pools and on the pools journal. -/

/-- **ack_exactly_once_partial** — full statement (`ack_exactly_once`): in every reachable state every
    acknowledged commit whose branch still exists appears exactly once in the chain from that
    branch's tip.  Proved under the guard `ReachB j s`: pool j is not deleted (`NoReset`; without it
    the statement is false of the code, `not_ack_exactly_once_if_pool_removed`) and none of its
    branches is removed or renamed during the run (`NoDrop`; branch removal is covered at the
    journal level by `constraint_exact` / `names_unique`, by the trace tie and by the
    linearizability oracle, not by this chain theorem).  The chain is taken from the tip a cold
    reader sees (table replayed up to HEAD).  The
    proof rests on: the update's constraint was checked under exactly the preceding table
    (`constraint_exact`), the commit object is written before its journal entry and has the checked
    tip as parent, commit ids are fresh, and the object of a *failed* attempt — the only thing
    `Branch.commit` ever deletes — is referenced by nothing.  A change that deletes the object
    after a successful update, retries without re-reading the tip, or builds the object against
    another tip than the one checked breaks it. -/
theorem ack_exactly_once_partial (j : Nat) (hj : j ≠ 0) (s : Sys) (h : ReachB j s) (x : Ack)
    (hx : x ∈ s.acks) (hxj : x.pool = j) :
    ∃ t tip, visibleTable s.store j = some t ∧ Table.get t x.branch = some tip ∧
      (chain s.store j tip).count x.id = 1 :=
  h.ack_chain hj x hx hxj

/-- **no_lost_update_partial** (same guard as `ack_exactly_once_partial`) — an acknowledged commit is never lost: it stays acknowledged and stays
    exactly once on its branch's chain in every later state, whatever other clients do (commit on
    the same or other branches, fail, retry, stop in the middle of any procedure). -/
theorem no_lost_update_partial (j : Nat) (hj : j ≠ 0) (s : Sys) (h : ReachB j s) (x : Ack)
    (hx : x ∈ s.acks) (hxj : x.pool = j) (ls : List Label) (hn : NoReset j ls) (hd : NoDrop j ls) :
    x ∈ (s.run ls).acks ∧
    ∃ t tip, visibleTable (s.run ls).store j = some t ∧ Table.get t x.branch = some tip ∧
      (chain (s.run ls).store j tip).count x.id = 1 :=
  ⟨run_acks_mono ls s x hx,
   ack_exactly_once_partial j hj (s.run ls) (h.run ls hn hd) x (run_acks_mono ls s x hx) hxj⟩

/-- **failed_attempt_unreferenced** — while a branch commit has not created its journal entry
    (object being written, update in progress or failed, cleanup pending), its commit id occurs in
    no journal entry: removing the object of a failed attempt (`commits.Remove`) cannot be seen by
    anyone.  Together with `failed_op_invisible` this is "an operation that reports failure leaves
    no visible trace" for branch commits. -/
theorem failed_attempt_unreferenced (j : Nat) (hj : j ≠ 0) (s : Sys) (h : ReachB j s) (c : Nat) (p : Proc)
    (id : Nat) (hp : (s.cl c).proc = some p) (hid : p.pendingId j = some id) :
    ∀ n acts, s.store (.ent j n) = some (.entry acts) → ∀ k, JAct.add k id ∉ acts ∧ JAct.update k id ∉ acts := by
  obtain ⟨e, _, _, h3⟩ := h.inv hj
  obtain ⟨_, hnr⟩ := pending_facts hid (h3.bc c p hp)
  intro n acts hent k
  exact ⟨fun hm => hnr ⟨n, acts, _, hent, hm, rfl⟩, fun hm => hnr ⟨n, acts, _, hent, hm, rfl⟩⟩

/-- **acked_chain_objects** — from the visible tip of its branch every acknowledged commit is reached
    along parent pointers through existing commit objects whose ids were written into the journal
    (the object is put before its entry and never removed afterwards). -/
theorem acked_chain_objects (j : Nat) (hj : j ≠ 0) (s : Sys) (h : ReachB j s) (x : Ack)
    (hx : x ∈ s.acks) (hxj : x.pool = j) :
    ∃ t tip, visibleTable s.store j = some t ∧ Table.get t x.branch = some tip ∧ CPath s.store j tip x.id := by
  obtain ⟨e, h1, _, h3⟩ := h.inv hj
  exact h3.paths x hx hxj (headOf s.store j) (Nat.le_refl _) h1.he

/-- **not_ack_exactly_once_if_pool_removed** — the hypothesis `NoReset` (the pool is not deleted
    during the run) cannot be dropped, and this is a defect of the code, not of the model
    (harness key C12:lin:commit-into-removed-pool): `Root.RemovePool` deletes the pool directory
    under a commit that is in flight; the commit's put-if-absent then succeeds in the emptied
    directory and the commit is acknowledged although nothing of the branch can be read any more
    (on the real code: two conflicting commits are both acknowledged).  Witness: the run
    `removedPoolLabels` is free of branch removals, contains one `delPool 1`, ends with an
    acknowledged commit on pool 1 — and the pool's journal does not replay. -/
theorem not_ack_exactly_once_if_pool_removed :
    let s := poolCreated.run removedPoolLabels
    (∃ x ∈ s.acks, x.pool = 1 ∧ x.id = 2) ∧ (s.cl 1).res = some (.committed 2) ∧
      visibleTable s.store 1 = none ∧ NoDrop 1 removedPoolLabels ∧ ¬ NoReset 1 removedPoolLabels := by
  refine ⟨by decide, by decide, by decide, noDrop_of_all (by decide), ?_⟩
  intro h
  have := h (.start 2 (.delPool 1)) (by decide)
  simp [Label.resets, Start.resets] at this

/-! ### The create-then-fill put discipline (local file engine)

  `FSys` (Zed/Model/StoreFill.lean): every put is two transitions — the file is created /
  truncated and can be read empty, then its content is written.  `FReach j f`: f is reachable from
  a fresh journal j by any create-then-fill labels that do not delete pool j.  Which safety
  theorems survive: all of them, because the discipline refines the atomic system and the files
  that can be read half-written are never the ones a reader relies on. -/

/-- **fill_refines** — every create-then-fill transition is, on the atomic component, a
    stutter, the atomic transition of the same client, or the truncation of a snapshot file; so
    the atomic component of every run is a reachable atomic state and `journal_linear`,
    `entry_created_once`, `head_monotone`, `constraint_exact`, `journal_replayable`,
    `ack_exactly_once`, `no_lost_update`, … hold of it (`fill_reach`, `fill_reachB`). -/
theorem fill_refines (f : FSys) (c : Nat) :
    (f.step c).1.a = f.a ∨ (f.step c).1.a = (f.a.step c).1 ∨ ∃ j, (f.step c).1.a = f.a.exec (.truncSnap j) :=
  fill_step_refines f c

/-- **fill_journal_linear** — with create-then-fill puts the entry *files* of journal j are
    still exactly 1..e with HEAD's last complete value in {e-1, e}; a file that is still empty can
    only be entry e while HEAD is e-1 (its creator has won the exclusive create and has not
    written HEAD), and every entry at or below HEAD is complete and replays. -/
theorem fill_journal_linear (j : Nat) (f : FSys) (h : FReach j f) :
    ∃ e, (∀ n, (f.a.store (.ent j n)).isSome ↔ (1 ≤ n ∧ n ≤ e)) ∧
      headOf f.a.store j ≤ e ∧ e ≤ headOf f.a.store j + 1 ∧
      (∀ n, f.half (.ent j n) = true → n = e ∧ headOf f.a.store j + 1 = e) ∧
      (∀ n, n ≤ headOf f.a.store j → f.half (.ent j n) = false) ∧
      ∃ t, visibleTable f.a.store j = some t := by
  obtain ⟨hr, hi⟩ := h.inv
  obtain ⟨e, h1, h2⟩ := hr.inv12
  exact ⟨e, h1.range, h1.he, h1.eh, fill_half_entry_is_end h1 hi, fill_complete_below_head h1 hi,
    h2.wf.tableAt_some _ h1.he⟩

/-- **fill_no_empty_entry_read** — no client ever reads a journal entry file between its
    exclusive create and its filling: readers trust HEAD, and HEAD is written only after the entry
    is complete.  (This is the theorem a reader that probes past HEAD — `Exists(HEAD+1)` — breaks:
    it would take the created-but-empty entry for a committed "no change".) -/
theorem fill_no_empty_entry_read (j : Nat) (f : FSys) (h : FReach j f) (c n : Nat) (ev : Ev)
    (hev : (f.a.step c).2 = some ev) (hop : ev.op = .get) (hpath : ev.path = .ent j n) :
    f.half (.ent j n) = false :=
  fill_entry_reads_complete h.inv.1 h.inv.2 c n ev hev hop hpath

/-- **fill_head_monotone** — HEAD, whenever it can be read (it is empty while being rewritten:
    `readID` then retries), never regresses. -/
theorem fill_head_monotone (j : Nat) (f : FSys) (h : FReach j f) (ls : List FLabel) (hn : NoResetF j ls)
    (v v' : Nat) (hv : f.reads (.head j) = some (some (.num v)))
    (hv' : (f.run ls).reads (.head j) = some (some (.num v'))) : v ≤ v' := by
  have hr := h.inv.1
  have key : ∀ (g : FSys) (w : Nat), g.reads (.head j) = some (some (.num w)) → headOf g.a.store j = w := by
    intro g w hg
    simp only [FSys.reads] at hg
    split at hg
    · cases hg
    · cases hx : g.a.store (.head j) with
      | none => simp [hx] at hg
      | some y => simp [hx] at hg; subst hg; simp [headOf, hx]
  obtain ⟨ls', h1, r1, _⟩ := fill_run_refines ls f
  have hm := head_monotone j f.a hr ls' (r1 j hn)
  rw [← h1] at hm
  rw [key f v hv, key _ v' hv'] at hm
  exact hm

/-- **fill_ack_exactly_once_partial** (guard as `ack_exactly_once_partial`) — branch commits under create-then-fill puts: every acknowledged
    commit is exactly once on the chain from its branch's visible tip (atomic component; the
    entries at or below HEAD it is replayed from are complete files by `fill_journal_linear`). -/
theorem fill_ack_exactly_once_partial (j : Nat) (hj : j ≠ 0) (f0 : FSys) (h0 : ReachB j f0.a) (ls : List FLabel)
    (hn : NoResetF j ls) (hd : NoDropF j ls) (x : Ack) (hx : x ∈ (f0.run ls).a.acks) (hxj : x.pool = j) :
    ∃ t tip, visibleTable (f0.run ls).a.store j = some t ∧ Table.get t x.branch = some tip ∧
      (chain (f0.run ls).a.store j tip).count x.id = 1 :=
  ack_exactly_once_partial j hj _ (fill_reachB h0 ls hn hd) x hx hxj

/-- Non-vacuity: a create-then-fill run on the pools journal in which client 1 reads HEAD while
    client 0 is rewriting it (empty), retries, and both inserts end up in the journal. -/
def fillDemo : List FLabel :=
  [.start 0 (.commit 0 0 (.insert 1 7)), .start 1 (.commit 0 0 (.insert 2 8)),
   .step 0, .step 0, .step 0, .step 0, .step 1, .step 1, .step 0] ++ List.replicate 8 (.step 1)

example : FReach 0 (FSys.init.run fillDemo) := ⟨Sys.init, fillDemo, init_fresh, fun l _ => by
  cases l with
  | start c st => cases st <;> simp [FLabel.resets, Start.resets]
  | step c => rfl, rfl⟩
example : headOf (FSys.init.run fillDemo).a.store 0 = 2 ∧ (FSys.init.run fillDemo).broken = false := by decide

/-! Non-vacuity: the hypotheses are satisfiable and the system does move. -/

/-- A concrete run on the pools journal: client 0 inserts key 1, client 1 inserts key 2,
    interleaved so that client 1 loses the put-if-absent race once and retries. -/
def demoLabels : List Label :=
  [.start 0 (.commit 0 0 (.insert 1 7)), .start 1 (.commit 0 0 (.insert 2 8)),
   .step 0, .step 1, .step 0, .step 1, .step 0, .step 1, .step 1, .step 1, .step 1, .step 1, .step 1, .step 1]

example : headOf (Sys.init.run demoLabels).store 0 = 2 := by decide
example : Reach 0 (Sys.init.run demoLabels) := reach_pools _

/-- Non-vacuity of the branch-commit theorems: pool 1 is created, branch 0 is created at Nil, two
    clients commit to it concurrently; client 2 loses the race once (its first object, id 3, is
    removed) and retries.  Both are acknowledged and the chain from the tip is [4, 2]. -/
example : ReachB 1 (poolCreated.run twoCommits) := twoCommits_reach
example : (poolCreated.run twoCommits).acks.map (·.id) = [4, 2] ∧
    (poolCreated.run twoCommits).failed = [(1, 3)] ∧
    chain (poolCreated.run twoCommits).store 1 4 = [4, 2] ∧
    (poolCreated.run twoCommits).store (.cobj 1 3) = none := by decide

end Zed.Props.C12

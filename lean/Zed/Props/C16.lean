/-
  C16 — pool-key pruning never changes a query's result.
  The property theorems and their lemmas.  Tables come from Zed.Generated.C16 (regenerated from
  /repo/compiler/optimizer/optimizer.go on every check).
-/
import Zed.Model.Pruner
namespace Zed.Props.C16
open Zed.Pruner

variable {K : Type}

/-- Coherence hypothesis between the filter's own comparison and `compare()`:
    whenever the filter comparison `a op b` is *true*, the three-way comparison agrees. -/
def Coherent (O : KeyOrder K) (holds : CmpOp → K → K → Bool) : Prop :=
  ∀ op a b, holds op a b = true → op.sem (O.cmp a b) = true

def Prunable (op : CmpOp) : Prop := Zed.Generated.C16.prunableOps.contains op.toStr = true

/-- Decidable form of the obligation on the regenerated `reverseComparator` table: the
    table yields *some* prunable operator `op'` such that `lit op key` being true implies
    `key op' lit` is true (the exact mirror image, or anything weaker — a weaker operator only
    prunes less).  -/
def revOk (op : CmpOp) : Bool :=
  match reverseComparator op with
  | some op' =>
    Zed.Generated.C16.prunableOps.contains op'.toStr &&
      [Ordering.lt, Ordering.eq, Ordering.gt].all fun o => !(op.sem o) || op'.sem o.swap
  | none => false

/-- Obligation on the regenerated `reverseComparator` table (see `revOk`). -/
theorem reverseComparator_sound (op : CmpOp) (hp : Prunable op) : revOk op = true := by
  unfold Prunable at *
  cases op <;> first
    | (exfalso; revert hp; decide)
    | decide

theorem reverseComparator_spec (op : CmpOp) (hp : Prunable op) :
    ∃ op', reverseComparator op = some op' ∧ Prunable op' ∧
      ∀ o : Ordering, op.sem o = true → op'.sem o.swap = true := by
  have h := reverseComparator_sound op hp
  unfold revOk at h
  split at h
  · rename_i op' heq
    refine ⟨op', heq, (Bool.and_eq_true_iff.1 h).1, fun o ho => ?_⟩
    have := List.all_eq_true.1 (Bool.and_eq_true_iff.1 h).2 o (by cases o <;> decide)
    simpa only [ho, Bool.not_true, Bool.false_or] using this
  · cases h

private theorem gt_iff_lt (O : KeyOrder K) {a b : K} : O.cmp a b = .gt ↔ O.cmp b a = .lt := by
  rw [O.swap b a, Ordering.swap_eq_gt]

private theorem le_iff_not_lt (O : KeyOrder K) {a b : K} : O.le a b ↔ O.cmp b a ≠ .lt :=
  not_congr (gt_iff_lt O)

private theorem lt_of_lt_of_le (O : KeyOrder K) {a b c : K}
    (hab : O.cmp a b = .lt) (hbc : O.le b c) : O.cmp a c = .lt :=
  Classical.byContradiction fun h =>
    O.le_trans b c a hbc ((le_iff_not_lt O).2 h) ((gt_iff_lt O).2 hab)

private theorem lt_of_le_of_lt (O : KeyOrder K) {a b c : K}
    (hab : O.le a b) (hbc : O.cmp b c = .lt) : O.cmp a c = .lt :=
  Classical.byContradiction fun h =>
    O.le_trans c a b ((le_iff_not_lt O).2 h) hab ((gt_iff_lt O).2 hbc)

private theorem le_refl (O : KeyOrder K) (a : K) : O.le a a :=
  fun h => absurd ((gt_iff_lt O).1 h ▸ h) (by decide)

/-- The regenerated `rangePrunerPred` table read as a function. -/
def prunerOf (lit : K) : CmpOp → Option (PExpr K)
  | .lt => some (.cmp .le (.lit lit) .min)
  | .le => some (.cmp .lt (.lit lit) .min)
  | .gt => some (.cmp .ge (.lit lit) .max)
  | .ge => some (.cmp .gt (.lit lit) .max)
  | .eq => some (.or (.cmp .gt .min (.lit lit)) (.cmp .lt .max (.lit lit)))
  | .ne => none

theorem rangePrunerPred_eq (op : CmpOp) (lit : K) :
    rangePrunerPred op lit = prunerOf lit op := by
  cases op <;> rfl

theorem rangePrunerPred_total (op : CmpOp) (hp : Prunable op) (lit : K) :
    (rangePrunerPred op lit).isSome = true := by
  rw [rangePrunerPred_eq]
  cases op
  case ne => exact absurd hp (by unfold Prunable; decide)
  all_goals rfl

/-- Obligation on the regenerated `rangePrunerPred` table: whenever the pruner expression for
    `key op lit` is true on `[lo,hi]`, no key in the range satisfies `key op lit`. -/
theorem rangePrunerPred_sound (O : KeyOrder K) {op : CmpOp} {lit lo hi k : K} {e : PExpr K}
    (he : rangePrunerPred op lit = some e) (hev : e.eval O lo hi = true)
    (hlo : O.le lo k) (hhi : O.le k hi) : op.sem (O.cmp k lit) = false := by
  rw [rangePrunerPred_eq] at he
  cases op <;> cases he <;>
    simp only [PExpr.eval, Arg.val, CmpOp.sem, beq_iff_eq, bne_iff_ne, Bool.or_eq_true,
      beq_eq_false_iff_ne, bne_eq_false_iff_eq] at hev ⊢
  case lt => exact (le_iff_not_lt O).1 (O.le_trans _ _ _ hev hlo)        -- lit ≤ lo ≤ k
  case le => exact (gt_iff_lt O).2 (lt_of_lt_of_le O hev hlo)            -- lit < lo ≤ k
  case gt => exact O.le_trans _ _ _ hhi ((le_iff_not_lt O).2 hev)        -- k ≤ hi ≤ lit
  case ge => exact lt_of_le_of_lt O hhi ((gt_iff_lt O).1 hev)            -- k ≤ hi < lit
  case eq =>
    have : O.cmp k lit = .gt ∨ O.cmp k lit = .lt :=
      hev.imp (fun h => (gt_iff_lt O).2 (lt_of_lt_of_le O ((gt_iff_lt O).1 h) hlo))
        (lt_of_le_of_lt O hhi)
    rcases this with h | h <;> rw [h] <;> decide

private theorem eq_false_of_imp {a b : Bool} (h : a = true → b = true) (hb : b = false) :
    a = false :=
  Bool.eq_false_iff.2 fun ha => Bool.false_ne_true (hb.symm.trans (h ha))

private theorem Coherent.holds_false {O : KeyOrder K} {holds : CmpOp → K → K → Bool}
    (coh : Coherent O holds) {op : CmpOp} {a b : K} (h : op.sem (O.cmp a b) = false) :
    holds op a b = false :=
  eq_false_of_imp (coh op a b) h

/-- and/or combine the sub-pruners dually: `a and b` may be pruned when either side may
    (`or`), `a or b` only when both may (`and`). -/
theorem combiner_shape :
    Zed.Generated.C16.andCombiner = "or" ∧ Zed.Generated.C16.orCombiner = "and" := ⟨rfl, rfl⟩

/-- **pruner_sound** (the property, object level).  For every filter predicate `p` — any
    and/or/not tree over key comparisons in either orientation and arbitrary non-key
    predicates — if `buildRangePruner` produces an expression `e` and `e` evaluates to true
    on an object's inclusive key range `[lo,hi]`, then `p` is not true of any value whose
    key lies in that range.  So skipping the object never drops a matching value. -/
theorem pruner_sound (O : KeyOrder K) (holds : CmpOp → K → K → Bool)
    (coh : Coherent O holds) (env : Nat → Bool) (p : Pred K) :
    ∀ (e : PExpr K), build p = some e →
    ∀ (lo hi k : K), O.le lo k → O.le k hi → e.eval O lo hi = true →
      p.eval holds env k = false := by
  -- the range and the key first: the induction is over `∀ e, build p = some e → …`
  suffices h : ∀ (lo hi k : K), O.le lo k → O.le k hi →
      ∀ e, build p = some e → e.eval O lo hi = true → p.eval holds env k = false from
    fun e hb lo hi k hlo hhi => h lo hi k hlo hhi e hb
  intro lo hi k hlo hhi
  fun_induction build p with
  | case1 a b _ _ ihb =>  -- `and`, no pruner for `a`
    exact fun e hb hev => Bool.and_eq_false_iff.2 (.inr (ihb e hb hev))
  | case2 a b _ _ iha _ =>  -- `and`, no pruner for `b`
    exact fun e hb hev => Bool.and_eq_false_iff.2 (.inl (iha e hb hev))
  | case3 a b l r hr hl iha ihb =>  -- `and`, both
    rw [combiner_shape.1]
    rintro _ ⟨⟩ hev
    exact Bool.and_eq_false_iff.2 ((Bool.or_eq_true_iff.1 hev).imp (iha l hl) (ihb r hr))
  | case4 a b l r hr hl iha ihb =>  -- `or`, both
    rw [combiner_shape.2]
    rintro _ ⟨⟩ hev
    exact Bool.or_eq_false_iff.2
      ⟨iha l hl (Bool.and_eq_true_iff.1 hev).1, ihb r hr (Bool.and_eq_true_iff.1 hev).2⟩
  | case6 op keyLeft lit hp =>  -- a prunable comparison
    intro e hb hev
    cases keyLeft with
    | true => exact coh.holds_false (rangePrunerPred_sound O hb hev hlo hhi)
    | false =>
      obtain ⟨op', hr, -, hsem⟩ := reverseComparator_spec op hp
      simp only [hr, Bool.false_eq_true, if_false, Option.bind] at hb
      have hs := rangePrunerPred_sound O hb hev hlo hhi
      rw [O.swap lit k] at hs
      exact coh.holds_false (eq_false_of_imp (hsem _) hs)
  | _ => nofun

private theorem pruned_none (O : KeyOrder K) (holds) (coh : Coherent O holds) (env : Nat → Bool)
    (p : Pred K) (e : PExpr K) (hb : build p = some e) {lo hi : K} {ks : List K}
    (hwf : ∀ k ∈ ks, O.le lo k ∧ O.le k hi) (hev : e.eval O lo hi = true) :
    ∀ k ∈ ks, p.eval holds env k = false :=
  fun k hk => pruner_sound O holds coh env p e hb lo hi k (hwf k hk).1 (hwf k hk).2 hev

private theorem flatMap_filter_of_nil {α β : Type} (q : α → Bool) (f : α → List β) :
    ∀ l : List α, (∀ x ∈ l, q x = false → f x = []) → (l.filter q).flatMap f = l.flatMap f
  | [], _ => rfl
  | x :: l, h => by
    have ih := flatMap_filter_of_nil q f l fun y hy => h y (List.mem_cons_of_mem _ hy)
    cases hq : q x
    · rw [List.filter_cons_of_neg (by rw [hq]; decide), List.flatMap_cons,
        h x List.mem_cons_self hq, ih]; rfl
    · rw [List.filter_cons_of_pos hq, List.flatMap_cons, List.flatMap_cons, ih]

/-- **seek_sound**: the same pruner applied to seek-index entries.  Every entry whose key
    range contains a key for which the predicate is true is kept. -/
theorem seek_sound (O : KeyOrder K) (holds) (coh : Coherent O holds) (env : Nat → Bool)
    (p : Pred K) (e : PExpr K) (hb : build p = some e)
    (entries : List (K × K)) (r : K × K) (hr : r ∈ entries)
    (k : K) (hlo : O.le r.1 k) (hhi : O.le k r.2) (hk : p.eval holds env k = true) :
    r ∈ seekKeep O e entries := by
  refine List.mem_filter.2 ⟨hr, ?_⟩
  cases hev : e.eval O r.1 r.2
  · rfl
  · rw [pruner_sound O holds coh env p e hb r.1 r.2 k hlo hhi hev] at hk; cases hk

/-- **scan_pruned_equiv**: list-level statement.  Objects are (lo, hi, values) with every
    value's key inside `[lo,hi]`; scanning only the objects the pruner keeps and filtering
    yields the same values as scanning all objects and filtering. -/
theorem scan_pruned_equiv (O : KeyOrder K) (holds) (coh : Coherent O holds) (env : Nat → Bool)
    (p : Pred K) (e : PExpr K) (hb : build p = some e)
    (objs : List (K × K × List K))
    (hwf : ∀ o ∈ objs, ∀ k ∈ o.2.2, O.le o.1 k ∧ O.le k o.2.1) :
    ((objs.filter fun o => !(e.eval O o.1 o.2.1)).flatMap fun o =>
        o.2.2.filter (p.eval holds env)) =
    (objs.flatMap fun o => o.2.2.filter (p.eval holds env)) :=
  flatMap_filter_of_nil _ _ objs fun o ho hq => List.filter_eq_nil_iff.2 fun k hk =>
    Bool.eq_false_iff.1
      (pruned_none O holds coh env p e hb (hwf o ho) (by simpa using hq) k hk)

/-- **delete_pruned_equiv**: predicate delete.  The deleter rewrites every object the pruner
    keeps with the values for which the predicate is not true and leaves pruned objects
    untouched; what remains is exactly "everything minus the values the predicate is true of",
    i.e. pruning never makes a predicate delete miss a value. -/
theorem delete_pruned_equiv (O : KeyOrder K) (holds) (coh : Coherent O holds) (env : Nat → Bool)
    (p : Pred K) (e : PExpr K) (hb : build p = some e)
    (objs : List (K × K × List K))
    (hwf : ∀ o ∈ objs, ∀ k ∈ o.2.2, O.le o.1 k ∧ O.le k o.2.1) :
    (objs.flatMap fun o =>
        if e.eval O o.1 o.2.1 then o.2.2 else o.2.2.filter fun k => !(p.eval holds env k)) =
    (objs.flatMap fun o => o.2.2.filter fun k => !(p.eval holds env k)) := by
  simp only [List.flatMap_def]
  congr 1
  refine List.map_congr_left fun o ho => ?_
  cases hev : e.eval O o.1 o.2.1
  · rfl
  · exact (List.filter_eq_self.2 fun k hk => by
      rw [pruned_none O holds coh env p e hb (hwf o ho) hev k hk]; rfl).symm

/-- Obligation on the regenerated writer facts: Min is taken from the first value only, Max
    from every value, and both Close and flushSeekIndex swap them for descending pools. -/
theorem writer_bound_facts : minOnFirstOnly = true ∧ maxAlways = true ∧ descSwapped = true := by
  simp only [minOnFirstOnly, maxAlways, descSwapped, Zed.Generated.C16.objectMinGuard,
    Zed.Generated.C16.objectMaxGuard, Zed.Generated.C16.descSwapClose,
    Zed.Generated.C16.descSwapflushSeekIndex, beq_self_eq_true, Bool.and_self, and_self]

private theorem writerBounds_cons (desc : Bool) (k : K) (ks : List K) :
    writerBounds desc (k :: ks) =
      some (if desc then ((k :: ks).getLast (by simp), k) else (k, (k :: ks).getLast (by simp))) := by
  simp only [writerBounds, writer_bound_facts, Bool.and_self, if_true]
  cases desc <;> rfl

private theorem first_last_bound (R : K → K → Prop) (hrefl : ∀ a, R a a) :
    ∀ (a : K) (rest : List K), (a :: rest).Pairwise R →
      ∀ x ∈ a :: rest, R a x ∧ R x ((a :: rest).getLast (by simp))
  | a, [], _, x, hx => by
    obtain rfl : x = a := by simpa using hx
    exact ⟨hrefl x, hrefl x⟩
  | a, b :: rest, hp, x, hx => by
    rw [List.getLast_cons (by simp)]
    obtain ⟨hab, hp'⟩ := List.pairwise_cons.1 hp
    rcases List.mem_cons.1 hx with rfl | hx'
    · exact ⟨hrefl x, hab _ (List.getLast_mem _)⟩
    · exact ⟨hab x hx', (first_last_bound R hrefl b rest hp' x hx').2⟩

/-- **object_bounds_sound**: for values written in pool order (ascending: non-decreasing keys;
    descending: non-increasing keys) the (min, max) the writer stores for an object — and, by
    the same code, for every seek-index entry — bound every key written:
    `min ≤ k ≤ max` in the ascending sense, whatever the pool order.  This discharges, for the
    writer model, the hypothesis `hwf` of `scan_pruned_equiv` / `delete_pruned_equiv` and the
    range hypotheses of `seek_sound`. -/
theorem object_bounds_sound (O : KeyOrder K) (desc : Bool) (keys : List K)
    (hsorted : if desc then keys.Pairwise (fun a b => O.le b a) else keys.Pairwise (fun a b => O.le a b))
    (lo hi : K) (hb : writerBounds desc keys = some (lo, hi)) :
    ∀ k ∈ keys, O.le lo k ∧ O.le k hi := by
  cases keys with
  | nil => cases hb
  | cons a rest =>
    rw [writerBounds_cons] at hb
    intro k hk
    cases desc with
    | false =>
      obtain ⟨rfl, rfl⟩ : a = lo ∧ _ = hi := by simpa using hb
      exact first_last_bound _ (le_refl O) a rest hsorted k hk
    | true =>
      obtain ⟨rfl, rfl⟩ : _ = lo ∧ a = hi := by simpa using hb
      exact (first_last_bound (fun a b => O.le b a) (le_refl O) a rest hsorted k hk).symm

/-- Non-vacuity: a descending object holding null, 9, 5 is recorded as [5, null]. -/
example : writerBounds true [none, some (9 : Int), some 5] = some (some 5, none) :=
  writerBounds_cons ..

/-! ### Non-vacuity: a concrete key order satisfying the hypotheses. -/

def optIntOrder : KeyOrder (Option Int) where
  cmp := optIntCmp
  swap := by
    intro a b
    cases a <;> cases b <;> simp [optIntCmp, Ordering.swap]
    exact Std.OrientedCmp.eq_swap
  le_trans := by
    intro a b c
    cases a <;> cases b <;> cases c <;> simp [optIntCmp, Int.compare_eq_gt] <;> omega

def optIntHolds (op : CmpOp) (a b : Option Int) : Bool :=
  match a, b with
  | some x, some y => op.sem (compare x y)
  | _, _ => false      -- a comparison with null is never *true* in the filter

theorem optIntCoherent : Coherent optIntOrder optIntHolds := by
  intro op a b h
  cases a <;> cases b <;> simp_all [optIntHolds, optIntOrder, optIntCmp]

/-- `5 <= key and key < 9 and other` over an object `[9, null]` is pruned; over `[5,8]` not. -/
example :
    (build (.and (.and (.cmp .le false (some 5)) (.cmp .lt true (some 9))) (.other 0))).map
      (fun e => (e.eval optIntOrder (some 9) none, e.eval optIntOrder (some 5) (some 8)))
    = some (true, false) := by decide

/-! ### A second instance: cross-type keys (numbers < strings < null), as the lake orders them
    with nullsMax, and a filter in which comparisons across types or with null are never true. -/

inductive XKey where
  | num (n : Int)
  | str (s : List UInt8)
  | null
  deriving DecidableEq, Repr

def xcmp : XKey → XKey → Ordering
  | .num a, .num b => compare a b
  | .num _, _ => .lt
  | .str _, .num _ => .gt
  | .str a, .str b => compare a b
  | .str _, .null => .lt
  | .null, .null => .eq
  | .null, _ => .gt

private theorem isLE_iff (o : Ordering) : o.isLE = true ↔ o ≠ .gt := by
  cases o <;> simp [Ordering.isLE]

def xOrder : KeyOrder XKey where
  cmp := xcmp
  swap := by
    intro a b
    cases a <;> cases b <;> simp [xcmp, Ordering.swap] <;> exact Std.OrientedCmp.eq_swap
  le_trans := by
    intro a b c
    cases a <;> cases b <;> cases c <;> simp [xcmp]
    · intro h1 h2
      exact (isLE_iff _).1 (Std.TransCmp.isLE_trans ((isLE_iff _).2 h1) ((isLE_iff _).2 h2))
    · intro h1 h2
      exact (isLE_iff _).1 (Std.TransCmp.isLE_trans ((isLE_iff _).2 h1) ((isLE_iff _).2 h2))

def xHolds (op : CmpOp) (a b : XKey) : Bool :=
  match a, b with
  | .num x, .num y => op.sem (compare x y)
  | .str x, .str y => op.sem (compare x y)
  | _, _ => false

theorem xCoherent : Coherent xOrder xHolds := by
  intro op a b h
  cases a <;> cases b <;> simp_all [xHolds, xOrder, xcmp]

/-- `"b" <= key` over an object whose keys run from the number 7 to the string "a" is pruned;
    over `[7, null]` it is not (strings may lie in between). -/
example :
    (build (.cmp .le false (XKey.str [98]))).map
      (fun e => (e.eval xOrder (.num 7) (.str [97]), e.eval xOrder (.num 7) .null))
    = some (true, false) := by decide

/-! ### Obligations on the remaining regenerated facts the model relies on -/

/-- The pruner compares with `compare(lhs, rhs, nullsMax = true) op 0` (the model's
    `PExpr.cmp` and `KeyOrder` assume exactly this shape). -/
theorem compare_shape :
    Zed.Generated.C16.compareCall = "compare(lhs,rhs,·)" ∧
    Zed.Generated.C16.compareNullsMax = "true" ∧
    Zed.Generated.C16.compareAgainst = "0" := ⟨rfl, rfl, rfl⟩

/-- `literalComparison` recognises exactly `key op literal` (operator kept) and
    `literal op key` (operator passed through `reverseComparator`), as `build` does. -/
theorem literalComparison_shape :
    Zed.Generated.C16.literalComparisonShape =
      [("*dag.This", "*dag.Literal", "lhs,rhs,e.Op"),
       ("*dag.Literal", "*dag.This", "rhs,lhs,reverseComparator(e.Op)")] := rfl

end Zed.Props.C16

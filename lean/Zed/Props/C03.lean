/-
  C03 — VNG columnar round trip is the identity for both read paths; projection soundness.
  Property theorems only.  The lemmas are in Zed/Proofs/Vng*.lean (row path; Counter.lean for the dictionary
  statistics) and Zed/Proofs/Vec*.lean (vector path, projection); the model in Zed/Model/Vng*.lean and
  Zed/Model/Vec{Load,Project,Guard}.lean; the parameters and tables in Zed.Generated.C03 are regenerated from
  /repo (vng/*.go, runtime/vcache/*.go, vector/*.go, type.go) on every check.
-/
import Zed.Proofs.VngNulls
import Zed.Proofs.VngPrimitive
import Zed.Proofs.VngColumns
import Zed.Proofs.VecLoad
import Zed.Proofs.VecProject
import Zed.Proofs.VecTop
namespace Zed.Props.C03
open Zed.Vng Zed.Generated.C03

/-- The small functions the model mirrors by hand (encoders, builders, the loader's null
    flattening, the vectors' `Serialize`) have exactly the normalised source the model was
    validated against.  An edit of any of them re-opens this obligation: the check then runs
    the thorough search on the real code. -/
theorem modelled_sources_unchanged : pinnedSources =
  [("vng/nulls.go:NullsEncoder.Write", "6510f11a29b7"),
   ("vng/nulls.go:NullsEncoder.touchValue", "4efe365b54cc"),
   ("vng/nulls.go:NullsEncoder.touchNull", "4a57224bb7e7"),
   ("vng/nulls.go:NullsEncoder.Encode", "16c0e3d38937"),
   ("vng/nulls.go:NullsEncoder.Metadata", "253838a0a3d9"),
   ("vng/nulls.go:NullsEncoder.Emit", "8daf09245622"),
   ("vng/nulls.go:NullsBuilder.Build", "2a00c0866a15"),
   ("vng/primitive.go:PrimitiveEncoder.Write", "81caac8c9290"),
   ("vng/primitive.go:PrimitiveEncoder.update", "f5cd0ae7c424"),
   ("vng/primitive.go:PrimitiveEncoder.Encode", "1514f5e8257d"),
   ("vng/primitive.go:PrimitiveEncoder.makeDictVector", "38bc02c2b8a1"),
   ("vng/primitive.go:PrimitiveEncoder.Const", "b1cfca02ffb2"),
   ("vng/primitive.go:PrimitiveEncoder.Metadata", "2c7e19c5fa9a"),
   ("vng/primitive.go:PrimitiveEncoder.Emit", "7208258e7b75"),
   ("vng/primitive.go:PrimitiveEncoder.makeDict", "709baf2b9a4d"),
   ("vng/primitive.go:PrimitiveBuilder.ReadBytes", "1888a6b8f72c"),
   ("vng/primitive.go:DictBuilder.ReadBytes", "3330e814c5ac"),
   ("vng/primitive.go:ConstBuilder.Build", "ae7a432bb575"),
   ("vng/dynamic.go:DynamicEncoder.Write", "fd83227ac9c3"),
   ("vng/dynamic.go:DynamicEncoder.Encode", "f35ec71185ee"),
   ("vng/dynamic.go:DynamicEncoder.Emit", "275c13c0c503"),
   ("vng/dynamic.go:dynamicBuilder.Read", "1ed27076fa56"),
   ("vng/dynamic.go:NewZedReader", "e81aa9d25726"),
   ("vng/dynamic.go:vectorBuilder.Read", "eaf1d5186f13"),
   ("vng/record.go:RecordEncoder.Write", "b04fc74eb393"),
   ("vng/record.go:RecordEncoder.Metadata", "6b69fcd60365"),
   ("vng/record.go:RecordEncoder.Emit", "944bb9bbe7f0"),
   ("vng/record.go:RecordBuilder.Build", "64f0aeda3086"),
   ("vng/array.go:ArrayEncoder.Write", "74d1b9b6bd2e"),
   ("vng/array.go:ArrayEncoder.Metadata", "2fbb2d6cdc0d"),
   ("vng/array.go:ArrayEncoder.Emit", "ba822ab09f45"),
   ("vng/array.go:ArrayBuilder.Build", "ce1f8b9e4ddb"),
   ("vng/array.go:SetEncoder.Metadata", "931d01068006"),
   ("vng/map.go:MapEncoder.Write", "8eb5b6545924"),
   ("vng/map.go:MapEncoder.Metadata", "6025c71647df"),
   ("vng/map.go:MapEncoder.Emit", "cd47aeef43f9"),
   ("vng/map.go:MapBuilder.Build", "0c9d489fd875"),
   ("vng/union.go:UnionEncoder.Write", "ba868b538535"),
   ("vng/union.go:UnionEncoder.Metadata", "c0c55d29c159"),
   ("vng/union.go:UnionEncoder.Emit", "a526a2319a1a"),
   ("vng/union.go:UnionBuilder.Build", "adbe830824eb"),
   ("vng/encoder.go:NamedEncoder.Metadata", "f0b9016959d9"),
   ("vng/encoder.go:ErrorEncoder.Metadata", "015b4028fc06"),
   ("vng/int.go:Int64Encoder.Write", "403a06013266"),
   ("vng/int.go:Int64Decoder.Next", "72b183c129a4"),
   ("runtime/vcache/nulls.go:nulls.fetch", "52fdd6821281"),
   ("runtime/vcache/nulls.go:nulls.flatten", "95140fb66582"),
   ("runtime/vcache/nulls.go:convolve", "e294ae5477e6"),
   ("runtime/vcache/loader.go:loader.load", "56884bf57c3f"),
   ("runtime/vcache/loader.go:loader.loadPrimitive", "5300522c4557"),
   ("runtime/vcache/loader.go:loader.loadVals", "a47423d8db1e"),
   ("runtime/vcache/loader.go:empty", "e3a4ec5721da"),
   ("runtime/vcache/loader.go:loader.loadOffsets", "1c55a22b0eb4"),
   ("runtime/vcache/loader.go:loader.loadUint32", "ac025edd27a8"),
   ("runtime/vcache/loader.go:loader.loadRecord", "59e7c11b3ead"),
   ("runtime/vcache/loader.go:loader.loadUnion", "672ec330fcf8"),
   ("runtime/vcache/loader.go:flattenNulls", "38c27999f3c1"),
   ("runtime/vcache/shadow.go:newShadow", "a2406cbd01f3"),
   ("runtime/vcache/project.go:project", "67a04832c817"),
   ("runtime/vcache/project.go:projectRecord", "6c81e1981b6f"),
   ("runtime/vcache/project.go:projectDynamic", "85d96f997af2"),
   ("runtime/vcache/project.go:projectUnion", "0bc3056dcd97"),
   ("runtime/vcache/path.go:insertPath", "af0e8fcefe2b"),
   ("runtime/vcache/path.go:addToFork", "f2a9c21c37c2"),
   ("runtime/vam/materialize.go:Materializer.Pull", "275da227144b"),
   ("vector/record.go:Record.Serialize", "24580b3056a2"),
   ("vector/array.go:Array.Serialize", "c8bdc5a233fe"),
   ("vector/set.go:Set.Serialize", "f47520a51168"),
   ("vector/map.go:Map.Serialize", "92d7dc9d2544"),
   ("vector/union.go:Union.Serialize", "f018e2f43b62"),
   ("vector/dynamic.go:Dynamic.Serialize", "afcd38fa6594"),
   ("vector/dynamic.go:Dynamic.TypeOf", "4c89b046efb9"),
   ("vector/tagmap.go:NewTagMapFromLens", "960075891b3f"),
   ("vector/const.go:Const.Serialize", "7baaeab6d373"),
   ("vector/dict.go:Dict.Serialize", "8e31dcd06eb3"),
   ("vector/error.go:Error.Serialize", "30b1be055311"),
   ("vector/string.go:String.Serialize", "568f9532a5bd"),
   ("vector/bool.go:Bool.Value", "bb7550a1a991")] := rfl

/-- `vng.NewEncoder`: which encoder is built for which type (every non-wrapper encoder sits
    inside a `NullsEncoder`; named and error types wrap the encoder of the inner type). -/
theorem encoder_switch_as_modelled : encoderSwitch =
  [("TypeNamed", "&NamedEncoder{NewEncoder(typ.Type), typ.Name}"),
   ("TypeError", "&ErrorEncoder{NewEncoder(typ.Type)}"),
   ("TypeRecord", "NewNullsEncoder(NewRecordEncoder(typ))"),
   ("TypeArray", "NewNullsEncoder(NewArrayEncoder(typ))"),
   ("TypeSet", "NewNullsEncoder(NewSetEncoder(typ))"),
   ("TypeMap", "NewNullsEncoder(NewMapEncoder(typ))"),
   ("TypeUnion", "NewNullsEncoder(NewUnionEncoder(typ))"),
   ("default", "NewNullsEncoder(NewPrimitiveEncoder(typ, true))")] := rfl

/-- `vng.NewBuilder`: which builder reads which metadata node. -/
theorem builder_switch_as_modelled : builderSwitch =
  [("nil", "return nil, nil"),
   ("Nulls", "inner, err := NewBuilder(meta.Values, r) ; if err != nil { return nil, err } ; return NewNullsBuilder(inner, meta.Runs, r), nil"),
   ("Named", "return NewBuilder(meta.Values, r)"),
   ("Error", "return NewBuilder(meta.Values, r)"),
   ("Record", "return NewRecordBuilder(meta, r)"),
   ("Array", "return NewArrayBuilder(meta, r)"),
   ("Set", "return NewArrayBuilder((*Array)(meta), r)"),
   ("Map", "return NewMapBuilder(meta, r)"),
   ("Union", "return NewUnionBuilder(meta, r)"),
   ("Primitive", "if len(meta.Dict) != 0 { return NewDictBuilder(meta, r), nil } ; return NewPrimitiveBuilder(meta, r), nil"),
   ("Const", "return NewConstBuilder(meta), nil"),
   ("default", "return nil, fmt.Errorf(\"unknown VNG metadata type: %T\", meta)")] := rfl

/-- The metadata node kinds that can be (un)marshalled are the ones the model has. -/
theorem metadata_template_as_modelled : metadataTemplate =
  ["Record", "Array", "Set", "Map", "Union", "Primitive", "Named", "Error", "Nulls", "Const", "Dynamic"] := rfl

/-- **nulls_roundtrip.**  For every sequence of optional bodies, reading the run-length
    coded column back (`NullsBuilder` driven `Nulls.Len()` times, or the bare values when no
    `Nulls` node was emitted) yields the sequence. -/
theorem nulls_roundtrip {α : Type} (xs : List (Option α)) :
    nullsDecode (nullsEncode xs) = some xs :=
  nullsDecode_nullsEncode xs

/-- The bitmap the vector loader rebuilds (`nulls.fetch`) from the encoder's runs is the
    null pattern of the input. -/
theorem nulls_fetch_correct {α : Type} (xs : List (Option α)) :
    nullsFetch false (nullsEncode xs).runs = xs.map Option.isNone :=
  nullsFetch_nullsEncode xs

example : nullsEncode [none, none, some 7, none, some 8, some 9] =
    { runs := [0, 2, 1, 1, 2], count := 3, values := [7, 8, 9] } := by decide
example : (nullsEncode [some 1, some 2]).count = 0 := by decide

/-- **dict_boundary.**  Every dictionary that survives the overflow test of
    `PrimitiveEncoder.update` fits the selector type of `makeDictVector` — an obligation on
    the regenerated `MaxDictSize`, overflow operator and selector width (256 entries fit a
    byte, 257 do not). -/
theorem dict_boundary (n : Nat) (h : dictOverflow n = false) : n ≤ 2 ^ selectorBits :=
  dictOverflow_bound n h

/-- **encoding_choice_irrelevant.**  Whatever the statistics select — plain, dictionary or
    const; with or without a dictionary for the type — the builder returns the bodies that
    were written, in order. -/
theorem encoding_choice_irrelevant (id : Nat) (useDict : Bool) (xs : List Bytes) :
    (primEncode id useDict xs).build = some xs :=
  primEncode_build id useDict xs

/-- **dict_roundtrip**: the dictionary case of the above, spelled out. -/
theorem dict_roundtrip (id : Nat) (xs : List Bytes) (es : List (Bytes × Nat)) (sel : List Nat) (c : Nat)
    (h : primEncode id true xs = .dict es sel c) : dictBuild es sel = some xs := by
  have := primEncode_build id true xs
  rw [h] at this; exact this

/-- **const_roundtrip**: the const case (exactly one distinct value). -/
theorem const_roundtrip (id : Nat) (xs : List Bytes) (v : Bytes) (c : Nat)
    (h : primEncode id true xs = .const v c) : List.replicate c v = xs := by
  have := primEncode_build id true xs
  rw [h] at this; exact Option.some.inj this

theorem prim_len (id : Nat) (useDict : Bool) (xs : List Bytes) :
    (primEncode id useDict xs).len = xs.length :=
  primEncode_len id useDict xs

-- non-vacuity: each of the three encodings is selected by some input
example : primEncode 9 true [[1], [2], [1]] = .dict [([1], 2), ([2], 1)] [0, 1, 0] 3 := by decide
example : primEncode 9 true [[5], [5]] = .const [5] 2 := by decide
example : primEncode 0 true [[1], [2]] = .plain [[1], [2]] 2 := by decide   -- uint8: no dictionary
example : primEncode 9 true [] = .plain [] 0 := by decide

/-- **vng_roundtrip_column.**  For every type (primitive, enum, record, array, set, map,
    union, named, error, nested arbitrarily) and every list of well-formed bodies written to
    its encoder, the builder reads the same bodies back; `Metadata.Len` is the number of
    bodies and `Metadata.Type` the type. -/
theorem vng_roundtrip_column (t : Ty) (vs : List Val) (h : ∀ v ∈ vs, conforms t v = true) :
    dec (enc t vs) = some vs ∧ colLen (enc t vs) = vs.length ∧ colType (enc t vs) = t :=
  enc_spec t vs h

/-- **vng_roundtrip_rows.**  Writing any sequence of well-formed typed values — any number
    of top-level types, interleaved in any order — and reading it through the
    row-reconstructing reader yields the identical sequence in the original order. -/
theorem vng_roundtrip_rows (vs : List (Ty × Val)) (h : ∀ p ∈ vs, conforms p.1 p.2 = true) :
    readRows (encTop vs) = some vs :=
  readRows_encTop vs h

-- non-vacuity: a conforming sequence with two interleaved types, nulls, a union and a map
example : (let t1 := Ty.record (.cons [97] (.prim 9) (.cons [98] (.array (.prim 25)) .nil))
           let t2 := Ty.union (.cons (.prim 9) (.cons (.map (.prim 25) (.prim 9)) .nil))
           let vs : List (Ty × Val) :=
             [(t1, .cont (.cons (.prim [1]) (.cons .null .nil))), (t2, .union 1 (.cont (.cons (.prim [120]) (.cons .null .nil)))),
              (t1, .null), (t2, .union 0 (.prim [2])), (t1, .cont (.cons .null (.cons (.cont (.cons (.prim []) .nil)) .nil)))]
           vs.all (fun p => conforms p.1 p.2) && (readRows (encTop vs) == some vs)) = true := by decide +kernel

/-- **convolve_correct.**  `convolve(parent, child)` keeps the parent's nulls and re-indexes
    the child's bits past them: it is the child's bitmap placed into the parent's non-null
    slots. -/
theorem convolve_correct (P C : List Bool) (h : P.count false = C.length) :
    convolve P C = (place P C).map (·.getD true) :=
  convolve_eq_place P C h

/-- … and consequently: a column with its own nulls, expanded into its parent's slots, is its
    non-null values expanded into the slots of the convolved bitmap (whose null count is the
    sum of both). -/
theorem convolve_flattens (P : List Bool) (vs : List Val) (hlen : P.count false = vs.length) :
    expandVal P vs = expandVal (convolve P (vs.map Val.isNull)) (nonNull vs) ∧
    (convolve P (vs.map Val.isNull)).length = P.length ∧
    (convolve P (vs.map Val.isNull)).count false = (nonNull vs).length ∧
    (convolve P (vs.map Val.isNull)).count true = P.count true + (vs.map Val.isNull).count true :=
  ⟨expandVal_convolve P vs hlen, convolve_length _ _, convolve_count_false P vs hlen,
    convolve_count_true P _ (by rw [List.length_map]; exact hlen)⟩

/-- **vec_leaf_correct.**  A primitive column of any primitive type (net included since /repo 496cea1e9; not enum)
    loaded under ANY flattened bitmap, whichever of plain / dictionary / const it was stored as: slot `s` serialises to
    null where the bitmap says so and to the `rank s`-th written value elsewhere. -/
theorem vec_leaf_correct (t : Ty) (id : Nat) (nn : List Val) (b : Bitmap) (F : List Bool)
    (hR : Rep b F) (hcnt : F.count false = nn.length) (hprim : ∀ v ∈ nn, ∃ x, v = .prim x)
    (hE : isEnumTy t = false) (hnull : isNullTy t = true → nn = []) :
    ∃ v, loadLeaf t (primEncode id true (nn.map Val.primBytes))
        (F.count true + (primEncode id true (nn.map Val.primBytes)).len) b = some v ∧
      vecType v = t ∧ SlotSpec v F nn := by
  have := loadLeaf_build t _ _ b F (primEncode_build id true (nn.map Val.primBytes))
    (primEncode_len id true _) hR (by rw [List.length_map]; exact hcnt) hE
    (fun h => by rw [hnull h]; rfl)
  rwa [map_prim_primBytes nn hprim] at this

/-- **vng_roundtrip_vectors_partial.**  Guard `seqOK vs` (Model/VecGuard.lean): for every
    top-level type of the object, the column avoids the recorded defect classes (a sufficient
    condition, not their exact complement: a const-encoded enum column loads) — no enum
    column, no union column with a null slot (a null union value, or a union below a record
    column that contains a null), no error-typed column below a record column that contains a
    null.  Then for EVERY sequence of well-formed typed values — any number of top-level
    types interleaved in any order, records / arrays / sets / maps / unions / named / error
    types nested arbitrarily, nulls at every level, any of the plain / dictionary / const
    encodings — loading the object through the vector cache and materialising it yields the
    identical sequence in the original order.

    Full statement (no guard) — FALSE of the current code: `not_vng_roundtrip_vectors`. -/
theorem vng_roundtrip_vectors_partial (vs : List (Ty × Val))
    (hconf : ∀ p ∈ vs, conforms p.1 p.2 = true) (hok : seqOK vs = true) :
    readVec [] (encTop vs) = some vs :=
  readVec_encTop vs hconf hok

/-- the same for one column (`okV t vs false`: the guard for a top-level column), with the
    slot-wise statement. -/
theorem vng_roundtrip_vectors_column (t : Ty) (vs : List Val)
    (hconf : ∀ v ∈ vs, conforms t v = true) (hok : okV t vs false = true) :
    ∃ v, load (enc t vs) none 0 none = some v ∧ vecType v = t ∧ v.len = vs.length ∧
      (∀ i, i < vs.length → serialize v i = vs[i]?) ∧
      materialize v = some (vs.map fun x => (t, x)) := by
  obtain ⟨v, h1, h2, h3, _, _, h4, h5⟩ := load_top_all t vs hconf hok
  exact ⟨v, h1, h2, h3, h4, h5⟩

/-- … and below a chain of enclosing records whose flattened nulls are `Fp`: every child
    column's nulls are convolved with those of all enclosing records (`LoadSpecG`). -/
theorem vng_vectors_under_parent (t : Ty) : LoadSpecG t :=
  loadSpec_all t

/-- data-independent corollary: for types built from primitive types, records and named
    types the guard always holds. -/
theorem vng_roundtrip_vectors_flat (t : Ty) (hflat : flatTy t = true) (vs : List Val)
    (hconf : ∀ v ∈ vs, conforms t v = true) :
    ∃ v, load (enc t vs) none 0 none = some v ∧ vecType v = t ∧ v.len = vs.length ∧
      (∀ i, i < vs.length → serialize v i = vs[i]?) ∧
      materialize v = some (vs.map fun x => (t, x)) :=
  vng_roundtrip_vectors_column t vs hconf (flatTy_okV t hflat vs false)

-- non-vacuity of the guard: arrays of records, a map, a union without null slots, an error
example : seqOK
    [(.array (.record (.cons [120] (.prim 9) .nil)), .cont (.cons (.cont (.cons (.prim [2]) .nil)) (.cons .null .nil))),
     (.map (.prim 25) (.prim 9), .cont (.cons (.prim [107]) (.cons .null .nil))),
     (.array (.record (.cons [120] (.prim 9) .nil)), .null),
     (.union (.cons (.prim 9) (.cons (.prim 25) .nil)), .union 1 (.prim [115])),
     (.error (.prim 25), .prim [101])] = true := by decide

-- non-vacuity: a nested record type with a named field is in the fragment; a concrete run
example : flatTy (.record (.cons [97] (.prim 9) (.cons [114] (.record (.cons [120] (.named [110] (.prim 25)) .nil)) .nil))) = true := by decide
example : readVec [] (encTop
    [(.record (.cons [97] (.prim 9) .nil), .cont (.cons (.prim [2]) .nil)), (.record (.cons [97] (.prim 9) .nil), .null),
     (.record (.cons [97] (.prim 9) .nil), .cont (.cons .null .nil))]) =
    some [(.record (.cons [97] (.prim 9) .nil), .cont (.cons (.prim [2]) .nil)), (.record (.cons [97] (.prim 9) .nil), .null),
     (.record (.cons [97] (.prim 9) .nil), .cont (.cons .null .nil))] := by decide

/-- **not_vng_roundtrip_vectors**: the vector path fails (error or panic) on an enum column,
    on a union column with a null slot and on an error-typed field below a record column that
    contains a null.  (A net column in plain encoding failed too until /repo 496cea1e9.)  (The harness replays the
    same witnesses on the real code.) -/
theorem not_vng_roundtrip_vectors :
    -- enum a|b: values 0, 1
    readVec [] (encTop [(.enum [[97], [98]], .prim []), (.enum [[97], [98]], .prim [1])]) = none ∧
    -- {u:null} {u:7((int64,string))}
    readVec [] (encTop
      [(.record (.cons [117] (.union (.cons (.prim 9) (.cons (.prim 25) .nil))) .nil), .cont (.cons .null .nil)),
       (.record (.cons [117] (.union (.cons (.prim 9) (.cons (.prim 25) .nil))) .nil), .cont (.cons (.union 0 (.prim [14])) .nil))]) = none ∧
    -- null {e:error(1)} {e:error(2)}
    readVec [] (encTop
      [(.record (.cons [101] (.error (.prim 9)) .nil), .null),
       (.record (.cons [101] (.error (.prim 9)) .nil), .cont (.cons (.prim [2]) .nil)),
       (.record (.cons [101] (.error (.prim 9)) .nil), .cont (.cons (.prim [4]) .nil))]) = none := by
  decide +kernel

/-- **load_total — FALSE**: the writer stores every non-container type as a primitive column,
    enum included, and the loader has no enum case (`loadVals` falls through to an error,
    `loadDict` and `empty` panic). -/
theorem not_load_total :
    "TypeEnum" ∉ loadValsCases.map (·.1) ∧ loadValsFallthrough = "error" ∧
    "TypeEnum" ∉ loadDictCases ∧ loadDictDefault = "panic" ∧
    "TypeEnum" ∉ emptyCases ∧ emptyDefault = "panic" := by decide +kernel

/-- … and what does hold: every primitive type `LookupPrimitiveByID` implements has a case in
    `loadVals` and `empty`, every one that can be dictionary encoded (not in the 8-bit
    exclusion list, not the null type) has a case in `loadDict`, and EVERY case of `loadVals`
    allocates its slice before indexing it (the `net` case since /repo 496cea1e9; a `"nil-slice"` entry for `TypeOfNet` in the regenerated
    `loadValsCases` would make `netAllocated` false and `loadLeaf` fail on plain `net` columns). -/
theorem load_total_partial :
    (∀ p ∈ primitiveTypes, p.2 ∈ loadValsCases.map (·.1) ∧ p.2 ∈ emptyCases) ∧
    (∀ p ∈ primitiveTypes, p.1 ∉ dictExcludedIDs → p.1 ≠ 29 → p.2 ∈ loadDictCases) ∧
    (∀ c ∈ loadValsCases, c.2 = "alloc") ∧ netAllocated = true :=
  have h : (∀ p ∈ primitiveTypes, p.2 ∈ loadValsCases.map (·.1) ∧ p.2 ∈ emptyCases) ∧
      (∀ p ∈ primitiveTypes, p.1 ∉ dictExcludedIDs → p.1 ≠ 29 → p.2 ∈ loadDictCases) := by decide +kernel
  ⟨h.1, h.2, loadVals_alloc, netAllocated_true⟩

-- a net leaf stored plain loads
example : (loadLeaf (.prim 27) (.plain [[10, 0, 0, 0, 24]] 1) 1 none).isSome = true := by
  simp [loadLeaf, isEnumTy, isNullTy, isNetTy, netAllocated_true]

/-- the recursive walks of the loader have the same case lists, one case fewer than `newShadow`
    builds node kinds (the lists have no `Nulls` case; only the number is compared). -/
theorem loader_walks_total :
    loadVectorCases = fetchNullsCases ∧ loadVectorCases = flattenNullsCases ∧
    loadVectorCases = projectCases ∧ loadVectorCases.length = newShadowCases.length - 1 :=
  ⟨rfl, rfl, rfl, rfl⟩

/-- **projection_sound_partial.**  Guard `okV t vs false` (the column is outside the defect
    classes above).  For every set of field paths (`mkProj` is `vcache.NewProjection`, with the
    code's path-tree insertion) and every list of well-formed values of ANY type, the
    projection of the loaded vectors has the projected type and yields, slot by slot, exactly
    the data of the written value at the requested paths (`projVal` / `restrict`: selected
    fields in path order, nested paths, `error("missing")` for absent paths and for leaves,
    null for a null record, arrays / sets / maps / unions whole).

    Full statement — FALSE of the current code: `not_projection_sound` (the loader, not the
    projection, leaves a nil vector behind when a record below a container is projected). -/
theorem projection_sound_partial (paths : List (List Bytes)) (t : Ty) (vs : List Val)
    (hconf : ∀ v ∈ vs, conforms t v = true) (hok : okV t vs false = true) :
    ∃ v, load (enc t vs) none 0 none = some v ∧
      vecType (projVec (mkProj paths) v) = projTy (mkProj paths) t ∧
      (∀ i, i < vs.length →
        serialize (projVec (mkProj paths) v) i = (vs[i]?).map (projVal (mkProj paths) t)) ∧
      materialize (projVec (mkProj paths) v) = some (vs.map fun x => restrict paths (t, x)) :=
  projection_sound_all paths t vs hconf hok

/-- … through `Object.Fetch(paths)` + `Materializer`, when the projection does not hit the
    partial-load defect (`projCrashes`, see `not_projection_sound`). -/
theorem projection_read_partial (paths : List (List Bytes)) (t : Ty) (vs : List Val)
    (hconf : ∀ v ∈ vs, conforms t v = true) (hok : okV t vs false = true)
    (hpc : projCrashes (mkProj paths) (enc t vs) = false) :
    readVec paths (.single (enc t vs)) = some (vs.map fun x => restrict paths (t, x)) :=
  readVec_single paths t vs hconf hok hpc

/-- **not_projection_sound**: a record below an array / set / map / union is loaded only at
    the projected fields but rebuilt with all of them: projecting `x` out of `[{x:1,y:2}]`
    dereferences the nil vector of `y`. -/
theorem not_projection_sound :
    projCrashes (mkProj [[[120]]])
      (enc (.array (.record (.cons [120] (.prim 9) (.cons [121] (.prim 9) .nil))))
        [.cont (.cons (.cont (.cons (.prim [2]) (.cons (.prim [4]) .nil))) .nil)]) = true := by decide

/-- the specification of a projection on a concrete value: present, nested, absent paths. -/
example : restrict [[[97]], [[114], [120]], [[122]]]
    (.record (.cons [97] (.prim 9) (.cons [98] (.prim 9) (.cons [114] (.record (.cons [120] (.prim 25) (.cons [121] (.prim 25) .nil))) .nil))),
     .cont (.cons (.prim [2]) (.cons (.prim [4]) (.cons (.cont (.cons (.prim [113]) (.cons (.prim [119]) .nil))) .nil)))) =
    (.record (.cons [97] (.prim 9) (.cons [114] (.record (.cons [120] (.prim 25) .nil)) (.cons [122] (.error (.prim 25)) .nil))),
     .cont (.cons (.prim [2]) (.cons (.cont (.cons (.prim [113]) .nil)) (.cons (.prim [109, 105, 115, 115, 105, 110, 103]) .nil)))) := by decide

end Zed.Props.C03

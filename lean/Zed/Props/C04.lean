/-
  C04 — query results do not depend on the physical encoding of the input.  The property
  theorems, `eq_in_on` and `compile_on`.

  What can differ between encodings is what the binary (ZNG) scanner does before the runtime
  sees a value: it evaluates a *buffer filter* on the raw bytes of each frame and drops the frame
  when the filter says false (zio/zngio/scanner.go scanBatch).  The doc comment of
  `CompileBufferFilter` states the obligation: the buffer filter must be true for every frame
  holding a value the real filter accepts.  Model: `Zed.Bf.compile` / `BufFilter.eval`
  (lean/Zed/Model/BfFilter.lean) against `evalFilter` over typed value trees with their zcode
  serialisation and the evaluator's `Walk` (lean/Zed/Model/BfEval.lean); both are tied to the Go
  code by the differential harness on generated frames.
-/
import Zed.Proofs.BfLemmas
namespace Zed.Props.C04
open Zed.Bf
open Zed.Opt (Expr)

/-- some value of the frame makes the filter true. -/
def Accepts (lits : Lits) (atoms : Atoms) (ctx : Ctx) (e : Expr) (frame : List (Nat × Val)) : Prop :=
  ∃ m ∈ frame, ∃ t, ctx m.1 = some t ∧ evalFilter lits atoms e t m.2 = .tt

/-- `field == literal` / `literal in field` true on a value: the literal's tagged bytes occur in
    the value's serialisation. -/
theorem eq_in_on (lits : Lits) (atoms : Atoms) (op : String) (l r : Expr) (lit : Lit) (bf : BufFilter)
    (hf : fieldEqualOrIn lits op l r = some lit) (hb : forLiteral lit = some bf)
    (t : Ty) (v : Val) (he : evalFilter lits atoms (.bin op l r) t v = .tt) : bf.On t v := by
  obtain ⟨rfl, hnum⟩ := forLiteral_some hb
  revert hf he
  fun_cases fieldEqualOrIn lits op l r
  case case1 p lv hop =>  -- `this.p == literal`
    obtain rfl := eq_of_beq hop
    intro hf he
    exact .of_field (fun _ _ => litEq_on) (withField_tt (evalFilter_eq t v hf hnum ▸ he))
  case case4 lv p hop lit' hl hnet =>  -- `literal in this.p`, the literal not a net
    obtain rfl := eq_of_beq hop
    rintro ⟨⟩ he
    exact .of_field (fun _ _ => inEval_on) (withField_tt (evalFilter_in t v hl hnum ▸ he))
  all_goals nofun

/-- `compile` is sound value by value; one case per way it produces a filter. -/
theorem compile_on (lits : Lits) (atoms : Atoms) (t : Ty) (v : Val) (e : Expr) :
    ∀ bf, compile lits e = some bf → evalFilter lits atoms e t v = .tt → bf.On t v := by
  fun_induction compile lits e with
  | case1 op l r lit hf => exact fun bf hc he => eq_in_on lits atoms op l r lit bf hf hc t v he
  | case2 op l r _ hop _ _ ihr =>
    obtain rfl := eq_of_beq hop
    exact fun bf hc he => ihr bf hc (Tri.and_eq_tt he).2
  | case3 op l r _ hop _ _ ihl _ =>
    obtain rfl := eq_of_beq hop
    exact fun bf hc he => ihl bf hc (Tri.and_eq_tt he).1
  | case4 op l r _ hop a b hb ha ihl ihr =>
    obtain rfl := eq_of_beq hop
    rintro _ ⟨⟩ he
    exact ⟨ihl a ha (Tri.and_eq_tt he).1, ihr b hb (Tri.and_eq_tt he).2⟩
  | case5 op l r _ _ hop a b hb ha ihl ihr =>
    obtain rfl := eq_of_beq hop
    rintro _ ⟨⟩ he
    exact (Tri.or_eq_tt he).imp (ihl a ha) (ihr b hb)
  | case11 text value p lit hl id hu hnet hstr left hleft =>
    -- a string literal: case finder or field-name finder
    rintro _ ⟨⟩ he
    rw [forStringCase_some hleft]
    exact .of_field (fun _ _ => searchString_on)
      (withSearched_tt (evalFilter_search_string t v hl hu hnet hstr ▸ he))
  | case12 text value p lit hl id hu hnet hstr a b hb ha =>
    -- another primitive literal: the text in a string leaf, or a leaf equal to the literal
    rintro _ ⟨⟩ he
    obtain ⟨rfl, hnum⟩ := forLiteral_some hb
    have hn : isNumberId id = false := (Bool.or_eq_false_iff.1 (hnum id hu)).1
    rw [forStringCase_some ha]
    exact .of_field (fun _ _ => searchLit_on)
      (withSearched_tt (evalFilter_search_lit t v hl hu hnet hstr hn ▸ he))
  | _ => nofun

/-- The statement of the doc comment of `CompileBufferFilter`, at full strength: for every filter
    expression `e`, every literal table, every interpretation of the predicates the model does not
    look into, every type context and every frame,
      `(∃ v ∈ frame, evalFilter e v = true) → bufferFilter (compile e) frame = true`.
    (Before the fixes 2b0afda63 — FieldNameFinder descends into arrays, sets, maps, unions and
    errors — and 51d3101c2 — no buffer filter for a search over a computed operand — the statement
    was false in exactly these two ways; the witnesses are kept below as regression examples and
    in the harness.) -/
theorem bufferfilter_overapprox (lits : Lits) (atoms : Atoms) (ctx : Ctx) (e : Expr)
    (frame : List (Nat × Val)) (h : Accepts lits atoms ctx e frame) :
    bufferFilter ctx (compile lits e) frame = true := by
  unfold bufferFilter
  split
  · rfl
  · rename_i f hc
    obtain ⟨m, hm, t, ht, he⟩ := h
    exact (compile_on lits atoms t m.2 e f hc he).eval hm ht

/-- `Accepts` for one message, as a Bool. -/
def accepts1 (lits : Lits) (atoms : Atoms) (ctx : Ctx) (e : Expr) (m : Nat × Val) : Bool :=
  match ctx m.1 with
  | some t => evalFilter lits atoms e t m.2 == .tt
  | none => false

theorem Accepts.of_accepts1 {lits : Lits} {atoms : Atoms} {ctx : Ctx} {e : Expr}
    {fr : List (Nat × Val)} {m : Nat × Val} (hm : m ∈ fr) (h : accepts1 lits atoms ctx e m = true) :
    Accepts lits atoms ctx e fr := by
  unfold accepts1 at h
  split at h
  · rename_i t ht
    exact ⟨m, hm, t, ht, eq_of_beq h⟩
  · cases h

/-- what the scanner delivers for one frame: nothing when the buffer filter says false, else the
    values the filter accepts. -/
def scanFrame (lits : Lits) (atoms : Atoms) (ctx : Ctx) (e : Expr) (fr : List (Nat × Val)) : List (Nat × Val) :=
  if bufferFilter ctx (compile lits e) fr then fr.filter (accepts1 lits atoms ctx e) else []

/-- Scanning framed values with the pushed-down filter delivers exactly the accepted values,
    however the values are cut into frames (frame threshold, end-of-stream positions, compression
    do not matter: only the partition into frames does). -/
theorem pushdown_equiv (lits : Lits) (atoms : Atoms) (ctx : Ctx) (e : Expr)
    (frames : List (List (Nat × Val))) :
    frames.flatMap (scanFrame lits atoms ctx e) = frames.flatten.filter (accepts1 lits atoms ctx e) := by
  induction frames with
  | nil => rfl
  | cons fr rest ih =>
    simp only [List.flatMap_cons, List.flatten_cons, List.filter_append]
    rw [ih]
    congr 1
    unfold scanFrame
    split
    · rfl
    · rename_i hb
      symm
      rw [List.filter_eq_nil_iff]
      exact fun m hm hacc => hb (bufferfilter_overapprox lits atoms ctx e fr (.of_accepts1 hm hacc))

/-! ## the two former counterexamples (fixed by 2b0afda63 and 51d3101c2), as regression examples -/

def fooBytes : Bytes := [102, 111, 111]      -- "foo"

def witLits : Lits := fun s => if s == "\"foo\"" then some ⟨.prim idString, .prim fooBytes⟩ else none

/-- `{a:[{foo:1}]}` -/
def witTy : Ty := .record (.cons [97] (.array (.record (.cons fooBytes (.prim 9) .nil))) .nil)
def witVal : Val := .cont (.cons (.cont (.cons (.cont (.cons (.prim [2]) .nil)) .nil)) .nil)
def witCtx : Ctx := fun id => if id == 30 then some witTy else none
def witFrame : List (Nat × Val) := [(30, witVal)]
def witSearch : Expr := .search "foo" "\"foo\"" (.this [])

/-- `search foo` over `{a:[{foo:1}]}`: the evaluator matches through the field name inside the
    array, and the buffer filter lets the frame through. -/
theorem fieldname_under_array_passes :
    Accepts witLits (fun _ _ _ => .ff) witCtx witSearch witFrame ∧
    bufferFilter witCtx (compile witLits witSearch) witFrame = true := by
  refine ⟨⟨(30, witVal), by simp [witFrame], witTy, by simp [witCtx], by decide⟩, by decide⟩

/-- non-vacuity of `bufferfilter_overapprox`: its hypothesis holds for that witness. -/
example : Accepts witLits (fun _ _ _ => .ff) witCtx witSearch witFrame := fieldname_under_array_passes.1

/-- `grep("ab", s+t)`: a search over a computed operand has no buffer filter. -/
theorem computed_search_has_no_bufferfilter (lits : Lits) (text value kind json : String) :
    compile lits (.search text value (.x kind json)) = none := by
  simp [compile]

end Zed.Props.C04

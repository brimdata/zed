/-
  C19 — the lake service behaves exactly like direct access; errors, including errors after a
  query response has started streaming, are delivered to the remote client.
  The property theorems and their lemmas, over the tables regenerated from api/queryio/writer.go, api/mime.go,
  lake/api/local.go, service/handlers.go and api/client/request.go (Zed.Generated.C19): the
  framing of query responses (Zed.Model.SvcQueryio), a handler next to direct access for one
  request (Zed.Model.SvcDispatch), the client's replay recorder (Zed.Model.SvcRecord).
  The equivalence of the two access paths over whole histories is decided by correspondence
  (harness/c19), not by a theorem.
-/
import Zed.Model.SvcQueryio
import Zed.Model.SvcDispatch
import Zed.Model.SvcRecord
namespace Zed.Props.C19
open Zed.Svc

/-! ### Obligations on the regenerated tables -/

/-- The response formats whose writer has a control channel are exactly zjson and zng; every
    other format (zson, json, csv, …) goes through a writer without one. -/
theorem control_formats : Generated.C19.controlFormats = ["zjson", "zng"] := rfl

/-- `Writer.WriteControl` does nothing unless `ctrl` is on and the writer is a controlWriter;
    `Writer.WriteError` returns nothing to the handler. -/
theorem write_control_guards :
    Generated.C19.writeControlGuards = ["!w.ctrl => return nil", "only if w.writer is controlWriter"] ∧
    Generated.C19.writeErrorReturnsNothing = true := ⟨rfl, rfl⟩

/-- The Accept / Content-Type tables are inverse to each other: the media type the service
    announces for a format is parsed back to that format. -/
theorem mime_roundtrip :
    ∀ p ∈ Generated.C19.formatToMediaType, mediaTypeToFormat p.2 = some p.1 := by decide +kernel

/-- … and every media type the service accepts is the one it announces for the format it maps to. -/
theorem mime_roundtrip_inv :
    ∀ p ∈ Generated.C19.mediaTypeToFormat, formatToMediaType p.2 = some p.1 := by decide +kernel

/-- the response formats of the property's quantifier are all known to both tables -/
theorem response_formats_known :
    ∀ f ∈ ["zng", "zson", "zjson", "json", "csv"], (formatToMediaType f).isSome = true := by decide +kernel

/-- Format negotiation honours the Accept header: asking for exactly the media type of a
    response format yields that format, whatever follows in the list. -/
theorem negotiate_exact :
    ∀ p ∈ Generated.C19.formatToMediaType, ∀ (rest : List String) (dflt : String),
      negotiate dflt (p.2 :: rest) = some p.1 := by
  intro p hp rest dflt
  have hne : ∀ q ∈ Generated.C19.formatToMediaType, ¬ (q.2 = "" ∨ q.2 = "*/*") := by decide +kernel
  simp only [negotiate, if_neg (hne p hp), mime_roundtrip p hp]

/-! ### Per-method refinement (handler = decode → lake operation → encode) -/

/-- Every Interface method whose handler is pure dispatch reaches, through the service, the same
    lake operation as direct access (regenerated from lake/api/local.go and service/handlers.go):
    the same call with the same number of arguments, or the local handle's own method. -/
theorem dispatch_same_core :
    ∀ m ∈ ["CreatePool", "RemovePool", "RenamePool", "CreateBranch", "MergeBranch", "Revert", "Load", "Delete",
      "DeleteWhere", "Compact", "AddVectors", "DeleteVectors", "Vacuum"], sameCore m = true := by decide +kernel

/-- **remote_refines_local.**  `handlerRun` is decode, then `localRun`: with a codec that round
    trips and equal guards the call through the service is the direct call, for every request and
    state.  Both sides run the one `core`; that the handler reaches the operation direct access
    reaches is `dispatch_same_core`, not a hypothesis here. -/
theorem remote_refines_local {σ α ρ ω : Type} (encode : α → ω) (decode : ω → Option α)
    (hcodec : ∀ r, decode (encode r) = some r)
    (guardL guardH : α → Option String) (hguard : ∀ r, guardH r = guardL r)
    (core : α → σ → Outcome σ ρ) (req : α) (s : σ) :
    handlerRun decode guardH core (encode req) s = localRun guardL core req s := by
  simp [handlerRun, hcodec, localRun, hguard]

/-- Both paths reject the empty pool name (regenerated; the handler's check was added by the
    repair 4479a0e7f), so the guard hypothesis of `remote_refines_local` holds for CreatePool. -/
theorem createPool_guards_agree :
    Generated.C19.localChecksEmptyPoolName = true ∧ Generated.C19.handlerChecksEmptyPoolName = true :=
  ⟨rfl, rfl⟩

/-- The defect repaired by 4479a0e7f, kept as a theorem about the model: when only direct
    access checks for the empty pool name, some request is rejected by one path and changes the
    state on the other. -/
theorem not_remote_refines_local_when_handler_lacks_guard :
    ¬ ∀ (core : String → List String → Outcome (List String) Unit) (name : String) (s : List String),
        handlerRun (some : String → Option String) (fun _ => none) core name s =
          localRun (fun n => if n == "" then some "no pool name provided" else none) core name s := by
  intro h
  have := h (fun n s => (.ok (), s ++ [n])) "" []
  revert this; decide

private theorem readAll_of_no_error :
    ∀ b : List Item, (readAll b).2 = none → (readAll b).1.map Item.recd = b
  | [], _ => rfl
  | .recd n :: r, h => congrArg (Item.recd n :: ·) (readAll_of_no_error r h)
  | .err _ :: _, h => nomatch h

/-- **load_refines_local_partial.**  Guard: the body reads to its end without error.  Then load
    through the service is load by direct access. -/
theorem load_refines_local_partial (body : List Item) (s : List (List Nat))
    (h : (readAll body).2 = none) : handlerLoad body s = localLoad body s := by
  unfold handlerLoad localLoad warningsReader
  split
  · rw [readAll_of_no_error body h]
  · rfl

/-- The handler's reader (`warningsReader`) swallows read errors on the current tree (regenerated). -/
theorem load_reader_swallows :
    Generated.C19.loadReaderWrapped = true ∧ Generated.C19.loadReaderSwallowsErrors = true := ⟨rfl, rfl⟩

/-- **not_load_refines_local.**  With that reader, a body with good records followed by a read
    error is committed up to the error through the service and rejected, with nothing committed, by
    direct access; and a body that is broken from the start is reported as empty. -/
theorem not_load_refines_local :
    handlerLoad [.recd 1, .recd 2, .err "syntax"] [] = (.ok (), [[1, 2]]) ∧
    localLoad [.recd 1, .recd 2, .err "syntax"] [] = (.error "syntax", []) ∧
    handlerLoad [.err "syntax"] [] = (.error "empty transaction", []) ∧
    localLoad [.err "syntax"] [] = (.error "syntax", []) := by decide

/-! ### The client's replay recorder (`api/client/request.go`) -/

/-- `recordReader.Read` returns the count of the wrapped reader, untouched; the replay buffer
    is 16 MiB (regenerated). -/
theorem record_reader_facts :
    Generated.C19.recordReaderReturnsReadCount = true ∧ Generated.C19.recordLimit = 16777216 ∧
    Generated.C19.recordReaderRecords = "b[:cc]" := ⟨rfl, rfl, rfl⟩

private theorem recRead_spec {α : Type} (fwd : Bool) (limit : Nat) (st : Recorder α) (pre c : List α)
    (h : st.buf = pre.take limit) :
    (recRead fwd limit st c).1.buf = (pre ++ c).take limit ∧
    (fwd = true → (recRead fwd limit st c).2 = c) := by
  have hlen : st.buf.length = min limit pre.length := h ▸ List.length_take
  rw [List.take_append, ← h]
  unfold recRead
  split
  · exact ⟨by rw [show st.buf.length = pre.length by omega], fun hf => if_pos hf⟩
  · exact ⟨by rw [show limit - pre.length = 0 by omega, List.take_zero, List.append_nil], fun _ => rfl⟩

private theorem recRun_spec {α : Type} (fwd : Bool) (limit : Nat) (st : Recorder α) (pre : List α)
    (chunks : List (List α)) (h : st.buf = pre.take limit) :
    (recRun fwd limit st chunks).1.buf = (pre ++ chunks.flatten).take limit ∧
    (fwd = true → (recRun fwd limit st chunks).2 = chunks.flatten) := by
  induction chunks generalizing st pre with
  | nil => exact ⟨by simpa [recRun] using h, fun _ => rfl⟩
  | cons c cs ih =>
    obtain ⟨h1, h2⟩ := recRead_spec fwd limit st pre c h
    obtain ⟨i1, i2⟩ := ih _ _ h1
    rw [List.flatten_cons, ← List.append_assoc]
    exact ⟨i1, fun hf => congr (congrArg _ (h2 hf)) (i2 hf)⟩

/-- **record_forwards_all.**  Whatever the sizes of the reads (any chunking of any body, of any
    length), the bytes the HTTP transport receives are exactly the bytes of the body. -/
theorem record_forwards_all {α : Type} (chunks : List (List α)) :
    (recRunCode chunks).2 = chunks.flatten :=
  (recRun_spec _ _ _ [] chunks rfl).2 record_reader_facts.1

/-- **record_replay_prefix.**  The replay buffer is exactly the first `limit` bytes of the body,
    for every chunking. -/
theorem record_replay_prefix {α : Type} (chunks : List (List α)) :
    (recRunCode (α := α) chunks).1.buf = chunks.flatten.take Generated.C19.recordLimit :=
  (recRun_spec _ _ _ [] chunks rfl).1

/-- The seeded failure mode, as a theorem about the model: a recorder whose `Read` returns its
    own clamped count loses the bytes of the read that crosses the limit. -/
theorem not_record_forwards_all_when_clamped :
    ¬ ∀ (limit : Nat) (chunks : List (List Nat)), (recRun false limit {} chunks).2 = chunks.flatten := by
  intro h
  have := h 4 [[1, 2, 3], [4, 5, 6], [7]]
  revert this; decide

/-! ### Framing -/

/-- from channel `ch` the frames `fs` decode to `out`, and the client goes on in channel `ch'` -/
private def Decodes (ch : String) (fs : List Frame) (out : List (String × Nat)) (ch' : String) : Prop :=
  ∀ tail, clientDecode ch (fs ++ tail) = (out ++ (clientDecode ch' tail).1, (clientDecode ch' tail).2)

private theorem Decodes.nil (ch : String) : Decodes ch [] [] ch := fun _ => rfl

private theorem Decodes.trans {ch c1 c2 : String} {fs gs : List Frame} {a b : List (String × Nat)}
    (h1 : Decodes ch fs a c1) (h2 : Decodes c1 gs b c2) : Decodes ch (fs ++ gs) (a ++ b) c2 :=
  fun tail => by rw [List.append_assoc, h1, h2, List.append_assoc]

private theorem Decodes.values (ch : String) (vs : List Nat) :
    Decodes ch [.values vs] (vs.map fun v => (ch, v)) ch := fun _ => rfl

private theorem Decodes.channelSet (ch c : String) : Decodes ch [.channelSet c] [] c := fun _ => rfl

private theorem Decodes.channelEnd (ch c : String) : Decodes ch [.channelEnd c] [] ch := fun _ => rfl

private theorem Decodes.stats (ch : String) : Decodes ch [.stats] [] ch := fun _ => rfl

/-- the channel switch in front of a batch: afterwards the client is in the batch's channel either way -/
private theorem Decodes.switch (ch label : String) :
    Decodes ch (if ch ≠ label then writeControl true (.channelSet label) else []) [] label := by
  split
  · exact .channelSet ch label
  · next h => rw [Decidable.not_not.1 h]; exact .nil _

private theorem Decodes.eq {ch ch' : String} {fs : List Frame} {out : List (String × Nat)}
    (h : Decodes ch fs out ch') : clientDecode ch fs = (out, none) := by
  have := h []
  rw [List.append_nil] at this
  exact this.trans (congrArg (·, none) (List.append_nil out))

private theorem Decodes.of_nonerr : ∀ (fs : List Frame) (ch : String),
    (∀ f ∈ fs, ∀ m, f ≠ .error m) → ∃ out ch', Decodes ch fs out ch'
  | [], ch, _ => ⟨[], ch, .nil ch⟩
  | f :: rest, ch, h => by
    have one : ∃ out c1, Decodes ch [f] out c1 := by
      cases f with
      | values vs => exact ⟨_, _, .values ch vs⟩
      | channelSet c => exact ⟨_, _, .channelSet ch c⟩
      | channelEnd c => exact ⟨_, _, .channelEnd ch c⟩
      | stats => exact ⟨_, _, .stats ch⟩
      | error m => exact absurd rfl (h _ List.mem_cons_self m)
    obtain ⟨o1, c1, h1⟩ := one
    obtain ⟨o2, c2, h2⟩ := Decodes.of_nonerr rest c1 fun f hf => h f (List.mem_cons_of_mem _ hf)
    exact ⟨_, _, h1.trans h2⟩

private theorem decode_append_nonerr (ch : String) (fs gs : List Frame)
    (h : ∀ f ∈ fs, ∀ m, f ≠ .error m) :
    ∃ ch', clientDecode ch (fs ++ gs) =
      ((clientDecode ch fs).1 ++ (clientDecode ch' gs).1, (clientDecode ch' gs).2) ∧
      (clientDecode ch fs).2 = none := by
  obtain ⟨out, ch', hd⟩ := Decodes.of_nonerr fs ch h
  exact ⟨ch', by rw [hd.eq, hd gs], by rw [hd.eq]⟩

/-- With control frames on, the events of a run decode to exactly the labelled values, and the
    client's channel follows the server's. -/
private theorem encodeEvents_on (es : List Event) (ch : String) :
    Decodes ch (encodeEvents true ch es).1 (Run.labelled es) (encodeEvents true ch es).2 := by
  induction es generalizing ch with
  | nil => exact .nil ch
  | cons e rest ih =>
    cases e with
    | batch label vals =>
      simp only [encodeEvents, Run.labelled]
      split
      · next hv => rw [List.isEmpty_iff.1 hv]; exact ih ch
      · exact ((Decodes.switch ch label).trans (.values label vals)).trans (ih label)
    | chanEnd label => exact (Decodes.channelEnd ch label).trans (ih ch)
    | tick => exact (Decodes.stats ch).trans (ih ch)

/-  Full statement (FALSE of the current code, see `not_queryio_roundtrip`):
      queryio_roundtrip : ∀ fmt ctrl run,
        clientDecode "" (serverEncode fmt ctrl run) = (labelled values of run, run.err)
    Proved under the guard `ctrl = true ∧ hasControl fmt = true` (zng and zjson with `?ctrl=T`). -/

/-- **queryio_roundtrip_partial.**  Guard: control frames requested and the response format has
    a control channel.  Then, for every run — any batches on any channels, channel ends, timer
    ticks, and either the normal end or an error after any prefix — the client decodes exactly
    the values produced, with their channel labels, in order, and the error if there was one. -/
theorem queryio_roundtrip_partial (fmt : String) (r : Run) (hf : hasControl fmt = true) :
    clientDecode "" (serverEncode fmt true r) = (Run.labelled r.events, r.err) := by
  unfold serverEncode
  simp only [hf, Bool.and_self]
  rw [encodeEvents_on]
  cases r.err with
  | none => simp [writeControl, clientDecode]
  | some m => simp [writeControl, clientDecode]

/-- Without control frames the values still arrive in order, all in the client's channel `c0`. -/
private theorem encodeEvents_off (es : List Event) (ch c0 : String) :
    Decodes c0 (encodeEvents false ch es).1 ((Run.values es).map fun v => (c0, v)) c0 := by
  induction es generalizing ch with
  | nil => exact .nil c0
  | cons e rest ih =>
    cases e with
    | batch label vals =>
      simp only [encodeEvents]
      split
      · next hv =>
        have : Run.values (.batch label vals :: rest) = Run.values rest := by
          simp [Run.values, Run.labelled, List.isEmpty_iff.1 hv]
        rw [this]; exact ih ch
      · have : Run.values (.batch label vals :: rest) = vals ++ Run.values rest := by
          simp [Run.values, Run.labelled, Function.comp_def]
        rw [this, List.map_append]
        simpa [writeControl] using (Decodes.values c0 vals).trans (ih label)
    | chanEnd label => exact ih ch
    | tick => exact ih ch

/-- **late_error_dropped.**  When `ctrl` is off, or the response format has no control channel
    (zson, json, csv, …), *every* late error is dropped: for every run the client decodes the
    values produced before the error and no error at all — a short, apparently complete
    result. -/
theorem late_error_dropped (fmt : String) (ctrl : Bool) (r : Run)
    (h : ctrl = false ∨ hasControl fmt = false) :
    (clientDecode "" (serverEncode fmt ctrl r)).1.map (·.2) = Run.values r.events ∧
    (clientDecode "" (serverEncode fmt ctrl r)).2 = none := by
  have hon : (ctrl && hasControl fmt) = false := by
    rcases h with h | h <;> simp [h]
  unfold serverEncode
  simp only [hon]
  rw [encodeEvents_off r.events "" ""]
  cases r.err with
  | none => simp [writeControl, clientDecode, Function.comp_def]
  | some m => simp [writeControl, clientDecode, Function.comp_def]

/-- **not_queryio_roundtrip.**  The full statement is false: with `ctrl` off (any format), and
    with zson / json / csv even with `ctrl` on, a run that fails after its first batch is
    decoded as a complete result without error. -/
theorem not_queryio_roundtrip :
    ¬ ∀ (fmt : String) (ctrl : Bool) (r : Run),
        clientDecode "" (serverEncode fmt ctrl r) = (Run.labelled r.events, r.err) := by
  intro h
  have := (late_error_dropped "zson" true ⟨[.batch "main" [1, 2]], some "read error"⟩
    (.inr (by decide))).2
  rw [h] at this
  cases this

/-- The `ctrl`-off half on its own, for a format that has a control channel (zng). -/
theorem not_queryio_roundtrip_ctrl_off :
    ¬ ∀ (r : Run), clientDecode "" (serverEncode "zng" false r) = (Run.labelled r.events, r.err) := by
  intro h
  have := (late_error_dropped "zng" false ⟨[.batch "" [7]], some "read error"⟩ (.inl rfl)).2
  rw [h] at this
  cases this

/-! ### Non-vacuity -/

/-- the guard of the partial theorem is satisfiable: zng and zjson have a control channel -/
example : hasControl "zng" = true ∧ hasControl "zjson" = true ∧ hasControl "zson" = false ∧
    hasControl "json" = false ∧ hasControl "csv" = false := by decide

/-- a run with two channels, a tick and a late error, on the wire and back -/
example :
    serverEncode "zng" true ⟨[.batch "main" [1, 2], .tick, .batch "side" [3], .chanEnd "side", .batch "side" [4]], some "boom"⟩ =
      [.channelSet "main", .values [1, 2], .stats, .channelSet "side", .values [3], .channelEnd "side", .values [4], .error "boom"] ∧
    clientDecode "" (serverEncode "zng" true ⟨[.batch "main" [1, 2], .tick, .batch "side" [3], .chanEnd "side", .batch "side" [4]], some "boom"⟩) =
      ([("main", 1), ("main", 2), ("side", 3), ("side", 4)], some "boom") := by decide

end Zed.Props.C19

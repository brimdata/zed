/-
  C08 — lake query results are independent of the degree of parallelism, for every schedule
  of the scan workers.

  Property theorems only; helper lemmas in Zed/Proofs/Par*.lean (and Agg*.lean for the partial
  aggregation), models in Zed/Model/Par*.lean, the aggregate table and the list of operators
  the optimizer lifts into scatter legs in Zed.Generated.C10 (regenerated on every check).

  What the theorems quantify over: every schedule (the order in which the legs' Pull calls are
  served by the mutex-protected lister/slicer), every number of legs, every tie-breaking of
  the merge, every interleaving of the combine.  Go's scheduler itself is not modelled: it
  enters only through "which leg gets which item, in which order", which is what a schedule
  is.  That Pull is atomic is the model's assumption (the mutex in Lister.Pull/Slicer.Pull); the
  harness drives the real Lister/Slicer from concurrent goroutines to check it.
-/
import Zed.Model.ParSlicer
import Zed.Model.ParScatter
import Zed.Model.AggMonoid
import Zed.Model.AggGroupby
import Zed.Generated.C10
import Zed.Proofs.ParSlicer
import Zed.Proofs.ParScatter
import Zed.Proofs.ParSortLift
import Zed.Proofs.ParLifts
import Zed.Proofs.AggMonoid
import Zed.Proofs.AggGroupby
namespace Zed.Props.C08
open Zed.Par Zed.Agg
open Zed.Proofs

/-- The operators `liftIntoParPaths` copies into the scatter legs are the ones this check's
    programs exercise (a new lifted operator re-opens this obligation). -/
theorem lifted_ops_known : Zed.Generated.C10.liftedOps =
    ["Summarize", "Sort", "Head", "Tail", "Cut", "Drop", "Put", "Rename", "Filter"] := rfl

/-- The aggregate list with its partial forms is the one `partials_compose` is proved for (the same
    equation as C10's `agg_table_matches_model`). -/
theorem agg_partial_forms_known : Zed.Generated.C10.aggs = modelTable := rfl

variable {α ρ M : Type}

/-- **lister_exactly_once**: under every schedule the hand-out log followed by what is still
    to be handed out is the item list itself — nothing dropped, duplicated or reordered.
    (An invariant of the transition system: it holds after every prefix of every schedule.) -/
theorem lister_exactly_once (items : List α) (sched : List Nat) :
    ((runSched items sched).log.map (·.2)) ++ (runSched items sched).remaining = items :=
  ParScatter.lister_exactly_once items sched

theorem lister_drains (items : List α) (sched : List Nat) (h : items.length ≤ sched.length) :
    (runSched items sched).remaining = [] :=
  ParScatter.lister_drains items sched h

/-- once drained, every (distinct) item is in the stream of exactly one leg -/
theorem exactly_one_leg (items : List α) (hnd : items.Nodup) (sched : List Nat) (n : Nat)
    (hn : ∀ i ∈ sched, i < n) (hdone : (runSched items sched).remaining = []) :
    ∀ o ∈ items, ∃ i, i < n ∧ o ∈ leg (runSched items sched).log i ∧
      ∀ j, o ∈ leg (runSched items sched).log j → j = i :=
  ParScatter.exactly_one_leg items hnd sched n hn hdone

example : (runSched [10, 20, 30] [1, 0, 1, 2]).remaining = [] ∧
    leg (runSched [10, 20, 30] [1, 0, 1, 2]).log 1 = [10, 30] := by decide

/-- cover: the partitions, concatenated, are the lister's objects in order (no hypothesis) -/
theorem slicer_covers (objs : List Obj) : (slice objs).flatten = objs :=
  ParSlicer.slice_flatten objs

/-- **slicer_partitions** (ascending pools: lister order = min ascending): the partitions
    cover all objects in order, none is empty, and they are strictly separated and ordered —
    every object of an earlier partition lies strictly below every object of a later one, so
    no two overlapping objects are ever split. -/
theorem slicer_partitions_asc (objs : List Obj)
    (hwf : ∀ o ∈ objs, o.min ≤ o.max)
    (hsorted : objs.Pairwise (fun a b => a.min ≤ b.min)) :
    (slice objs).flatten = objs ∧ (∀ p ∈ slice objs, p ≠ []) ∧
    (slice objs).Pairwise (fun p q => ∀ a ∈ p, ∀ b ∈ q, a.max < b.min) :=
  ParSlicer.slicer_partitions_asc objs hwf hsorted

/-- descending pools: lister order = max descending; later partitions lie strictly below. -/
theorem slicer_partitions_desc (objs : List Obj)
    (hwf : ∀ o ∈ objs, o.min ≤ o.max)
    (hsorted : objs.Pairwise (fun a b => b.max ≤ a.max)) :
    (slice objs).flatten = objs ∧ (∀ p ∈ slice objs, p ≠ []) ∧
    (slice objs).Pairwise (fun p q => ∀ a ∈ p, ∀ b ∈ q, b.max < a.min) :=
  ParSlicer.slicer_partitions_desc objs hwf hsorted

/-- the span a partition reports is the hull of its objects -/
theorem slicer_span_hull (p : List Obj) (hp : p ≠ []) :
    (∀ o ∈ p, spanMin p ≤ o.min) ∧ (∃ o ∈ p, spanMin p = o.min) ∧
    (∀ o ∈ p, o.max ≤ spanMax p) ∧ (∃ o ∈ p, spanMax p = o.max) :=
  ParSlicer.span_hull p hp

example : slice [⟨1, 1, 5, 0, 0⟩, ⟨2, 2, 3, 0, 0⟩, ⟨3, 6, 9, 0, 0⟩] =
    [[⟨1, 1, 5, 0, 0⟩, ⟨2, 2, 3, 0, 0⟩], [⟨3, 6, 9, 0, 0⟩]] := by decide

/-- **scatter_merge_equiv**: for every schedule (assignment of partitions to legs and order of
    hand-out), every number of legs and every tie-breaking of the merge: if partitions are
    strictly separated in the merge order and each partition's scan is sorted (each partition
    is internally merged), merging the legs gives exactly the sequential scan.  (`hle`, `hsorted`
    are for `scatter_merge_sorted`; the separation alone forces the equation.) -/
theorem scatter_merge_equiv (le : ρ → ρ → Bool) (hle : TotalPreorder le) (scan : α → List ρ)
    (items : List α) (sched : List Nat) (n : Nat)
    (hn : ∀ i ∈ sched, i < n)
    (hdone : (runSched items sched).remaining = [])
    (hsorted : ∀ it ∈ items, (scan it).Pairwise (fun x y => le x y = true))
    (hsep : items.Pairwise (fun p q => ∀ x ∈ scan p, ∀ y ∈ scan q, lt le x y = true))
    (out : List ρ) (hm : KMerge le (legsOut scan (runSched items sched).log n) out) :
    out = sequential scan items :=
  ParScatter.scatter_merge_equiv le hle scan items sched n hn hdone hsorted hsep out hm

/-- … and that common result is sorted -/
theorem scatter_merge_sorted (le : ρ → ρ → Bool) (scan : α → List ρ) (items : List α)
    (hsorted : ∀ it ∈ items, (scan it).Pairwise (fun x y => le x y = true))
    (hsep : items.Pairwise (fun p q => ∀ x ∈ scan p, ∀ y ∈ scan q, lt le x y = true)) :
    (sequential scan items).Pairwise (fun x y => le x y = true) :=
  List.pairwise_flatMap.2
    ⟨hsorted, hsep.imp fun h x hx y hy => (BoolOrder.strict_iff.1 (h x hx y hy)).1⟩

/-- non-vacuity of `KMerge`: under a total preorder every family of legs has a merge (the
    deterministic `kmergeFn` is one) -/
theorem merge_exists (le : ρ → ρ → Bool) (hle : TotalPreorder le) (legs : List (List ρ)) :
    ∃ out, KMerge le legs out :=
  ⟨_, ParScatter.kmergeFn_isKMerge le hle _ legs (Nat.le_refl _)⟩

/-- **scatter_combine_equiv**: with a combine fan-in any interleaving of the legs is a
    permutation of the sequential scan (same multiset). -/
theorem scatter_combine_equiv (scan : α → List ρ) (items : List α) (sched : List Nat) (n : Nat)
    (hn : ∀ i ∈ sched, i < n) (hdone : (runSched items sched).remaining = [])
    (out : List ρ) (hi : Interleave (legsOut scan (runSched items sched).log n) out) :
    out.Perm (sequential scan items) :=
  ParScatter.scatter_combine_equiv scan items sched n hn hdone out hi

/-- a merge neither adds, drops nor duplicates -/
theorem merge_perm (le : ρ → ρ → Bool) {legs : List (List ρ)} {out : List ρ}
    (h : KMerge le legs out) : out.Perm legs.flatten :=
  ParSortLift.kmerge_perm le h

/-- **sort_lift**: when every leg is sorted under the MERGE's comparator, every merge of the
    legs (any schedule, any tie-breaking) is sorted — together with `merge_perm` it is the
    sort of the whole input up to ties. -/
theorem sort_lift_sorted (le : ρ → ρ → Bool) (hle : TotalPreorder le) {legs : List (List ρ)}
    {out : List ρ} (hs : ∀ l ∈ legs, l.Pairwise (fun x y => le x y = true))
    (h : KMerge le legs out) : out.Pairwise (fun x y => le x y = true) :=
  ParSortLift.kmerge_sorted le hle hs h

/-- The code establishes the hypothesis of `sort_lift_sorted`: since fix 8f641a47c a sort is
    copied into the legs (and replaced by a merge) only when it is a plain ascending
    single-key sort — not `-r`, not nulls-first, not a descending key — the only form whose
    order (sort.Op: ascending, nulls last) is the order of the merge the kernel builds for it.
    Re-checked on the regenerated guards of liftIntoParPaths' dag.Sort case. -/
theorem sort_lift_only_plain_ascending :
    Zed.Generated.C10.sortLiftGuards =
      ["len(op.Args) != 1", "op.Reverse || op.NullsFirst || op.Args[0].Order == order.Desc"] := rfl

/-- The hypothesis is needed: a leg sorted under another order than the merge's yields an
    unsorted merge.  (A statement about the model on legs violating the hypothesis; before
    fix 8f641a47c a descending sort was lifted although sort.Op orders nulls last and the
    merge built for it expects them first — exactly this situation.) -/
theorem not_sort_lift_sorted_foreign_order :
    ∃ (legs : List (List Int)) (out : List Int),
      KMerge (fun a b => decide (a ≤ b)) legs out ∧ ¬ out.Pairwise (fun x y => decide (x ≤ y) = true) :=
  ParSortLift.not_kmerge_sorted_foreign_order

/-! ### head / tail / filter copied into the legs (liftIntoParPaths), with the final re-application

  Results are fixed only up to the order of ties, so soundness is stated as: the parallel plan's
  result is a sorted "n smallest" (head) / "n largest" (tail) selection of ALL rows — exactly what
  the sequential plan's result is (`head_seq`, `tail_seq`) — resp. a sorted permutation of the
  filtered rows. -/

open ParLifts in
/-- sequential plan: `head n` of the merged legs -/
theorem head_seq (le : ρ → ρ → Bool) (hle : TotalPreorder le) (n : Nat) {legs : List (List ρ)} {out : List ρ}
    (hs : ∀ l ∈ legs, l.Pairwise (fun x y => le x y = true)) (h : KMerge le legs out) :
    SmallestSel le (out.take n) (out.drop n) legs.flatten ∧ (out.take n).length = min n legs.flatten.length :=
  ParLifts.head_seq le hle n hs h

open ParLifts in
/-- **head_lift_sound**: `head n` in every leg, merge, `head n` again — a smallest-n selection
    of all rows, of the same length as the sequential result. -/
theorem head_lift_sound (le : ρ → ρ → Bool) (hle : TotalPreorder le) (n : Nat) {legs : List (List ρ)} {out' : List ρ}
    (hs : ∀ l ∈ legs, l.Pairwise (fun x y => le x y = true))
    (h : KMerge le (legs.map (List.take n)) out') :
    SmallestSel le (out'.take n) (out'.drop n ++ (legs.map (List.drop n)).flatten) legs.flatten ∧
    (out'.take n).length = min n legs.flatten.length :=
  ParLifts.head_lift_sound le hle n hs h

/-- the final re-application is needed: without it up to k·n rows come out -/
theorem not_head_lift_without_reapply :
    ∃ (legs : List (List Int)) (out' : List Int) (n : Nat),
      KMerge (fun a b => decide (a ≤ b)) (legs.map (List.take n)) out' ∧ out'.length > n :=
  ParLifts.not_head_lift_without_reapply

open ParLifts in
theorem tail_seq (le : ρ → ρ → Bool) (hle : TotalPreorder le) (n : Nat) {legs : List (List ρ)} {out : List ρ}
    (hs : ∀ l ∈ legs, l.Pairwise (fun x y => le x y = true)) (h : KMerge le legs out) :
    LargestSel le (lastN n out) (dropLastN n out) legs.flatten ∧ (lastN n out).length = min n legs.flatten.length :=
  ParLifts.tail_seq le hle n hs h

open ParLifts in
/-- **tail_lift_sound**: `tail n` in every leg, merge, `tail n` again. -/
theorem tail_lift_sound (le : ρ → ρ → Bool) (hle : TotalPreorder le) (n : Nat) {legs : List (List ρ)} {out' : List ρ}
    (hs : ∀ l ∈ legs, l.Pairwise (fun x y => le x y = true))
    (h : KMerge le (legs.map (lastN n)) out') :
    LargestSel le (lastN n out') (dropLastN n out' ++ (legs.map (dropLastN n)).flatten) legs.flatten ∧
    (lastN n out').length = min n legs.flatten.length :=
  ParLifts.tail_lift_sound le hle n hs h

/-- **filter_lift_sound**: a filter copied into the legs gives a sorted permutation of the filter
    of any merge of the unfiltered legs. -/
theorem filter_lift_sound (le : ρ → ρ → Bool) (hle : TotalPreorder le) (p : ρ → Bool) {legs : List (List ρ)}
    {out out' : List ρ} (hs : ∀ l ∈ legs, l.Pairwise (fun x y => le x y = true))
    (h' : KMerge le (legs.map (List.filter p)) out') (h : KMerge le legs out) :
    out'.Perm (out.filter p) ∧ out'.Pairwise (fun x y => le x y = true) ∧
      (out.filter p).Pairwise (fun x y => le x y = true) :=
  ParLifts.filter_lift_sound le hle p hs h' h

/-- two sorted permutations of each other agree position by position up to ties -/
theorem sorted_perm_pointwise_equiv (le : ρ → ρ → Bool) (hle : TotalPreorder le) {a b : List ρ}
    (hp : a.Perm b) (ha : a.Pairwise (fun x y => le x y = true)) (hb : b.Pairwise (fun x y => le x y = true)) :
    ∀ i (hi : i < a.length), le a[i] (b[i]'(by rw [← hp.length_eq]; exact hi)) = true ∧
                              le (b[i]'(by rw [← hp.length_eq]; exact hi)) a[i] = true :=
  ParLifts.sorted_perm_pointwise_equiv le hle hp ha hb

/-- **partials_compose**: every leg aggregates what it scans (partials-out), the tail combines
    the legs' partials (partials-in): for every commutative aggregate monoid, every schedule and
    every number of legs the result is the aggregate over the sequential scan. -/
theorem partials_compose (m : Mon M) (hm : m.CommLaws) (f : ρ → M) (scan : α → List ρ)
    (items : List α) (sched : List Nat) (n : Nat)
    (hn : ∀ i ∈ sched, i < n) (hdone : (runSched items sched).remaining = []) :
    m.combineAll ((legsOut scan (runSched items sched).log n).map (m.fold f)) =
      m.fold f (sequential scan items) := by
  rw [AggMonoid.partial_hom m hm.toLaws f]
  exact AggMonoid.fold_perm m hm f (ParScatter.legsOut_flatten_perm scan items sched n hn hdone)

/-- … and the legs' partials may reach the tail in any order -/
theorem partials_compose_any_order (m : Mon M) (hm : m.CommLaws) (f : ρ → M) (scan : α → List ρ)
    (items : List α) (sched : List Nat) (n : Nat)
    (hn : ∀ i ∈ sched, i < n) (hdone : (runSched items sched).remaining = [])
    (ps : List M) (hps : ps.Perm ((legsOut scan (runSched items sched).log n).map (m.fold f))) :
    m.combineAll ps = m.fold f (sequential scan items) :=
  AggMonoid.partial_hom_perm m hm f _ ps _ hps (ParScatter.legsOut_flatten_perm scan items sched n hn hdone).symm

/-- the concrete aggregates of the regenerated table satisfy the hypothesis of `partials_compose`
    (collect only as a monoid: its element order follows the order the partials arrive in) -/
theorem partials_compose_instances :
    countMon.CommLaws ∧ sumMon.CommLaws ∧ minMon.CommLaws ∧ maxMon.CommLaws ∧ avgMon.CommLaws ∧
    andMon.CommLaws ∧ orMon.CommLaws ∧ setMon.CommLaws ∧ collectMon.Laws :=
  ⟨AggMonoid.countMon_laws, AggMonoid.sumMon_laws, AggMonoid.minMon_laws, AggMonoid.maxMon_laws,
   AggMonoid.avgMon_laws, AggMonoid.andMon_laws, AggMonoid.orMon_laws, AggMonoid.setMon_laws,
   AggMonoid.collectMon_laws⟩

/-- group-by level: partials-out group-by per leg, partials-in group-by at the tail — under the
    guard of C10 (`groupby_naive_partial`): comparator faithful on the keys present, or no
    spill at any stage (the default limit of 1,000,000 keys). -/
theorem partials_compose_groupby_partial {K S : Type} [DecidableEq K] (m : Mon S) (hm : m.CommLaws)
    (le : K → K → Bool) (hle : TotalPreorder le) (limit₁ limit₂ : Nat) (legs : List (List (K × S)))
    (guard : AggGroupby.CompareFaithful le legs.flatten ∨
      ((∀ c ∈ legs, spillCount m le limit₁ c = 0) ∧
        spillCount m le limit₂ (legs.map (groupby m le limit₁)).flatten = 0)) :
    GroupsAgree m (groupby m le limit₂ (legs.map (groupby m le limit₁)).flatten) legs.flatten :=
  AggGroupby.groupby_partials_compose m hm le hle limit₁ limit₂ legs guard

end Zed.Props.C08

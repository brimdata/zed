/-
  C06 — value ordering is a total preorder; sort and merge honour it at any memory limit.
  Property theorems only.  Tables come from Zed.Generated.C06 (regenerated on every check from
  /repo: type.go, expr/sort.go, eval.go, merge.go, zbuf, parallelize.go and every site that constructs
  a comparator); the models are Zed.Model.Compare, MergeOp, NullsSites.
-/
import Zed.Proofs.Rows
import Zed.Proofs.Merge
import Zed.Proofs.MergeOp
import Zed.Proofs.NullsSites
namespace Zed.Props.C06
open Zed

/-- Obligation on the regenerated facts: the shape of `compareValues`/`compareNumbers` the model
    was written for (case order, special ids, the two tail statements, the fast-path body). -/
theorem compare_shape :
    Generated.C06.compareCases =
      ["zed.IsNumber(aid) && zed.IsNumber(bid)", "aid != bid", "aid == zed.IDBool",
       "aid == zed.IDBytes", "aid == zed.IDString", "aid == zed.IDIP", "aid == zed.IDType"] ∧
    Generated.C06.specialIds = [idBool, idBytes, idString, idIP, idType] ∧
    Generated.C06.compareTail =
      ["if innerType := zed.InnerType(a.Type()); innerType != nil",
       "return bytes.Compare(a.Bytes(), b.Bytes())"] ∧
    Generated.C06.compareNumbersCases =
      ["zed.IsFloat(aid)", "zed.IsFloat(bid)", "zed.IsSigned(aid)", "zed.IsSigned(bid)",
       "default: return cmp.Compare(a.Uint(), b.Uint())"] ∧
    Generated.C06.fastSigned = ["i64s[i] = val.Int()"] ∧
    Generated.C06.fastUnsigned =
      ["v := val.Uint()", "if v > math.MaxInt64 { v = math.MaxInt64 }", "i64s[i] = int64(v)"] :=
  ⟨rfl, by simp only [ids_facts]; rfl, rfl, rfl, rfl, rfl⟩

/-- Obligation on the regenerated facts: the null branches of `compareValues` are antisymmetric
    (a null against a non-null gives opposite signs in the two argument orders) and follow
    `nullsMax`; the fast path's null sentinels are the matching extremes. -/
theorem null_branches :
    ordOfInt Generated.C06.bothNull = .eq ∧
    ordOfInt Generated.C06.nullA.1 = .gt ∧ ordOfInt Generated.C06.nullA.2 = .lt ∧
    ordOfInt Generated.C06.nullB.1 = .lt ∧ ordOfInt Generated.C06.nullB.2 = .gt ∧
    Generated.C06.fastNullSentinel = ("MaxInt64", "MinInt64") := by decide

/-! ### the order on values

  Full statement: for every `nullsMax` and all values `a b c`,
  `cmpVal a a = eq`, `cmpVal b a = (cmpVal a b).swap` and
  `cmpVal a b ≠ gt → cmpVal b c ≠ gt → cmpVal a c ≠ gt`.
  Reflexivity and antisymmetry hold for all values; transitivity is FALSE of the current code
  (`not_compare_transitive`) and is proved under the guards `Val.ok` (well-formed: the shape of
  the value is the one its type prescribes) and `PairOK` (no integer beyond ±2^53 meets a
  float) in `compare_total_preorder_partial`. -/

theorem compare_refl (nullsMax : Bool) (a : Val) : cmpVal nullsMax a a = .eq := cmpVal_refl nullsMax a

theorem compare_antisymm (nullsMax : Bool) (a b : Val) :
    cmpVal nullsMax b a = (cmpVal nullsMax a b).swap := cmpVal_swap nullsMax a b

def tInt64 : Ty := .prim 9
def tFloat64 : Ty := .prim 16
/-- int64 2^53 + 1 -/
def wA : Val := .num tInt64 (.int 9007199254740993)
/-- float64 2^53 -/
def wB : Val := .num tFloat64 (.float (.fin ((9007199254740992 : Int) * scale)))
/-- int64 2^53 -/
def wC : Val := .num tInt64 (.int 9007199254740992)

set_option exponentiation.threshold 2000 in
set_option maxRecDepth 20000 in
/-- `2^53+1 ≤ 2^53. ≤ 2^53` but `2^53+1 > 2^53` (all three well-formed values). -/
theorem not_compare_transitive :
    ¬ (∀ (nullsMax : Bool) (a b c : Val), a.ok = true → b.ok = true → c.ok = true →
        cmpVal nullsMax a b ≠ .gt → cmpVal nullsMax b c ≠ .gt → cmpVal nullsMax a c ≠ .gt) := by
  intro h
  exact h true wA wB wC (by decide) (by decide) (by decide) (by decide) (by decide) (by decide)

set_option exponentiation.threshold 2000 in
set_option maxRecDepth 20000 in
/-- the float the model decodes from the bytes of float64 2^53 is `wB`'s -/
example : decodeFloat [0, 0, 0, 0, 0, 0, 0x40, 0x43] = some (.fin ((9007199254740992 : Int) * scale)) := by
  decide

def tXY : Ty := .named [120] (.named [121] tInt64)
def tXZ : Ty := .named [120] (.named [122] tInt64)
def tRA : Ty := .record (.cons [97] tXY .nil)
def tRB : Ty := .record (.cons [97] tXZ .nil)

/-- values of two record types that differ only below the outermost name of a field's named type were all "equal"
    across the two types before /repo commit 2f4e3fba9 (a second source of non-transitivity, finding
    C06:transitivity:nested-named-type, fixed); they are ordered by type, consistently in both argument orders -/
example : cmpVal true (.raw tRA [2, 4]) (.raw tRB [2, 2]) = .lt ∧
    cmpVal true (.raw tRB [2, 2]) (.raw tRA [2, 2]) = .gt := by decide

theorem compare_total_preorder_partial (nullsMax : Bool) (a b c : Val)
    (oka : a.ok = true) (okb : b.ok = true) (okc : c.ok = true)
    (pab : PairOK a b) (pbc : PairOK b c) (pac : PairOK a c) :
    cmpVal nullsMax a a = .eq ∧ cmpVal nullsMax b a = (cmpVal nullsMax a b).swap ∧
    (cmpVal nullsMax a b ≠ .gt → cmpVal nullsMax b c ≠ .gt → cmpVal nullsMax a c ≠ .gt) :=
  ⟨cmpVal_refl nullsMax a, cmpVal_swap nullsMax a b,
   (cmpVal_STr nullsMax a b c oka okb okc pab pbc pac).le⟩

/-- equality under the order is transitive as well (same guards) -/
theorem compare_eq_trans_partial (nullsMax : Bool) (a b c : Val)
    (oka : a.ok = true) (okb : b.ok = true) (okc : c.ok = true)
    (pab : PairOK a b) (pbc : PairOK b c) (pac : PairOK a c) :
    cmpVal nullsMax a b = .eq → cmpVal nullsMax b c = .eq → cmpVal nullsMax a c = .eq :=
  (cmpVal_STr nullsMax a b c oka okb okc pab pbc pac).eq_eq

set_option exponentiation.threshold 2000 in
set_option maxRecDepth 20000 in
/-- non-vacuity: a float meets integers within ±2^53, and the witness pair of
    `not_compare_transitive` is exactly what `PairOK` excludes. -/
example : wC.ok = true ∧ wB.ok = true ∧ PairOK wC wB ∧ ¬ PairOK wA wB := by
  refine ⟨by decide, by decide, ?_, ?_⟩
  · intro _; exact ⟨by decide, by decide⟩
  · intro h; exact absurd (h (Or.inr rfl)).1 (by decide)

/-- `sortStableIndices` (int64 fast path, null sentinels, clamping of large uint64) orders
    exactly like `Comparator.Compare`, for every input of well-formed keys. -/
theorem fastpath_agrees (nullsMax : Bool) (dirs : List Bool) (rows : List Row)
    (hok : ∀ r ∈ rows, ∀ k ∈ r.keys, k.ok = true) :
    sortRows nullsMax dirs rows = sortRowsRef nullsMax dirs rows :=
  sortRows_eq_ref nullsMax dirs rows hok

/-- the sort output is a permutation of the input, non-decreasing under `Comparator.Compare`, and
    stable (a sub-sequence of the input that is already in order keeps its order; in particular
    rows with equal keys). -/
theorem sort_perm_sorted_stable (nullsMax : Bool) (dirs : List Bool) (m : Bool) (rows : List Row)
    (h : ∀ r ∈ rows, r.okFor dirs m) :
    (sortRows nullsMax dirs rows).Perm rows ∧
    (sortRows nullsMax dirs rows).Pairwise (fun a b => cmpRow nullsMax dirs a b ≠ .gt) ∧
    (∀ c : List Row, c.Sublist rows → c.Pairwise (fun a b => cmpRow nullsMax dirs a b ≠ .gt) →
      c.Sublist (sortRows nullsMax dirs rows)) := by
  rw [sortRows_ok_eq nullsMax dirs m rows h]
  have tr := fun a b c (ha : a.okFor dirs m) (hb : b.okFor dirs m) (hc : c.okFor dirs m) =>
    leRow_trans nullsMax dirs m a b c ha hb hc
  have to := fun a b (_ : a.okFor dirs m) (_ : b.okFor dirs m) => leRow_total nullsMax dirs a b
  refine ⟨List.mergeSort_perm _ _, ?_, ?_⟩
  · exact (sorted_on (fun r => r.okFor dirs m) (leRow nullsMax dirs) tr to rows h).imp
      (fun hab => (leRow_iff nullsMax dirs _ _).mp hab)
  · intro c hs hc
    exact stable_on (fun r => r.okFor dirs m) (leRow nullsMax dirs) tr to rows c h
      (hc.imp (fun hab => (leRow_iff nullsMax dirs _ _).mpr hab)) hs

/-- **spill invariance**: for every way of cutting the input into runs (any memory limit, any
    batch sizes), sorting the runs and merging them with the run ordinal as tie-break gives the
    in-memory stable sort of the whole input. -/
theorem spill_invariant (nullsMax : Bool) (dirs : List Bool) (m : Bool) (chunks : List (List Row))
    (h : ∀ c ∈ chunks, ∀ r ∈ c, r.okFor dirs m) :
    sortSpill nullsMax dirs chunks = sortRows nullsMax dirs chunks.flatten :=
  sortSpill_eq nullsMax dirs m chunks h

/-- the sort operator (flags → comparator, run formation by byte budget, spill, merge) gives the
    same output for every memory limit -/
theorem sortOp_limit_irrelevant (nullsFirst reverse : Bool) (dirs : List Bool) (m : Bool)
    (limit limit' : Nat) (batches : List (List (Row × Nat)))
    (h : ∀ r ∈ batchRows batches, r.okFor (sortConfig nullsFirst reverse dirs).2 m) :
    sortOp nullsFirst reverse dirs limit batches = sortOp nullsFirst reverse dirs limit' batches := by
  rw [sortOp_eq nullsFirst reverse dirs m limit batches h, sortOp_eq nullsFirst reverse dirs m limit' batches h]

/-! ### merge

  `merge.Op` pops the parent whose head is minimal (which one among equal heads is up to the
  heap) and emits either one value or — when the last value of the rest of that parent's batch
  is not greater than the other heads — that whole rest (`MergeStep`, Proofs/Merge). -/

/-- **merge_sorted**: for every run of that nondeterministic process over parents that are each
    sorted, the output is sorted and contains every input value exactly once. -/
theorem merge_sorted {α : Type} (le : α → α → Bool)
    (trans : ∀ a b c, le a b = true → le b c = true → le a c = true) (refl : ∀ a, le a a = true)
    (parents : List (List α)) (out : List α) (h : MergeRun le parents out)
    (hs : ∀ p ∈ parents, p.Pairwise (fun a b => le a b = true)) :
    out.Pairwise (fun a b => le a b = true) ∧ out.Perm parents.flatten :=
  Zed.merge_sorted le trans refl parents out h hs

/-- the Comparator's `le` on guarded rows satisfies the hypotheses of `merge_sorted` -/
theorem merge_sorted_rows_hyps (nullsMax : Bool) (dirs : List Bool) (m : Bool) :
    (∀ a b c : Row, a.okFor dirs m → b.okFor dirs m → c.okFor dirs m →
      leRow nullsMax dirs a b = true → leRow nullsMax dirs b c = true → leRow nullsMax dirs a c = true) ∧
    (∀ a : Row, leRow nullsMax dirs a a = true) :=
  ⟨fun a b c ha hb hc => leRow_trans nullsMax dirs m a b c ha hb hc,
   leRow_refl nullsMax dirs⟩

/-- Obligation on the regenerated facts: the shape of `merge.Op` the replay model
    (`Zed.Model.MergeOp`) was written for — `Pull` pops the heap's minimum, the whole-batch rule, the
    fall back to a `zbuf` puller over `Read`, `Read` taking `hol[0].vals[0]`, the heap order, EOS on an
    empty heap, and a puller batch being full at `PullerBatchValues` values. -/
theorem mergeOp_shape :
    Generated.C06.mergeBatchRule = "o.Len() == 0 || o.cmp(min.vals[len(min.vals)-1], o.hol[0].vals[0]) <= 0" ∧
    Generated.C06.mergeBatchBody =
      ["batch := min.batch", "if len(min.vals) < len(batch.Values())", "ok, err := min.replenish()",
       "if err != nil", "if ok", "return batch, nil"] ∧
    Generated.C06.mergeReadPath = ["heap.Push(o, min)", "return zbuf.NewPuller(o).Pull(false)"] ∧
    Generated.C06.mergeEos = "return nil, o.start()" ∧
    Generated.C06.mergeRead =
      ["if o.unref != nil", "if o.Len() == 0", "u := o.hol[0]", "val := &u.vals[0]", "u.vals = u.vals[1:]",
       "if len(u.vals) == 0", "heap.Fix(o, 0)", "return val, nil"] ∧
    Generated.C06.mergeLess = "o.cmp(o.hol[i].vals[0], o.hol[j].vals[0]) < 0" ∧
    Generated.C06.pullerBatchFull = "bufFull || len(b.vals) == cap(b.vals)" ∧
    Generated.C06.pullerBatchCap = "make([]zed.Value, PullerBatchValues)" ∧
    0 < pullerBatchValues := ⟨rfl, rfl, rfl, rfl, rfl, rfl, rfl, rfl, by decide⟩

/-- **merge_sorted for every choice sequence of the heap** (`merge.Op` itself: heap of parents,
    refill, whole-batch emission rule, read path with the puller's value limit).  `acceptRun` replays
    a sequence of `Pull` results — for every value the parent the heap chose — against the rules of
    merge.go; the T2 tie sends what the real operator did.  Every accepted sequence over sorted
    parents is sorted and delivers every input value exactly once. -/
theorem mergeOp_sorted {α : Type} (le : α → α → Bool)
    (trans : ∀ a b c, le a b = true → le b c = true → le a c = true) (refl : ∀ a, le a a = true)
    (limit : Nat) (parents : MState α) (choices : List (List Nat)) (outs : List (List α))
    (hn : MNoEmpty parents) (h : acceptRun le limit parents choices = some outs)
    (hs : ∀ p ∈ parents, p.flatten.Pairwise (fun a b => le a b = true)) :
    outs.flatten.Pairwise (fun a b => le a b = true) ∧
    outs.flatten.Perm (parents.map List.flatten).flatten :=
  mergeOp_sorted_on le (fun _ => True) (fun a b c _ _ _ => trans a b c) refl limit parents choices outs hn h
    (fun _ _ _ _ _ _ => trivial) hs

/-- the same for rows under the Comparator (`Compare(a, b) <= 0`), guarded rows only -/
theorem mergeOp_sorted_rows (nullsMax : Bool) (dirs : List Bool) (m : Bool)
    (parents : MState Row) (choices : List (List Nat)) (outs : List (List Row))
    (hn : MNoEmpty parents)
    (h : acceptRun (leRowM nullsMax dirs) pullerBatchValues parents choices = some outs)
    (hok : ∀ p ∈ parents, ∀ b ∈ p, ∀ r ∈ b, r.okFor dirs m)
    (hs : ∀ p ∈ parents, p.flatten.Pairwise (fun a b => leRowM nullsMax dirs a b = true)) :
    outs.flatten.Pairwise (fun a b => leRowM nullsMax dirs a b = true) ∧
    outs.flatten.Perm (parents.map List.flatten).flatten := by
  rw [leRowM_eq_leRow] at h hs ⊢
  exact mergeOp_sorted_on (leRow nullsMax dirs) (fun r => r.okFor dirs m)
    (fun a b c ha hb hc => leRow_trans nullsMax dirs m a b c ha hb hc)
    (leRow_refl nullsMax dirs) pullerBatchValues parents choices outs hn h hok hs

/-! ### nulls first or last: one flag, many sites

  `Comparator.Compare` swaps the operands of a descending key before `compareValues` applies
  `nullsMax`; nulls therefore follow the other values of a key iff `nullsMax ≠ descending`
  (`nullsLast`).  The table of every construction of a comparator in the repository is regenerated
  (`comparatorSites`: file:function, constructor, what is passed for `nullsMax`). -/

/-- Obligation on the regenerated table: these are all the places that construct a comparator and
    what each passes for `nullsMax` (a new site, or a changed argument, has to be classified here);
    `sort.Op.setComparator`, the compare() function's default, the optimizer's pruning call,
    `lake.ImportComparator` and the parallelizer's guard are the statements the model was written for. -/
theorem comparator_sites_known :
    Generated.C06.comparatorSites =
      [("cmd/super/internal/lakemanage/scan.go:newRunBuilder", "expr.NewValueCompareFn", "true"),
       ("compiler/kernel/op.go:Builder.compile", "expr.NewComparator", "true"),
       ("lake/writer.go:NewWriter", "lake.ImportComparator", "(by callee)"),
       ("lake/writer.go:NewSortedWriter", "lake.ImportComparator", "(by callee)"),
       ("lake/writer.go:ImportComparator", "zbuf.NewComparatorNullsMax", "(by callee)"),
       ("runtime/sam/expr/extent/span.go:NewGenericFromOrder", "expr.NewValueCompareFn", "o == order.Asc"),
       ("runtime/sam/expr/function/compare.go:NewCompare", "expr.NewValueCompareFn", "true"),
       ("runtime/sam/expr/function/compare.go:NewCompare", "expr.NewValueCompareFn", "false"),
       ("runtime/sam/expr/sort.go:NewCompareFn", "expr.NewComparator", "parameter nullsMax"),
       ("runtime/sam/expr/sort.go:NewValueCompareFn", "expr.NewComparator", "parameter nullsMax"),
       ("runtime/sam/op/groupby/groupby.go:NewAggregator", "expr.NewComparator", "true"),
       ("runtime/sam/op/groupby/groupby.go:NewAggregator", "expr.NewCompareFn", "true"),
       ("runtime/sam/op/groupby/groupby.go:NewAggregator", "expr.NewComparator", "true"),
       ("runtime/sam/op/join/join.go:New", "expr.NewValueCompareFn", "true"),
       ("runtime/sam/op/meta/lister.go:sortObjects", "expr.NewValueCompareFn", "true"),
       ("runtime/sam/op/meta/sequence.go:newObjectsScanner", "lake.ImportComparator", "(by callee)"),
       ("runtime/sam/op/meta/slicer.go:NewSlicer", "expr.NewValueCompareFn", "true"),
       ("runtime/sam/op/sort/sort.go:Op.setComparator", "expr.NewComparator",
         "nullsMax := !o.nullsFirst; if resolvers[0].Order == order.Desc nullsMax = !nullsMax"),
       ("runtime/sam/op/top/top.go:Op.consume", "expr.NewCompareFn", "false"),
       ("vng/primitive.go:NewPrimitiveEncoder", "expr.NewValueCompareFn", "false"),
       ("vng/primitive.go:PrimitiveEncoder.makeDict", "expr.NewValueCompareFn", "false"),
       ("zbuf/merger.go:NewComparator", "expr.NewComparator", "nullsMax := sortKeys[0].Order == order.Asc"),
       ("zbuf/merger.go:NewComparatorNullsMax", "expr.NewComparator", "true")] ∧
    (Generated.C06.comparatorSites.all fun s => (NullsRule.ofText s.2.1 s.2.2).isSome) = true ∧
    (nullIsMaxSites.all fun w =>
      Generated.C06.comparatorSites.any (·.1 == w) &&
      (Generated.C06.comparatorSites.filter (·.1 == w)).all fun s =>
        match NullsRule.ofText s.2.1 s.2.2 with
        | some (.always true) => true
        | some (.callee n) => n == "lake.ImportComparator" || n == "zbuf.NewComparatorNullsMax"
        | _ => false) = true ∧
    Generated.C06.importComparator = ["return zbuf.NewComparatorNullsMax(zctx, pool.SortKeys)"] ∧
    Generated.C06.sortSetComparator =
      ["nullsMax := !o.nullsFirst",
       "if o.reverse { for k := range resolvers { resolvers[k].Order = !resolvers[k].Order } }",
       "if resolvers[0].Order == order.Desc { nullsMax = !nullsMax }",
       "o.comparator = expr.NewComparator(nullsMax, resolvers...).WithMissingAsNull()"] ∧
    Generated.C06.compareFuncCall =
      ["nullsMax := true", "if len(args) == 3 { … nullsMax = args[2].Bool() }", "cmp := e.nullsMax",
       "if !nullsMax { cmp = e.nullsMin }", "return zed.NewInt64(int64(cmp(args[0], args[1])))"] ∧
    Generated.C06.optimizerCompare.head? = some "nullsMax := &dag.Literal{Kind: \"Literal\", Value: \"true\"}" ∧
    Generated.C06.parallelSortGuard = "op.Reverse || op.NullsFirst || op.Args[0].Order == order.Desc => return" := by
  refine ⟨rfl, by decide +kernel, by decide +kernel, rfl, rfl, rfl, rfl, rfl⟩

/-- **nulls_consistency** — nulls first/last across sort, merge, the lake and compare(), over the
    rules of the regenerated table:
    (a) under flag `nm` a null key of a key with direction `d` follows every non-null value iff
        `nm ≠ d`, and precedes it otherwise (both argument orders);
    (b) the sort operator puts the nulls of its first key last iff `-nulls first` is not given —
        whatever `-r`, the direction and the further keys;
    (c) every null-is-the-maximum site (lake writer and reader, kernel merge, join, groupby, lister,
        slicer: `comparator_sites_known`) puts nulls last for ascending and first for descending keys,
        and so does compare() by default and in the optimizer's pruning predicate (flag `true`);
    (d) `zbuf.NewComparator` (flag = first key ascending) puts nulls last in both directions and is the
        default sort's comparator flag;
    (e) the sort's comparator on one key is the merge's / the lake's comparator for the (possibly
        reversed) direction exactly when `nullsFirst` equals "that direction is descending"; so the
        parallelizer's guard (not `-r`, not `-nulls first`, ascending) implies equality, and a plain
        `sort k desc` does NOT have the order of a descending pool or merge. -/
theorem nulls_consistency :
    (∀ (nm d : Bool) (t : Ty) (x : Val), x.isNull = false →
      cmpKeys nm [d] [.null t] [x] = (if nullsLast nm d then .gt else .lt) ∧
      cmpKeys nm [d] [x] [.null t] = (if nullsLast nm d then .lt else .gt)) ∧
    (∀ (nf rev d : Bool) (ds : List Bool),
      nullsLast (sortConfig nf rev (d :: ds)).1 ((sortConfig nf rev (d :: ds)).2.headD false) = !nf ∧
      (sortConfig nf rev (d :: ds)).1 = NullsRule.sortFlags.flag nf false (d != rev)) ∧
    (∀ (nf p d : Bool), nullsLast ((NullsRule.always true).flag nf p d) d = !d ∧
      nullsLast ((NullsRule.callee "lake.ImportComparator").flag nf p d) d = !d ∧
      nullsLast ((NullsRule.callee "zbuf.NewComparatorNullsMax").flag nf p d) d = !d) ∧
    (∀ (nf p d : Bool), nullsLast (NullsRule.primaryAsc.flag nf p d) d = true ∧
      NullsRule.primaryAsc.flag nf p d = (sortConfig false false [d]).1) ∧
    (∀ (nf rev d : Bool), sortConfig nf rev [d] = (true, [d != rev]) ↔ nf = (d != rev)) ∧
    sortConfig false false [false] = (true, [false]) ∧
    sortConfig false false [true] ≠ (true, [true]) := by
  refine ⟨fun nm d t x hx => ⟨cmpKeys_null_left nm d t x hx, cmpKeys_null_right nm d t x hx⟩, ?_, ?_, ?_, ?_, ?_, ?_⟩
  · intro nf rev d ds; cases nf <;> cases rev <;> cases d <;> simp [sortConfig, nullsLast, NullsRule.flag]
  · intro nf p d; cases d <;> simp [nullsLast, NullsRule.flag]
  · intro nf p d; cases d <;> simp [nullsLast, NullsRule.flag, sortConfig]
  · intro nf rev d; cases nf <;> cases rev <;> cases d <;> simp [sortConfig]
  · decide
  · decide

/-- non-vacuity of the row guard -/
example : (Row.mk [.num tInt64 (.int 5), .null tFloat64] 0).okFor [false, true] true := by
  refine ⟨rfl, ?_⟩
  intro k hk
  simp only [List.mem_cons, List.mem_nil_iff, or_false] at hk
  rcases hk with rfl | rfl <;> exact ⟨by decide, by decide⟩

end Zed.Props.C06

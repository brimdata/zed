/-
  C18 — a failed write to the output is always reported.
  The property theorems and their lemmas.  The per-site error handling comes from Zed.Generated.C18
  (regenerated from the writers' Go sources on every check).
-/
import Zed.Model.Sink
namespace Zed.Props.C18
open Zed.Sink

/-- Some sink call numbered in `[a, b)` failed. -/
def FailedIn (fail : Oracle) (a b : Nat) : Prop := ∃ k, a ≤ k ∧ k < b ∧ fail k = true

private theorem failedIn_mono {fail : Oracle} {a b a' b' : Nat} (ha : a' ≤ a) (hb : b ≤ b') :
    FailedIn fail a b → FailedIn fail a' b' := by
  rintro ⟨k, h1, h2, h3⟩; exact ⟨k, by omega, by omega, h3⟩

private theorem failedIn_split {fail : Oracle} {a b c : Nat} :
    FailedIn fail a c → FailedIn fail a b ∨ FailedIn fail b c := by
  rintro ⟨k, h1, h2, h3⟩
  by_cases h : k < b
  · exact Or.inl ⟨k, h1, h, h3⟩
  · exact Or.inr ⟨k, by omega, h2, h3⟩

/-- Sink calls `[a, b)` were made and, unless `e` reports an error, none failed. -/
def Reports (fail : Oracle) (a b : Nat) (e : Bool) : Prop :=
  a ≤ b ∧ (e = false → ¬ FailedIn fail a b)

private theorem Reports.refl {fail : Oracle} {a : Nat} {e : Bool} : Reports fail a a e :=
  ⟨Nat.le_refl _, fun _ ⟨k, h1, h2, _⟩ => by omega⟩

private theorem Reports.err {fail : Oracle} {a b : Nat} (h : a ≤ b) : Reports fail a b true :=
  ⟨h, fun h => nomatch h⟩

private theorem Reports.one {fail : Oracle} {n : Nat} : Reports fail n (n + 1) (fail n) :=
  ⟨Nat.le_succ _, fun h ⟨k, h1, h2, h3⟩ => by
    obtain rfl : k = n := by omega
    rw [h] at h3; cases h3⟩

private theorem Reports.trans {fail : Oracle} {a b c : Nat} {e : Bool}
    (h1 : Reports fail a b false) (h2 : Reports fail b c e) : Reports fail a c e :=
  ⟨Nat.le_trans h1.1 h2.1, fun he hf => (failedIn_split hf).elim (h1.2 rfl) (h2.2 he)⟩

/-- `runDirect`, `zRun`, `bRun` satisfy the two equations of `run` by `rfl`. -/
private theorem run_reported {σ ο : Type} {fail : Oracle} (next : σ → Nat) (step : σ → ο → σ × Bool)
    (run : List ο → σ → List Bool × σ) (hnil : ∀ s, run [] s = ([], s))
    (hcons : ∀ o os s, run (o :: os) s =
      ((step s o).2 :: (run os (step s o).1).1, (run os (step s o).1).2)) :
    ∀ (ops : List ο), (∀ o ∈ ops, ∀ s, Reports fail (next s) (next (step s o).1) (step s o).2) →
      ∀ s, next s ≤ next (run ops s).2 ∧
        (FailedIn fail (next s) (next (run ops s).2) → true ∈ (run ops s).1)
  | [], _, s => by rw [hnil]; exact ⟨Nat.le_refl _, fun h => absurd h (Reports.refl.2 rfl)⟩
  | o :: os, hstep, s => by
    obtain ⟨i1, i2⟩ := run_reported next step run hnil hcons os
      (fun o' ho' => hstep o' (List.mem_cons_of_mem _ ho')) (step s o).1
    have h1 := hstep o List.mem_cons_self s
    rw [hcons]
    refine ⟨Nat.le_trans h1.1 i1, fun hf => ?_⟩
    cases he : (step s o).2 with
    | true => exact List.mem_cons_self
    | false =>
      -- the step reported nothing, so the failure lies in the rest of the run
      exact List.mem_cons_of_mem _ (i2 ((failedIn_split hf).resolve_left (h1.2 he)))

/-! ### Obligations on the regenerated call-site table -/

/-- zngio.Writer: every site the model distinguishes returns the error. -/
theorem zng_sites_returned : genZngSites = allReturned := by decide +kernel

private theorem pkgAllReturned_of {pkg : String} {except : List String}
    (hsites : ∀ s ∈ Zed.Generated.C18.sites,
      s.2.2.2 = "returned" ∨ (s.1 = "lakedata" ∧ s.2.1 = "Abort"))
    (h : pkg ≠ "lakedata" ∨ "Abort" ∈ except) : pkgAllReturned pkg except = true := by
  refine List.all_eq_true.2 fun s hs => ?_
  obtain ⟨hmem, hf⟩ := List.mem_filter.1 hs
  rcases hsites s hmem with hr | ⟨hl, ha⟩
  · exact beq_iff_eq.2 hr
  · simp only [Bool.and_eq_true, beq_iff_eq, Bool.not_eq_true', List.contains_eq_mem,
      decide_eq_false_iff_not] at hf
    rcases h with h | h
    · exact absurd (hl ▸ hf.1).symm h
    · exact absurd (ha ▸ h) hf.2

/-- Every sink-reaching call site of the writers other than zngio returns the error (the lake
    data writer's `Abort` is its error-cleanup path and is excluded). -/
theorem direct_sites_returned :
    pkgAllReturned "zsonio" [] = true ∧ pkgAllReturned "zjsonio" [] = true ∧
    pkgAllReturned "zeekio" [] = true ∧ pkgAllReturned "textio" [] = true ∧
    pkgAllReturned "jsonio" [] = true ∧ pkgAllReturned "tableio" [] = true ∧
    pkgAllReturned "vng" [] = true ∧ pkgAllReturned "vngenc" [] = true ∧
    pkgAllReturned "lakedata" ["Abort"] = true ∧
    pkgAllReturned "csvio" [] = true ∧ pkgAllReturned "bufwriter" [] = true := by
  have hs : ∀ s ∈ Zed.Generated.C18.sites,
      s.2.2.2 = "returned" ∨ (s.1 = "lakedata" ∧ s.2.1 = "Abort") := by decide +kernel
  exact
    ⟨pkgAllReturned_of hs (.inl (by decide)), pkgAllReturned_of hs (.inl (by decide)),
     pkgAllReturned_of hs (.inl (by decide)), pkgAllReturned_of hs (.inl (by decide)),
     pkgAllReturned_of hs (.inl (by decide)), pkgAllReturned_of hs (.inl (by decide)),
     pkgAllReturned_of hs (.inl (by decide)), pkgAllReturned_of hs (.inl (by decide)),
     pkgAllReturned_of hs (.inr (List.mem_singleton_self _)),
     pkgAllReturned_of hs (.inl (by decide)), pkgAllReturned_of hs (.inl (by decide))⟩

/-- The table is not vacuous: every package contributes sites. -/
theorem sites_present :
    pkgSiteCount "zngio" ≥ 15 ∧ pkgSiteCount "zsonio" ≥ 2 ∧ pkgSiteCount "zjsonio" ≥ 2 ∧
    pkgSiteCount "zeekio" ≥ 2 ∧ pkgSiteCount "textio" ≥ 2 ∧ pkgSiteCount "jsonio" ≥ 1 ∧
    pkgSiteCount "tableio" ≥ 9 ∧ pkgSiteCount "vng" ≥ 3 ∧ pkgSiteCount "vngenc" ≥ 14 ∧
    pkgSiteCount "lakedata" ≥ 9 ∧
    pkgSiteCount "csvio" ≥ 4 ∧ pkgSiteCount "bufwriter" ≥ 1 := by decide +kernel

/-! ### Direct (straight-line) writers -/

private theorem runSteps_reports (fail : Oracle) : ∀ (hs : List Handling),
    (∀ h ∈ hs, h = Handling.returned) → ∀ n,
      Reports fail n (runSteps fail hs n).next (runSteps fail hs n).err
  | [], _, n => .refl
  | h :: rest, hall, n => by
    obtain rfl : h = .returned := hall h List.mem_cons_self
    have ih := runSteps_reports fail rest (fun x hx => hall x (List.mem_cons_of_mem _ hx)) (n + 1)
    have h1 : Reports fail n (n + 1) (fail n) := .one
    cases hf : fail n
    · rw [hf] at h1
      simpa only [runSteps, sinkCall, hf, Bool.false_eq_true, if_false] using h1.trans ih
    · simpa only [runSteps, sinkCall, hf, if_true] using Reports.err (Nat.le_succ n)

/-- **direct_error_reported.**  For a writer whose operations are straight-line sequences of
    sink calls all of whose sites return the error: for every operation sequence and every
    sink oracle, if any sink call made during the run failed then some operation returned an
    error. -/
theorem direct_error_reported (fail : Oracle) (ops : List (List Handling))
    (hall : ∀ op ∈ ops, ∀ h ∈ op, h = Handling.returned) (n : Nat) :
    n ≤ (runDirect fail ops n).2 ∧
    (FailedIn fail n (runDirect fail ops n).2 → true ∈ (runDirect fail ops n).1) :=
  -- the state of a direct writer's run is the call number itself
  run_reported id (fun n op => ((runSteps fail op n).next, (runSteps fail op n).err)) (runDirect fail)
    (fun _ => rfl) (fun _ _ _ => rfl) ops (fun op ho n => runSteps_reports fail op (hall op ho) n) n

/-- The hypothesis `hall` is needed: with one dropped site a one-shot failure goes unreported. -/
theorem not_direct_error_reported_with_dropped_site :
    ∃ (fail : Oracle) (ops : List (List Handling)),
      FailedIn fail 0 (runDirect fail ops 0).2 ∧ true ∉ (runDirect fail ops 0).1 :=
  ⟨oneShot 0, [[.dropped, .returned]], ⟨0, by decide, by decide, by decide⟩, by decide⟩

/-! ### ZNG writer -/

/-- do `r`; if it failed return its error, else go on with `k` -/
private def orElse {σ : Type} (r : σ × Bool) (k : σ → σ × Bool) : σ × Bool :=
  if r.2 then (r.1, true) else k r.1

private theorem Reports.orElse {fail : Oracle} {σ : Type} (next : σ → Nat) {a : Nat} {r : σ × Bool}
    {k : σ → σ × Bool} (h1 : Reports fail a (next r.1) r.2)
    (hk : Reports fail (next r.1) (next (k r.1).1) (k r.1).2) :
    Reports fail a (next (orElse r k).1) (orElse r k).2 := by
  obtain ⟨s1, e1⟩ := r
  cases e1
  · exact h1.trans hk
  · exact .err h1.1

private theorem orElse_false {σ : Type} {r : σ × Bool} {k : σ → σ × Bool}
    (h : (orElse r k).2 = false) : r.2 = false ∧ orElse r k = k r.1 := by
  obtain ⟨s1, e1⟩ := r
  cases e1
  · exact ⟨rfl, rfl⟩
  · cases h

private theorem zWrite_eq (fail : Oracle) (s : ZngState) :
    zWrite fail s = ({ s with next := s.next + 1, dirty := s.dirty || !fail s.next }, fail s.next) := by
  unfold zWrite; cases fail s.next <;> simp

private theorem zWriteBlock_all (fail : Oracle) (s : ZngState) (len : Nat) :
    zWriteBlock true fail s len =
      if len = 0 then (s, false) else orElse (zWrite fail s) (zWrite fail) := by
  unfold zWriteBlock orElse
  split
  · rfl
  · cases h : (zWrite fail s).2 <;> simp [h]

private theorem zFlush_all (fail : Oracle) (s : ZngState) :
    zFlush allReturned fail s =
      orElse (zWriteBlock true fail s s.tbuf) fun s1 =>
      orElse (zWriteBlock true fail s1 s1.vbuf) fun s2 =>
      ({ s2 with tbuf := 0, vbuf := 0 }, false) := by
  unfold zFlush orElse
  simp only [allReturned, after, Bool.and_true]

private theorem zEndStream_all (fail : Oracle) (s : ZngState) :
    zEndStream allReturned fail s =
      orElse (zFlush allReturned fail s) fun s1 =>
      if s1.dirty then orElse (zWrite fail s1) fun s2 => ({ s2 with dirty := false }, false)
      else (s1, false) := by
  unfold zEndStream orElse
  generalize zFlush allReturned fail s = r
  simp only [allReturned, after, Bool.and_true, beq_self_eq_true]

private theorem zWrite_reports (fail : Oracle) (s : ZngState) :
    Reports fail s.next (zWrite fail s).1.next (zWrite fail s).2 := by
  rw [zWrite_eq]; exact .one

private theorem zWriteBlock_reports (fail : Oracle) (s : ZngState) (len : Nat) :
    Reports fail s.next (zWriteBlock true fail s len).1.next (zWriteBlock true fail s len).2 := by
  rw [zWriteBlock_all]
  split
  · exact .refl
  · exact .orElse _ (zWrite_reports fail s) (zWrite_reports fail _)

private theorem zFlush_reports (fail : Oracle) (s : ZngState) :
    Reports fail s.next (zFlush allReturned fail s).1.next (zFlush allReturned fail s).2 := by
  rw [zFlush_all]
  exact .orElse _ (zWriteBlock_reports fail s _) (.orElse _ (zWriteBlock_reports fail _ _) .refl)

private theorem zEndStream_reports (fail : Oracle) (s : ZngState) :
    Reports fail s.next (zEndStream allReturned fail s).1.next (zEndStream allReturned fail s).2 := by
  rw [zEndStream_all]
  refine .orElse _ (zFlush_reports fail s) ?_
  split
  · exact .orElse _ (zWrite_reports fail _) .refl
  · exact .refl

private theorem zFlush_clean (fail : Oracle) (s : ZngState)
    (h : (zFlush allReturned fail s).2 = false) :
    (zFlush allReturned fail s).1.tbuf = 0 ∧ (zFlush allReturned fail s).1.vbuf = 0 := by
  rw [zFlush_all] at h ⊢
  have e := (orElse_false h).2
  rw [e] at h ⊢
  rw [(orElse_false h).2]
  exact ⟨rfl, rfl⟩

private theorem zEndStream_clean (fail : Oracle) (s : ZngState)
    (h : (zEndStream allReturned fail s).2 = false) :
    (zEndStream allReturned fail s).1.tbuf = 0 ∧ (zEndStream allReturned fail s).1.vbuf = 0 ∧
      (zEndStream allReturned fail s).1.dirty = false := by
  rw [zEndStream_all] at h ⊢
  obtain ⟨hf, e⟩ := orElse_false h
  obtain ⟨ht, hv⟩ := zFlush_clean fail s hf
  rw [e] at h ⊢
  split at h
  · -- the end-of-stream marker is written: the buffers stay as the flush left them
    rename_i hd
    rw [if_pos hd, (orElse_false h).2, zWrite_eq]
    exact ⟨ht, hv, rfl⟩
  · rename_i hd
    rw [if_neg hd]
    exact ⟨ht, hv, Bool.not_eq_true _ ▸ hd⟩

private theorem zStep_write (thresh : Nat) (fail : Oracle) (s : ZngState) (t v : Nat) :
    zStep ⟨thresh, allReturned⟩ fail s (.write t v) =
      if s.vbuf + v ≥ thresh || s.tbuf + t ≥ thresh then
        zFlush allReturned fail { s with tbuf := s.tbuf + t, vbuf := s.vbuf + v }
      else ({ s with tbuf := s.tbuf + t, vbuf := s.vbuf + v }, false) := by
  simp only [zStep, allReturned, beq_self_eq_true, Bool.and_true]

private theorem zStep_close (thresh : Nat) (fail : Oracle) (s : ZngState) :
    zStep ⟨thresh, allReturned⟩ fail s .close = zEndStream allReturned fail s := by
  simp only [zStep, allReturned, beq_self_eq_true, Bool.and_true]

private theorem zStep_reports (thresh : Nat) (fail : Oracle) (s : ZngState) (op : ZngOp) :
    Reports fail s.next (zStep ⟨thresh, allReturned⟩ fail s op).1.next
      (zStep ⟨thresh, allReturned⟩ fail s op).2 := by
  cases op with
  | write t v =>
    rw [zStep_write]
    split
    · exact zFlush_reports fail { s with tbuf := s.tbuf + t, vbuf := s.vbuf + v }
    · exact .refl
  | endStream => exact zEndStream_reports fail s
  | close =>
    rw [zStep_close]
    exact zEndStream_reports fail s

private theorem zRun_reported (thresh : Nat) (fail : Oracle) (ops : List ZngOp) (s : ZngState) :
    s.next ≤ (zRun ⟨thresh, allReturned⟩ fail ops s).2.next ∧
    (FailedIn fail s.next (zRun ⟨thresh, allReturned⟩ fail ops s).2.next →
      true ∈ (zRun ⟨thresh, allReturned⟩ fail ops s).1) :=
  run_reported ZngState.next (zStep ⟨thresh, allReturned⟩ fail) (zRun ⟨thresh, allReturned⟩ fail)
    (fun _ => rfl) (fun _ _ _ => rfl) ops (fun op _ s => zStep_reports thresh fail s op) s

/-- **zng_error_reported.**  With the call-site handling regenerated from the current
    zio/zngio/writer.go: for every frame threshold, every sequence of Write / EndStream /
    Close operations (values of any typedef and body sizes), every starting state and every
    sink oracle (one-shot, sticky, anything), if any sink write made during the run failed,
    some operation returned an error. -/
theorem zng_error_reported (thresh : Nat) (fail : Oracle) (ops : List ZngOp) (s : ZngState) :
    FailedIn fail s.next (zRun ⟨thresh, genZngSites⟩ fail ops s).2.next →
      true ∈ (zRun ⟨thresh, genZngSites⟩ fail ops s).1 := by
  rw [zng_sites_returned]
  exact (zRun_reported thresh fail ops s).2

/-- **zng_close_complete.**  If Close reports no error, both buffers are empty and the stream
    is not dirty (the model has byte counts and flags, not the bytes themselves). -/
theorem zng_close_complete (thresh : Nat) (fail : Oracle) (s : ZngState)
    (h : (zStep ⟨thresh, genZngSites⟩ fail s .close).2 = false) :
    (zStep ⟨thresh, genZngSites⟩ fail s .close).1.tbuf = 0 ∧
    (zStep ⟨thresh, genZngSites⟩ fail s .close).1.vbuf = 0 ∧
    (zStep ⟨thresh, genZngSites⟩ fail s .close).1.dirty = false := by
  rw [zng_sites_returned, zStep_close] at h ⊢
  exact zEndStream_clean fail s h

/-- The defect repaired by fe729beff, kept as a theorem about the model: when `flush` swallows
    the error of `writeBlock` (`return nil`), a failed sink write goes unreported. -/
theorem not_zng_error_reported_when_flush_swallows :
    ∃ (fail : Oracle) (ops : List ZngOp),
      let cfg : ZngCfg := ⟨1, { allReturned with flushTypes := .swallowed, flushValues := .swallowed }⟩
      FailedIn fail 0 (zRun cfg fail ops {}).2.next ∧ true ∉ (zRun cfg fail ops {}).1 :=
  ⟨oneShot 0, [.write 3 5, .close], ⟨0, by decide, by decide, by decide⟩, by decide⟩

/-! ### bufio-buffered writers -/

private theorem bFlush_reports (fail : Oracle) (s : BufState) :
    Reports fail s.next (bFlush fail s).next (bFlush fail s).sticky := by
  unfold bFlush
  split
  · exact .refl
  · rename_i hs
    split
    · exact .refl
    · split
      · exact .err (Nat.le_succ _)
      · rename_i hf
        rw [Bool.not_eq_true] at hs hf
        have h1 : Reports fail s.next (s.next + 1) (fail s.next) := .one
        rw [hf] at h1
        rw [show s.sticky = false from hs]
        exact h1

private theorem bAppend_reports (fail : Oracle) : ∀ (fuel : Nat) (s : BufState) (n : Nat),
    Reports fail s.next (bAppend fail fuel s n).next (bAppend fail fuel s n).sticky
  | 0, _, _ => .refl
  | fuel + 1, s, n => by
    simp only [bAppend]
    split
    · exact .refl
    · split
      · exact .refl
      · have h1 := bFlush_reports fail { s with buffered := s.cap }
        split
        · rename_i hst
          rw [hst]
          exact .err h1.1
        · rename_i hst
          rw [Bool.not_eq_true] at hst
          rw [hst] at h1
          exact h1.trans (bAppend_reports fail fuel _ _)

private theorem bStep_reports (fail : Oracle) (s : BufState) (op : BufOp) :
    Reports fail s.next (bStep true fail s op).1.next (bStep true fail s op).2 := by
  cases op with
  | write n => exact bAppend_reports fail n s n
  | close =>
    show Reports fail s.next (bFlush fail s).next ((bFlush fail s).sticky && true)
    rw [Bool.and_true]; exact bFlush_reports fail s

/-- **buf_error_reported.**  A bufio-buffered writer whose Write returns the sticky error and
    whose Close returns the error of the final flush (the generated csvio / bufwriter sites
    say so, see `direct_sites_returned`; the model takes that as `bRun true`): if any sink write
    made during the run failed, some operation returned an error.  (`hs` is not used: a writer
    that starts with the sticky error set reports it at every operation.) -/
theorem buf_error_reported (fail : Oracle) (ops : List BufOp) (s : BufState)
    (hs : s.sticky = false) :
    s.next ≤ (bRun true fail ops s).2.next ∧
    (FailedIn fail s.next (bRun true fail ops s).2.next → true ∈ (bRun true fail ops s).1) :=
  have _ := hs
  run_reported BufState.next (bStep true fail) (bRun true fail)
    (fun _ => rfl) (fun _ _ _ => rfl) ops (fun op _ s => bStep_reports fail s op) s

/-- The defect repaired by 80719b04a, kept as a theorem about the model: when Close drops the
    error of the final flush, a failure of that flush goes unreported. -/
theorem not_buf_error_reported_when_close_drops :
    ∃ (fail : Oracle) (ops : List BufOp) (s : BufState),
      FailedIn fail s.next (bRun false fail ops s).2.next ∧ true ∉ (bRun false fail ops s).1 :=
  ⟨oneShot 0, [.write 10, .close], { cap := 4096 }, ⟨0, by decide, by decide, by decide⟩, by decide⟩

/-! ### Non-vacuity -/

/-- A concrete run meeting the hypotheses: threshold 8, three values, sticky failure from the
    third sink call on: the second Write and every later operation report it. -/
example :
    (zRun ⟨8, genZngSites⟩ (stickyFrom 2) [.write 4 5, .write 0 9, .write 0 1, .close] {}).1
      = [false, true, true, true] := by
  rw [zng_sites_returned]; decide

end Zed.Props.C18

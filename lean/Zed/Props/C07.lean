/-
  C07 — the optimizer preserves program meaning.  The property theorems with the predicates and
  witness interpretations their statements need.

  The rewrites are the functions of `Zed.Model.OptRewrites` (tied to the Go optimizer by the
  structural correspondence: model `optimize before` = real `after`, and by the regenerated
  classification tables `Zed.Generated.C07`); the meaning of a DAG is `semSeq` of
  `Zed.Model.OptSem`.  "Same sequence where the program defines an order, same multiset
  elsewhere" appears as: equality of `semSeq` for rewrites that do not touch a fan-in;
  `List.Perm` (+ sortedness of both sides) for what reaches the operator after a fan-in; and,
  for `head`/`tail` (whose result after a combine is a *choice*), refinement: every result of
  the optimized plan is a result of the original plan under some schedule.
-/
import Zed.Proofs.OptLemmas
import Zed.Proofs.OptLift
namespace Zed.Props.C07
open Zed.Opt Zed.Generated.C07

variable {V : Type}

/-- Full statement: `∀ I S s ins, semSeq I S (mergeFilters s) ins = semSeq I S s ins`.
    It is false of the current code (see `not_mergeFilters_sound`): when the first predicate
    evaluates to an error value the merged filter emits it while the sequence passes it through
    the second filter.  Proved under `Total I` (no predicate yields an emitted error value), for
    every DAG (filters are merged inside fork/scatter/mirror/scope/over bodies as well), every
    interpretation of atoms and operators, every scheduler.  The combiner is read from the
    regenerated table: with anything but "and" the proof does not go through. -/
theorem mergeFilters_sound_partial (I : Interp V) (S : Sched V) (hT : Total I) (s : Seq)
    (ins : List (List V)) : semSeq I S (mergeFilters s) ins = semSeq I S s ins :=
  walk_sound I S true mergeFiltersSeq (semSeq_mergeFiltersSeq I S hT rfl) s ins

/-- the pair law behind it: `where a | where b` = `where a <combiner> b`. -/
theorem mergeFilters_pair_sound_partial (I : Interp V) (hT : Total I) (a b : Expr) (xs : List V) :
    filterSem I (.bin mergeFiltersCombiner a b) xs = filterSem I b (filterSem I a xs) := by
  have : mergeFiltersCombiner = "and" := rfl
  rw [this]; exact filterSem_and I hT a b xs

/-- witness interpretation: the atom `A` evaluates to the error value 99 on 1, `B` is false on
    99, nothing is quiet. -/
def witI : Interp Nat where
  atom e v := match e with
    | .lit "A" => if v == 1 then .err 99 else .tt
    | .lit "B" => if v == 99 then .ff else .tt
    | _ => .tt
  quiet _ := false
  perValue _ v := [v]
  cmp _ _ a b := compare a b
  opq _ xs := xs
  source _ := [1]
  multi _ ls := ls.flatten
  over _ _ xs := xs

def witS : Sched Nat where
  comb ls := ls.flatten
  comb_single l := by simp
  comb_perm ls := List.Perm.refl _
  split _ xs := [xs]

theorem not_mergeFilters_sound :
    semSeq witI witS (mergeFilters (.cons (.filter (.lit "A")) (.cons (.filter (.lit "B")) .nil))) [[1]] ≠
    semSeq witI witS (.cons (.filter (.lit "A")) (.cons (.filter (.lit "B")) .nil)) [[1]] := by
  decide

/-- `Total` is satisfiable (non-vacuity of the `_partial` theorems). -/
def totI : Interp Nat := { witI with atom := fun _ v => if v % 2 == 0 then .tt else .ff }

example : Total totI := total_of_atom totI (by intro e v w; simp only [totI]; split <;> simp)

/-- Full statement: `semSeq (removePassSeq s) = semSeq s` for every sequence.  It is false
    (`not_removePass_sound`): a `pass` has one output, so removing it in front of an operator that
    reads its parents *separately* (merge, join, a scope) or at the end of a fork branch changes
    the number of legs — the same effect that makes a join see too many parents after a lifted
    operator was replaced by `pass` (recorded defect C07:lift:join-parents).  Proved for sequences
    in which every `pass` is followed by an operator that reads the combine of its parents
    (`passOK`, decidable) and that do not consist of passes only (`hne`; see `removePass_allpass_sound`). -/
theorem removePass_sound_partial (I : Interp V) (S : Sched V) (s : Seq) (h : passOK s = true)
    (hne : dropPass s ≠ .nil) (ins : List (List V)) :
    semSeq I S (removePassSeq s) ins = semSeq I S s ins := by
  unfold removePassSeq
  split
  · rename_i heq; exact absurd heq hne
  · exact semSeq_dropPass I S s h ins

example : passOK (.cons .pass (.cons (.head 1) .nil)) = true ∧
    dropPass (.cons .pass (.cons (.head 1) .nil)) ≠ .nil := by simp [passOK, faninSensitive, dropPass]

/-- a sequence of passes only is replaced by one pass. -/
theorem removePass_allpass_sound (I : Interp V) (S : Sched V) (ins : List (List V)) :
    semSeq I S (removePassSeq (.cons .pass (.cons .pass .nil))) ins =
    semSeq I S (.cons .pass (.cons .pass .nil)) ins := by
  simp [removePassSeq, dropPass, semSeq, semOp, leafSem, S.comb_single,
    show removePassEmptySeq = "pass" from rfl]

/-- witness: `fork (=> pass => pass) | pass | merge this` over [1,2]: with the pass the merge has one
    (unsorted) parent, without it two. -/
theorem not_removePass_sound :
    let s : Seq := .cons (.fork (.cons (.cons .pass .nil) (.cons (.cons .pass .nil) .nil)))
      (.cons .pass (.cons (.merge (.this []) false) .nil))
    semSeq witI witS (removePassSeq s) [[1, 2]] ≠ semSeq witI witS s [[1, 2]] := by
  simp [removePassSeq, dropPass, semSeq, semOp, semPaths, leafSem, mergeLegs, List.merge, witI, witS, leOf, mergeCmp]
  decide

/-- Full statement: a default scan with pushed-down filter `f` delivers what the scan followed by
    the filter operator delivers.  False of the current code (`not_pushdown_sound`, recorded defect
    C07:pushdown:filter-error-value): the scanner keeps a value only when `f` is Bool true, the
    operator also emits error values.  Proved under `Total I`. -/
theorem pushdown_sound_partial (I : Interp V) (S : Sched V) (hT : Total I) (f : Expr) (hf : f ≠ .none)
    (sk : SortKeys) (chain : Seq) (ins : List (List V)) :
    semSeq I S (.cons (.defaultScan f sk) chain) ins =
    semSeq I S (.cons (.defaultScan .none sk) (.cons (.filter f) chain)) ins := by
  simp only [semSeq, semOp, S.comb_single]
  rw [(scan_pushdown I hT hf _ (S.comb ins)).1 sk]
  simp only [leafSem]

/-- `sourcePathPost` produces exactly that shape for a default scan. -/
theorem sourcePathPost_defaultScan (pools : Pools) (sk : SortKeys) (f : Expr) (chain : Seq)
    (hprop : (propagateSortKey pools (.cons (.defaultScan .none sk) (.cons (.filter f) chain)) [[]]).1
      = .cons (.defaultScan .none sk) (.cons (.filter f) chain)) :
    sourcePathPost pools (.cons (.defaultScan .none sk) (.cons (.filter f) chain)) =
      some (.cons (.defaultScan f sk) chain) := by
  have htag : lookupTag "DefaultScan" sourceOps sourceOpsDefault = "set-filter" := by decide +kernel
  rw [sourcePathPost, hprop]
  · simp only [matchFilter, Op.kind, htag]
  · nofun

theorem not_pushdown_sound :
    semSeq witI witS (.cons (.defaultScan (.lit "A") []) .nil) [] ≠
    semSeq witI witS (.cons (.defaultScan .none []) (.cons (.filter (.lit "A")) .nil)) [] := by
  decide

/-! ## lifting into parallel legs (liftIntoParPaths)

    About lists only (not composed with `semSeq`): `legs` for the outputs of the parallel paths,
    `p`, `q` for what the fan-in of the original / of the rewritten plan delivers. -/

/-- an operator appended to a path: `paths[k].Append(op)`. -/
theorem semSeq_append (I : Interp V) (S : Sched V) : ∀ (s t : Seq) (ins : List (List V)),
    semSeq I S (s.append t) ins = semSeq I S t (semSeq I S s ins)
  | .nil, _, _ => rfl
  | .cons o r, t, ins => by simp only [Seq.append, semSeq]; exact semSeq_append I S r t _

/-- cut / drop / put / rename / yield below a combine (no merge): same multiset.  The per-value
    function is arbitrary but must be a *function of the value*: an expression calling an
    aggregate function is not (recorded defect C07:lift:stateful-expr). -/
theorem lift_pervalue_sound (I : Interp V) (op : Op) (legs : List (List V)) (p q : List V)
    (hp : p.Perm legs.flatten) (hq : q.Perm (legs.map fun l => l.flatMap (I.perValue op)).flatten) :
    (p.flatMap (I.perValue op)).Perm q :=
  flatMap_legs_perm _ legs p q hp hq

/-- a filter below a combine: same multiset (also when it emits error values). -/
theorem lift_filter_sound (I : Interp V) (e : Expr) (legs : List (List V)) (p q : List V)
    (hp : p.Perm legs.flatten) (hq : q.Perm (legs.map (filterSem I e)).flatten) :
    (filterSem I e p).Perm q :=
  flatMap_legs_perm (filterOut I e) legs p q hp hq

/-- `head n` is copied into the legs *and kept*: every result of the rewritten plan is a result
    of the original plan for some rearrangement of the legs.  (Without the final head the sizes
    differ: `lift_head_needs_final_head`.) -/
theorem lift_head_sound (n : Nat) (legs : List (List V)) (q : List V)
    (hq : q.Perm (legs.map (List.take (limitOf n))).flatten) :
    ∃ p : List V, p.Perm legs.flatten ∧ p.take (limitOf n) = q.take (limitOf n) :=
  head_legs_refines (limitOf n) legs q hq

theorem lift_head_needs_final_head :
    ∃ (legs : List (List Nat)) (q : List Nat), q.Perm (legs.map (List.take 1)).flatten ∧
      ∀ p : List Nat, p.Perm legs.flatten → p.take 1 ≠ q :=
  ⟨[[1], [2]], [1, 2], by decide, by intro p hp h; have := congrArg List.length h; simp at this; omega⟩

theorem lift_tail_sound (n : Nat) (legs : List (List V)) (q : List V)
    (hq : q.Perm (legs.map (lastN (limitOf n))).flatten) :
    ∃ p : List V, p.Perm legs.flatten ∧ lastN (limitOf n) p = lastN (limitOf n) q :=
  tail_legs_refines (limitOf n) legs q hq

/-- A plain (flag-free, ascending) single-key `sort` below a fan-in may be copied into the legs
    and replaced by `Merge{key, asc}`: both plans emit the same multiset in sort order.  This is
    the only sort `liftCase` lifts (`liftCase_sort_plain`; Go from 8f641a47c on); for `-r`,
    `-nulls first` or a descending key the merge would compare differently from the sort
    (`lift_sort_reverse_would_be_unsound`). -/
theorem lift_sort_sound (I : Interp V) (a : SortArg) (hd : a.desc = false)
    (hc : LawfulCmp (mergeCmp I a.key a.desc)) (legs : List (List V)) (p : List V)
    (hp : p.Perm legs.flatten) :
    let orig := sortSem I [a] false false p
    let opt := mergeLegs (leOf (mergeCmp I a.key a.desc)) (legs.map (sortSem I [a] false false))
    orig.Perm opt ∧ SortedBy (sortCmp I [a] false false) orig ∧ SortedBy (sortCmp I [a] false false) opt := by
  have hcmp : sortCmp I [a] false false = mergeCmp I a.key a.desc := by
    simpa [hd] using sortCmp_eq_mergeCmp I a false false hd
  have hs : sortSem I [a] false false = fun l => l.mergeSort (leOf (mergeCmp I a.key a.desc)) := by
    funext l; simp only [sortSem, hcmp]
  simp only [hs, hcmp]
  exact sort_legs_sound hc legs p hp

/-- the rewrite lifts a sort only when it is plain: the hypotheses of `lift_sort_sound` are what
    the code checks. -/
theorem liftCase_sort_plain (pools : Pools) (par : Op) (ps : Seqs) (f : Option Op) (a : SortArg)
    (nf rev : Bool) (l : Lifted) (h : liftCase pools par ps f (.sort [a] nf rev) = some l) :
    a.desc = false ∧ nf = false ∧ rev = false := by
  simp only [liftCase, Op.kind, liftTag_sort] at h
  split at h
  · exact absurd h (by simp)
  · rename_i hn; simpa [and_comm, and_assoc] using hn

/-- `liftCase` rewrites exactly the shapes these lemmas speak about (over the regenerated
    `liftOps` table). -/
theorem liftCase_filter_shape (pools : Pools) (ps : Seqs) (e : Expr) :
    (liftCase pools (.fork ps) ps Option.none (.filter e)).map (fun l => (l.par, l.op)) =
      some (.fork (ps.appendEach (.filter e)), .pass) := by
  simp only [liftCase, Op.kind, liftTag_filter, withPaths, Option.map_some]

theorem liftCase_head_shape (pools : Pools) (ps : Seqs) (n : Nat) (f : Option Op) :
    (liftCase pools (.fork ps) ps f (.head n)).map (fun l => (l.par, l.op)) =
      some (.fork (ps.appendEach (.head n)), .head n) := by
  simp only [liftCase, Op.kind, liftTag_head, withPaths, Option.map_some]

theorem liftCase_sort_shape (pools : Pools) (ps : Seqs) (a : SortArg) (hd : a.desc = false) :
    (liftCase pools (.fork ps) ps Option.none (.sort [a] false false)).map (fun l => (l.par, l.op)) =
      some (.fork (ps.appendEach (.sort [a] false false)), .merge a.key a.desc) := by
  simp only [liftCase, Op.kind, liftTag_sort, withPaths, Option.map_some, hd, Bool.or_self,
    Bool.false_eq_true, if_false]

/-- why: for `-r`, legs [3,1] and [2] are sorted descending; merged ascending they give 2,3,1. -/
theorem lift_sort_reverse_would_be_unsound :
    let a : SortArg := ⟨.this ["k"], false⟩
    ¬ SortedBy (sortCmp witI [a] false true)
      (mergeLegs (leOf (mergeCmp witI a.key a.desc)) [[3, 1], [2]]) := by
  have : mergeLegs (leOf (mergeCmp witI (.this ["k"]) false)) [[3, 1], [2]] = [2, 3, 1] := by
    simp [mergeLegs, leOf, mergeCmp, witI, Nat.compare_eq_gt]
  intro a
  rw [this]
  unfold SortedBy; decide

/-- the order a source declared sorted by `k` delivers, and the order `Merge{k}` produces. -/
def keyCmp (I : Interp V) (k : SortKey) : V → V → Ordering := mergeCmp I (.this k.key) k.desc

/-- What the optimizer assumes of the operators it does not look into. -/
structure FrameLaws (I : Interp V) : Prop where
  /-- `uniq` and `fuse` emit their input order (a sub-sequence resp. a reshaping that does not
      change how keys compare). -/
  keep : ∀ (op : Op), (op.kind = "Uniq" ∨ op.kind = "Fuse") → ∀ (c : V → V → Ordering) (xs : List V),
    SortedBy c xs → SortedBy c (I.opq op xs)
  /-- a per-value operator the analysis maps key `k` to key `k'` for compares outputs by `k'`
      as it compared inputs by `k`. -/
  frame : ∀ (pools : Pools) (op : Op) (k k' : SortKey) (r r' : SortKeys),
    (op.kind = "Cut" ∨ op.kind = "Drop" ∨ op.kind = "Put" ∨ op.kind = "Rename") →
    analyzeSortKeys pools op (k :: r) = .ok (k' :: r') →
    ∀ v w v' w', v' ∈ I.perValue op v → w' ∈ I.perValue op w → keyCmp I k' v' w' = keyCmp I k v w
  /-- a per-value operator emits at most one value per input. -/
  single : ∀ (op : Op) (v : V), (I.perValue op v).length ≤ 1

/-- cut / drop / put / rename: when the analysis maps key `k` to `k'`, an input sorted by `k`
    gives an output sorted by `k'` — under the frame assumption on the per-value operators
    (`FrameLaws.frame`), which is what the analysis presumes of them. -/
theorem sortkey_frame_sound (I : Interp V) (hL : FrameLaws I) (pools : Pools) (op : Op)
    (hop : op.kind = "Cut" ∨ op.kind = "Drop" ∨ op.kind = "Put" ∨ op.kind = "Rename")
    (k k' : SortKey) (r r' : SortKeys) (ha : analyzeSortKeys pools op (k :: r) = .ok (k' :: r'))
    (xs : List V) (hs : SortedBy (keyCmp I k) xs) :
    SortedBy (keyCmp I k') (xs.flatMap (I.perValue op)) := by
  apply pairwise_flatMap_frame (I.perValue op) xs hs (hL.single op)
  intro v w v' w' hv hw hR
  rw [hL.frame pools op k k' r r' hop ha v w v' w' hv hw]; exact hR

/-- the direction and null placement under which the output of `sort` is in the order the
    analysis reports for it (the order a `Merge` on that key produces). -/
def sortFlagsOK (a : SortArg) (nf rev : Bool) : Bool :=
  let d := if rev then !a.desc else a.desc
  (!d && !nf) || (d && nf)

theorem sortFlagsOK_iff (a : SortArg) (nf rev : Bool) :
    sortFlagsOK a nf rev = true ↔ (if rev then !a.desc else a.desc) = nf := by
  unfold sortFlagsOK
  cases (if rev then !a.desc else a.desc) <;> cases nf <;> decide

/-- Full statement: the output of a single-key `sort` is in the order `sortKeysOfSort` reports
    (`analyzeSortKeys` for a Sort), i.e. the order of `Merge{key, order}` and of a source declared
    with that key.  False for a descending effective order without `-nulls first` and for an
    ascending one with it (`not_sortkey_sort_sound`): the sort operator places nulls last in both
    directions, the scan/merge order places them first when descending.  This was the root of the
    lift:sort-* defects (fixed by 8f641a47c: such a sort is no longer lifted into legs that a merge
    on the reported order joins); the analysis itself still reports that order.  Proved under
    `sortFlagsOK`. -/
theorem sortkey_sort_sound_partial (I : Interp V) (p : Path) (dsc nf rev : Bool)
    (hflags : sortFlagsOK ⟨.this p, dsc⟩ nf rev = true)
    (k : SortKey) (hk : sortKeysOfSort [⟨.this p, dsc⟩] rev = [k])
    (hc : LawfulCmp (keyCmp I k)) (xs : List V) :
    SortedBy (keyCmp I k) (sortSem I [⟨.this p, dsc⟩] nf rev xs) := by
  have hk' : k = ⟨if rev then !dsc else dsc, p⟩ := by
    cases hp : p.isEmpty <;> simp [sortKeysOfSort, sortKeyOfExpr, fieldOf, hp] at hk
    exact hk.symm
  -- under `sortFlagsOK` the sort places nulls where a merge on that key does
  have hcmp : sortCmp I [⟨.this p, dsc⟩] nf rev = keyCmp I k := by
    rw [hk']
    exact sortCmp_eq_mergeCmp I ⟨.this p, dsc⟩ nf rev ((sortFlagsOK_iff _ nf rev).1 hflags)
  unfold sortSem
  rw [hcmp]
  exact mergeSort_sorted hc xs

example : sortFlagsOK ⟨.this ["k"], false⟩ false false = true := by decide

/-- values are optional numbers; null is the greatest or the least value as `nullsMax` says. -/
def nullI : Interp (Option Nat) where
  atom _ _ := .tt
  quiet _ := false
  perValue _ v := [v]
  cmp nullsMax _ a b := match a, b with
    | none, none => .eq
    | none, some _ => if nullsMax then .gt else .lt
    | some _, none => if nullsMax then .lt else .gt
    | some x, some y => compare x y
  opq _ xs := xs
  source _ := []
  multi _ ls := ls.flatten
  over _ _ xs := xs

/-- witness: `sort k desc` over [1, null] emits 1, null; the order the analysis reports
    (`k desc` as a merge/scan order) wants null first. -/
theorem not_sortkey_sort_sound :
    sortKeysOfSort [⟨.this ["k"], true⟩] false = [⟨true, ["k"]⟩] ∧
    ¬ SortedBy (keyCmp nullI ⟨true, ["k"]⟩) (sortSem nullI [⟨.this ["k"], true⟩] false false [some 1, none]) := by
  refine ⟨by decide, ?_⟩
  have : sortSem nullI [⟨.this ["k"], true⟩] false false [some 1, none] = [some 1, none] :=
    List.mergeSort_of_pairwise (by decide)
  rw [this]
  unfold SortedBy; decide

/-- The sort-key analysis over the operator kinds the regenerated table tags "keep" and over
    cut / drop / put / rename: if `analyzeSortKeys op in = out` with known `in`/`out`, an input in
    the order `in` gives an output in the order `out`. -/
theorem sortkey_analysis_sound_partial (I : Interp V) (hT : Total I) (hL : FrameLaws I) (pools : Pools)
    (op : Op) (hX : ∀ k j, op ≠ .X k j)
    (hkind : (op.kind, "keep") ∈ analyzeOps ∨ op.kind = "Cut" ∨ op.kind = "Drop" ∨ op.kind = "Put" ∨ op.kind = "Rename")
    (k k' : SortKey) (r r' : SortKeys) (ha : analyzeSortKeys pools op (k :: r) = .ok (k' :: r'))
    (xs : List V) (hs : SortedBy (keyCmp I k) xs) : SortedBy (keyCmp I k') (leafSem I op xs) := by
  rcases hkind with hkeep | hframe
  · rw [analyzeSortKeys_keep pools op hkeep] at ha
    obtain rfl : k = k' := (List.cons.inj (Except.ok.inj ha)).1
    exact sortkey_keep_sound I hT hL.keep op hX hkeep _ xs hs
  · rw [leafSem_perValue I op hX hframe]
    exact sortkey_frame_sound I hL pools op hframe k k' r r' ha xs hs

/-- a side the optimizer declares sorted (direction `d ≠ 0`) is sorted the way the join's own sort
    of that side would leave it. -/
def DeclaredSorted (I : Interp V) (key : Expr) (d : Int) (xs : List V) : Prop :=
  d ≠ 0 → SortedBy (joinSortCmp I key (decide (d < 0))) xs

/-- Skipping the join's sort of a side that is declared sorted does not change what the merge
    join reads: for every style — including `right`, where the kernel swaps parents, keys *and*
    directions (each swap is read from the regenerated `case "right":` clause, so a missing swap
    makes this proof fail) — the join computes what it computes when it sorts both sides itself in
    the common order.  The hypotheses speak about the *DAG's* left and right inputs, which is what
    `propagateSortKeyOp` establishes (`LeftDir` from the left parent's order, `RightDir` from the
    right parent's).  For a descending declared *source* order with null keys the hypothesis is
    not what the source delivers (`not_sortkey_sort_sound`): recorded finding
    C07:join:declared-desc-nulls. -/
theorem join_skipped_sort_sound (I : Interp V) (J : Desc → List V → List V → List V) (style : String)
    (L R : List V) (lk rk : Expr) (ld rd : Int)
    (hL : DeclaredSorted I lk ld L) (hR : DeclaredSorted I rk rd R) :
    kernelJoin I J style L R lk rk ld rd =
      (let a := kernelJoinArgs style L R lk rk ld rd
       let o := joinOrder a.ldir a.rdir
       J o (a.left.mergeSort (leOf (joinSortCmp I a.lkey o))) (a.right.mergeSort (leOf (joinSortCmp I a.rkey o)))) := by
  unfold kernelJoin
  rw [kernelJoinArgs_eq]
  split
  · exact joinNew_declared I J _ hR hL
  · exact joinNew_declared I J _ hL hR

/-- non-vacuity: a sorted left side declared ascending, an undeclared right side. -/
example : DeclaredSorted witI (.this ["a"]) 1 [1, 2, 3] ∧ DeclaredSorted witI (.this ["b"]) 0 [3, 1] := by
  refine ⟨fun _ => ?_, fun h => absurd rfl h⟩
  unfold SortedBy; decide

/-- an interpretation in which all keys compare equal satisfies the frame laws. -/
def eqI : Interp Nat := { witI with cmp := fun _ _ _ _ => .eq, atom := fun _ _ => .tt }

example : FrameLaws eqI :=
  ⟨fun _ _ _ _ h => h, fun _ _ _ _ _ _ _ _ _ _ _ _ _ => by simp [keyCmp, mergeCmp, eqI],
   fun _ _ => by simp [eqI, witI]⟩

example : Total eqI := total_of_atom eqI (by intro e v w; simp [eqI])

theorem natCmp_lawful (d : Bool) : LawfulCmp (fun a b : Nat => if d then compare b a else compare a b) := by
  constructor
  · intro a b; cases d <;> simp [Nat.compare_swap]
  · intro a b c; cases d <;> simp [Nat.compare_eq_gt] <;> omega

example (k : SortKey) : LawfulCmp (keyCmp witI k) := by
  have h : keyCmp witI k = fun a b : Nat => if k.desc then compare b a else compare a b := by
    funext a b; simp [keyCmp, mergeCmp, witI]
  rw [h]; exact natCmp_lawful k.desc

end Zed.Props.C07

/-
  C10 — aggregation and join agree with naive evaluation at any memory limit, input order,
  declared sortedness and partial decomposition.

  Property theorems only; the proofs' helper lemmas are in Zed/Proofs/Agg*.lean, the models in
  Zed/Model/Agg*.lean, the aggregate table in Zed.Generated.C10 (regenerated from
  runtime/sam/expr/agg/*.go and runtime/sam/expr/agg.go on every check).

  What is full, what is partial, what is negated
  * `agg_partial_hom*`, `agg_perm_*`: every aggregate of the regenerated table that the property
    names, over its model monoid — full for count, sum/min/max (exact integers: the
    accumulator classes uint < int < float with promotion, typed nulls, skipped values), avg
    (exact), and, or, union, dcount, fuse (set states), collect (ordered, chunk order).
  * IEEE addition (sum and avg over floats) is NOT a monoid: `…_fsum_partial`,
    `…_favg_partial` under the guard `ExactlySummable`, for every rounding function; the
    unguarded statement is refuted (`not_agg_partial_hom_fsum`).
  * collect under a permutation of the input: only the multiset is fixed
    (`agg_perm_collect_partial`; `not_agg_perm_collect` refutes equality).
  * `groupby_naive` is FALSE of the current code (and of the model, which keeps the defect):
    the in-memory table separates keys by type and bytes, the spill merge joins rows whose
    keys compare equal.  `not_groupby_naive` proves the negation on the confirmed witness
    (keys 1, 1(uint64), 1. with limit 2); `groupby_naive_partial` holds under the guard
    `KeysTypeHomogeneousOrNoSpill`.
  * `sorted_release_safe_partial`: the early release of the sorted-input mode WITH spills
    (maxTableKey / maxSpillKey gating, release from the merged spill files), for every batching,
    every limit and every row maxSpillKey may be taken from; guard: comparator faithful on the
    keys present (the spill-merge defect again); `sorted_release_safe_nospill` is the unguarded
    statement for the in-memory path.  The hypothesis — sorted on the FIRST key — is needed
    (`not_sorted_release_safe_unsorted`), and the code establishes it: since fix 32e95e058 the
    optimizer declares a summarize's input sorted only when the sort key is its first key;
    `sorted_declared_on_first_key_only` re-checks that on the regenerated facts.
  * `join_naive`: full for keys present, both inputs sorted under the join's comparator;
    `not_join_naive_unsorted`: false otherwise.  At plan level (`right_style_swaps`,
    `join_right_left_symmetry`): `join_plan_naive_partial` for ascending plans;
    `not_join_plan_naive_desc_nulls` is the model-level witness of the confirmed defect with null
    keys under a descending order (the sort operator puts nulls last, the join's comparator
    expects them first).
-/
import Zed.Model.AggMonoid
import Zed.Model.AggGroupby
import Zed.Model.AggJoin
import Zed.Generated.C10
import Zed.Proofs.AggMonoid
import Zed.Proofs.AggGroupby
import Zed.Proofs.AggSorted
import Zed.Proofs.AggSortedSpill
import Zed.Model.AggSortedSpill
import Zed.Proofs.AggJoin
import Zed.Proofs.AggJoinPlan
import Zed.Model.AggJoinPlan
namespace Zed.Props.C10
open Zed.Agg
open Zed.Proofs

/-- The regenerated aggregate table (name, needs-argument, implementing type, constructor
    argument, shape of ResultAsPartial, shape of ConsumeAsPartial) is exactly the table the
    model was written against. -/
theorem agg_table_matches_model : Zed.Generated.C10.aggs = modelTable := rfl

/-- The names the code offers are, each once, the modelled and the excluded ones. -/
theorem agg_names_perm : (Zed.Generated.C10.aggs.map (·.1)).Perm (modelled ++ excluded) := by
  decide +kernel

/-- Every aggregate the code offers is either modelled here or deliberately excluded. -/
theorem agg_table_covered :
    ∀ a ∈ Zed.Generated.C10.aggs, a.1 ∈ modelled ∨ a.1 ∈ excluded := fun _ ha =>
  List.mem_append.1 (agg_names_perm.mem_iff.1 (List.mem_map_of_mem ha))

/-- Every aggregate the property names exists in the code. -/
theorem modelled_exist : ∀ n ∈ modelled, n ∈ Zed.Generated.C10.aggs.map (·.1) := fun _ hn =>
  agg_names_perm.mem_iff.2 (List.mem_append_left _ hn)

/-- Aggregator.Apply feeds every non-missing argument value to Consume (and only those). -/
theorem apply_skips_missing : Zed.Generated.C10.applySkipsMissing = true := by decide

/-- The optimizer tells a summarize that its input is sorted only by looking at the FIRST
    group-by key (both places that decide it) — the hypothesis of `sorted_release_safe_partial`
    is about the first key (`prim`).  Before fix 32e95e058 both loops ranged over all keys. -/
theorem sorted_declared_on_first_key_only :
    Zed.Generated.C10.sortedInputKeyRanges =
      ["op.Keys[:min(1, len(op.Keys))]", "summarize.Keys[:min(1, len(summarize.Keys))]"] := rfl

variable {M α : Type}

/-- **agg_partial_hom** (generic).  For a monoid: combining the partials of the chunks, in
    chunk order, equals aggregating the concatenation — for every chunking. -/
theorem agg_partial_hom (m : Mon M) (hm : m.Laws) (f : α → M) (chunks : List (List α)) :
    m.combineAll (chunks.map (m.fold f)) = m.fold f chunks.flatten :=
  AggMonoid.partial_hom m hm f chunks

/-- For a commutative monoid the input order is irrelevant. -/
theorem agg_perm (m : Mon M) (hm : m.CommLaws) (f : α → M) {xs ys : List α} (h : xs.Perm ys) :
    m.fold f xs = m.fold f ys :=
  AggMonoid.fold_perm m hm f h

/-- … and the partials may be produced from any permutation of the input cut into any chunks
    and combined in any order (scatter legs finish in any order). -/
theorem agg_partial_hom_any_order (m : Mon M) (hm : m.CommLaws) (f : α → M)
    (chunks : List (List α)) (ps : List M) (xs : List α)
    (hps : ps.Perm (chunks.map (m.fold f))) (hxs : xs.Perm chunks.flatten) :
    m.combineAll ps = m.fold f xs :=
  AggMonoid.partial_hom_perm m hm f chunks ps xs hps hxs

/-- A row of aggregates (valRow) is the product of its aggregates' monoids. -/
theorem agg_row_laws {N : Type} (m : Mon M) (n : Mon N) (hm : m.CommLaws) (hn : n.CommLaws) :
    (m.prod n).CommLaws :=
  AggMonoid.prod_commLaws m n hm hn

theorem agg_partial_hom_count (chunks : List (List AVal)) :
    countMon.combineAll (chunks.map (countMon.fold countF)) = countMon.fold countF chunks.flatten :=
  agg_partial_hom _ AggMonoid.countMon_laws.toLaws _ _
theorem agg_partial_hom_sum (chunks : List (List AVal)) :
    sumMon.combineAll (chunks.map (sumMon.fold mathF)) = sumMon.fold mathF chunks.flatten :=
  agg_partial_hom _ AggMonoid.sumMon_laws.toLaws _ _
theorem agg_partial_hom_min (chunks : List (List AVal)) :
    minMon.combineAll (chunks.map (minMon.fold mathF)) = minMon.fold mathF chunks.flatten :=
  agg_partial_hom _ AggMonoid.minMon_laws.toLaws _ _
theorem agg_partial_hom_max (chunks : List (List AVal)) :
    maxMon.combineAll (chunks.map (maxMon.fold mathF)) = maxMon.fold mathF chunks.flatten :=
  agg_partial_hom _ AggMonoid.maxMon_laws.toLaws _ _
theorem agg_partial_hom_avg (chunks : List (List AVal)) :
    avgMon.combineAll (chunks.map (avgMon.fold avgF)) = avgMon.fold avgF chunks.flatten :=
  agg_partial_hom _ AggMonoid.avgMon_laws.toLaws _ _
theorem agg_partial_hom_and (chunks : List (List AVal)) :
    andMon.combineAll (chunks.map (andMon.fold boolF)) = andMon.fold boolF chunks.flatten :=
  agg_partial_hom _ AggMonoid.andMon_laws.toLaws _ _
theorem agg_partial_hom_or (chunks : List (List AVal)) :
    orMon.combineAll (chunks.map (orMon.fold boolF)) = orMon.fold boolF chunks.flatten :=
  agg_partial_hom _ AggMonoid.orMon_laws.toLaws _ _
theorem agg_partial_hom_union (chunks : List (List AVal)) :
    setMon.combineAll (chunks.map (setMon.fold unionF)) = setMon.fold unionF chunks.flatten :=
  agg_partial_hom _ AggMonoid.setMon_laws.toLaws _ _
theorem agg_partial_hom_dcount (chunks : List (List AVal)) :
    setMon.combineAll (chunks.map (setMon.fold dcountF)) = setMon.fold dcountF chunks.flatten :=
  agg_partial_hom _ AggMonoid.setMon_laws.toLaws _ _
theorem agg_partial_hom_fuse (chunks : List (List AVal)) :
    setMon.combineAll (chunks.map (setMon.fold fuseF)) = setMon.fold fuseF chunks.flatten :=
  agg_partial_hom _ AggMonoid.setMon_laws.toLaws _ _
/-- collect: exact and ordered when partials are combined in chunk order (append is a monoid). -/
theorem agg_partial_hom_collect (chunks : List (List AVal)) :
    collectMon.combineAll (chunks.map (collectMon.fold collectF)) = collectMon.fold collectF chunks.flatten :=
  agg_partial_hom _ AggMonoid.collectMon_laws _ _

/-- Input-order independence of every commutative aggregate. -/
theorem agg_perm_all {xs ys : List AVal} (h : xs.Perm ys) :
    countMon.fold countF xs = countMon.fold countF ys ∧
    sumMon.fold mathF xs = sumMon.fold mathF ys ∧
    minMon.fold mathF xs = minMon.fold mathF ys ∧
    maxMon.fold mathF xs = maxMon.fold mathF ys ∧
    avgMon.fold avgF xs = avgMon.fold avgF ys ∧
    andMon.fold boolF xs = andMon.fold boolF ys ∧
    orMon.fold boolF xs = orMon.fold boolF ys ∧
    setMon.fold unionF xs = setMon.fold unionF ys ∧
    setMon.fold dcountF xs = setMon.fold dcountF ys ∧
    setMon.fold fuseF xs = setMon.fold fuseF ys :=
  ⟨agg_perm _ AggMonoid.countMon_laws _ h, agg_perm _ AggMonoid.sumMon_laws _ h,
   agg_perm _ AggMonoid.minMon_laws _ h, agg_perm _ AggMonoid.maxMon_laws _ h,
   agg_perm _ AggMonoid.avgMon_laws _ h, agg_perm _ AggMonoid.andMon_laws _ h,
   agg_perm _ AggMonoid.orMon_laws _ h, agg_perm _ AggMonoid.setMon_laws _ h,
   agg_perm _ AggMonoid.setMon_laws _ h, agg_perm _ AggMonoid.setMon_laws _ h⟩

/-- FULL statement (false): collect xs = collect ys for permuted inputs.
    Proved: the same multiset.  Guard: compared as a multiset. -/
theorem agg_perm_collect_partial {xs ys : List AVal} (h : xs.Perm ys) :
    (collectMon.fold collectF xs).Perm (collectMon.fold collectF ys) := by
  rw [AggMonoid.collect_fold, AggMonoid.collect_fold]
  exact h.flatMap_right collectF

theorem not_agg_perm_collect :
    ∃ xs ys : List AVal, xs.Perm ys ∧ collectMon.fold collectF xs ≠ collectMon.fold collectF ys := by
  let a : AVal := { tok := "a", typ := "t", isNull := false, kind := .none, num := 0, bool := none, avg := none }
  let b : AVal := { tok := "b", typ := "t", isNull := false, kind := .none, num := 0, bool := none, avg := none }
  exact ⟨[a, b], [b, a], List.Perm.swap _ _ _, by decide⟩

/-- union/dcount/fuse states are idempotent: duplicates in the input (or the same value
    reaching two partials) change nothing. -/
theorem agg_set_idempotent (a : TokSet) : setMon.op a a = a :=
  funext fun x => Bool.or_self (a x)

/-- FULL statement (false): float sums compose for every chunking.  Proved under
    `ExactlySummable` (every partial sum representable), for EVERY rounding function. -/
theorem agg_partial_hom_fsum_partial (rnd : Int → Int) (chunks : List (List Int))
    (h : ExactlySummable chunks.flatten) :
    (chunks.map (fsum rnd)).foldl (fadd rnd) 0 = fsum rnd chunks.flatten :=
  AggMonoid.fsum_partial_hom rnd chunks h

theorem agg_perm_fsum_partial (rnd : Int → Int) {xs ys : List Int} (hp : xs.Perm ys)
    (h : ExactlySummable xs) : fsum rnd xs = fsum rnd ys := by
  have h' : ExactlySummable ys :=
    Nat.lt_of_le_of_lt (Nat.le_of_eq (AggMonoid.absSum_perm hp).symm) h
  rw [AggMonoid.fsum_exact rnd xs h, AggMonoid.fsum_exact rnd ys h', AggMonoid.sum_perm_int hp]

theorem agg_partial_hom_favg_partial (rnd : Int → Int) (chunks : List (List Int))
    (h : ExactlySummable chunks.flatten) :
    (chunks.map (favg rnd)).foldl (favgCombine rnd) (0, 0) = favg rnd chunks.flatten :=
  AggMonoid.favg_partial_hom rnd chunks h

theorem not_agg_partial_hom_fsum : ∃ (rnd : Int → Int) (chunks : List (List Int)),
    (chunks.map (fsum rnd)).foldl (fadd rnd) 0 ≠ fsum rnd chunks.flatten :=
  AggMonoid.not_fsum_partial_hom

example : ExactlySummable [1, -2, 3] := by decide

section groupby
variable {K S T : Type} [DecidableEq K]

/-- Guard of `groupby_naive_partial`: no spill happens, or all keys present have one type
    vector (`ty`); the comparator is assumed to identify only identical keys within one type
    vector (`CompareFaithfulWithinType`, C06's subject; false for −0./+0. and NaN payloads). -/
def KeysTypeHomogeneousOrNoSpill (m : Mon S) (le : K → K → Bool) (limit : Nat) (ty : K → T)
    (rows : List (K × S)) : Prop :=
  spillCount m le limit rows = 0 ∨
    ∀ a ∈ rows.map (·.1), ∀ b ∈ rows.map (·.1), ty a = ty b

def CompareFaithfulWithinType (le : K → K → Bool) (ty : K → T) : Prop :=
  ∀ a b, ty a = ty b → eqv le a b = true → a = b

/-- FULL statement `groupby_naive` (false, see `not_groupby_naive`): for every limit and every
    input order the output is the naive grouping.
    **groupby_naive_partial**: under the guard, exactly one output row per distinct key, holding
    the aggregate of exactly the rows with that key; i.e. a permutation of `naiveGroup`. -/
theorem groupby_naive_partial (m : Mon S) (hm : m.CommLaws) (le : K → K → Bool)
    (hle : TotalPreorder le) (ty : K → T) (hty : CompareFaithfulWithinType le ty)
    (limit : Nat) (rows : List (K × S))
    (guard : KeysTypeHomogeneousOrNoSpill m le limit ty rows) :
    GroupsAgree m (groupby m le limit rows) rows ∧
    (groupby m le limit rows).Perm (naiveGroup m rows) := by
  have h : GroupsAgree m (groupby m le limit rows) rows := by
    apply AggGroupby.groupby_agrees m hm le hle
    rcases guard with g | g
    · exact Or.inl g
    · exact Or.inr fun a ha b hb hab => hty a b (g a ha b hb) hab
  exact ⟨h, AggGroupby.agree_perm m _ _ rows h (AggGroupby.naive_agrees m rows)⟩

/-- the naive evaluator meets the specification, so `GroupsAgree out rows` pins `out` down
    (`hm`: the property speaks of monoids; any carrier will do) -/
theorem naive_is_spec (m : Mon S) (hm : m.CommLaws) (rows : List (K × S)) :
    GroupsAgree m (naiveGroup m rows) rows :=
  have _ := hm
  AggGroupby.naive_agrees m rows

/-- Partial decomposition at the group-by level: partials-out per chunk (scatter leg), then
    partials-in over the concatenated partial rows.  Guard: as above on every stage (stated
    with the semantic form of the guard, comparator faithful on the keys present). -/
theorem groupby_partials_compose_partial (m : Mon S) (hm : m.CommLaws) (le : K → K → Bool)
    (hle : TotalPreorder le) (limit₁ limit₂ : Nat) (chunks : List (List (K × S)))
    (guard : AggGroupby.CompareFaithful le chunks.flatten ∨
      ((∀ c ∈ chunks, spillCount m le limit₁ c = 0) ∧
        spillCount m le limit₂ (chunks.map (groupby m le limit₁)).flatten = 0)) :
    GroupsAgree m (groupby m le limit₂ (chunks.map (groupby m le limit₁)).flatten) chunks.flatten :=
  AggGroupby.groupby_partials_compose m hm le hle limit₁ limit₂ chunks guard

end groupby

/-- keys: (type id, value); the comparator looks at the value only — numeric comparison
    across types, as `compareValues` does. -/
def witnessLe (a b : Nat × Int) : Bool := decide (a.2 ≤ b.2)
def witnessRows : List ((Nat × Int) × Nat) := [((0, 1), 10), ((1, 1), 12), ((2, 1), 1000)]
def natAdd : Mon Nat := ⟨(· + ·), 0⟩

theorem witnessLe_totalPreorder : TotalPreorder witnessLe :=
  intLe_totalPreorder.comap Prod.snd

/-- **not_groupby_naive** — DESIGN §11 item 8, reproduced on the real code by the harness:
    `sum(v) by k` over k = 1, 1(uint64), 1. gives three groups when the table fits and ONE
    merged group (sum 1022) with limit 2. -/
theorem not_groupby_naive :
    TotalPreorder witnessLe ∧
    groupby natAdd witnessLe 2 witnessRows = [((0, 1), 1022)] ∧
    ¬ GroupsAgree natAdd (groupby natAdd witnessLe 2 witnessRows) witnessRows ∧
    GroupsAgree natAdd (groupby natAdd witnessLe 3 witnessRows) witnessRows := by
  refine ⟨witnessLe_totalPreorder, by decide, ?_, ?_⟩
  · intro h
    have := (h.keys (1, 1)).2 (by decide)
    revert this
    decide
  · exact AggGroupby.groupby_agrees natAdd AggGroupby.addMon_commLaws witnessLe
      witnessLe_totalPreorder 3 witnessRows (Or.inl (by decide))

/-- non-vacuity of the guard with spills: homogeneous keys, limit 1, three keys -/
example : KeysTypeHomogeneousOrNoSpill natAdd witnessLe 1 (fun k : Nat × Int => k.1)
    [((0, 1), 1), ((0, 2), 1), ((0, 3), 1), ((0, 1), 5)] :=
  Or.inr (by decide)
example : spillCount natAdd witnessLe 1 [((0, 1), 1), ((0, 2), 1), ((0, 3), 1), ((0, 1), 5)] = 3 := by
  decide

section sorted
variable {K S P : Type} [DecidableEq K]

/-- **sorted_release_safe_partial** — sorted-input mode WITH spills: for every batching, every
    table limit (every spill pattern) and every choice of the row maxSpillKey is taken from
    (`pick`: the real code takes the last row of the spilled table in Go map order): if the input
    is sorted on the primary key, early release — from the table before the first spill, from
    the front of the merged spill files afterwards, gated by maxSpillKey — never loses or
    duplicates a group: exactly one output row per distinct key, holding the aggregate of exactly
    its rows.
    FULL statement: the same without `hfaith`.  It is false for the same reason as
    `groupby_naive` (the spill merge re-combines rows whose keys merely compare equal: known
    finding); the guard is the semantic form of KeysTypeHomogeneous: the comparator identifies
    only identical keys among the keys present.
    (`hprim` says what `prim` is in the Go code; the proof does not need it.) -/
theorem sorted_release_safe_partial (m : Mon S) (hm : m.CommLaws)
    (le : K → K → Bool) (hle : TotalPreorder le)
    (prim : K → P) (vle : P → P → Bool) (hv : TotalPreorder vle)
    (hprim : ∀ a b, le a b = true → vle (prim a) (prim b) = true)
    (pick : List (K × S) → Option (K × S)) (hpick : ∀ l x, pick l = some x → x ∈ l)
    (limit : Nat) (batches : List (List (K × S)))
    (hsorted : batches.flatten.Pairwise (fun a b => vle (prim a.1) (prim b.1) = true))
    (hfaith : AggGroupby.CompareFaithful le batches.flatten) :
    GroupsAgree m (groupbySortedSpill m le prim vle pick limit batches) batches.flatten :=
  have _ := hprim
  AggSortedSpill.sorted_spill_release_safe m hm le hle prim vle hv pick hpick limit batches hsorted hfaith

/-- **sorted_release_safe_nospill** — full strength (no guard on the comparator) on the in-memory
    path: when no spill happens the release from the table is safe for every batching. -/
theorem sorted_release_safe_nospill (m : Mon S) (hm : m.CommLaws) (prim : K → P) (vle : P → P → Bool)
    (hv : TotalPreorder vle) (batches : List (List (K × S)))
    (hsorted : batches.flatten.Pairwise (fun a b => vle (prim a.1) (prim b.1) = true)) :
    GroupsAgree m (groupbySorted m prim vle batches) batches.flatten :=
  AggSorted.sorted_release_safe m hm prim vle hv batches hsorted

/-- the reason: a released key is strictly in the past of everything still to come -/
theorem released_key_is_past (m : Mon S) (prim : K → P) (vle : P → P → Bool)
    (hv : TotalPreorder vle) (pre post : List (List (K × S)))
    (hsorted : (pre ++ post).flatten.Pairwise (fun a b => vle (prim a.1) (prim b.1) = true)) :
    ∀ k ∈ (pre.foldl (sBatch m prim vle) {}).out.map (·.1), ∀ y ∈ post.flatten, y.1 ≠ k :=
  AggSorted.released_key_is_past m prim vle hv pre post hsorted

end sorted

/-- Sortedness on the FIRST key is needed: keys (a, k), data sorted on k, the operator
    watching a — the group (1,1) is released after the first batch and emitted again.
    (A statement about the model on input that violates the hypothesis; the optimizer used to
    produce exactly this situation, see `sorted_declared_on_first_key_only`.) -/
theorem not_sorted_release_safe_unsorted :
    ∃ (batches : List (List ((Nat × Nat) × Nat))),
      ¬ GroupsAgree (⟨(· + ·), 0⟩ : Mon Nat)
        (groupbySorted ⟨(· + ·), 0⟩ (fun k => k.1) (fun a b => decide (a ≤ b)) batches) batches.flatten :=
  AggSorted.not_sorted_release_safe_unsorted

section join
open Zed.Join
variable {K A B : Type}

/-- **join_naive**: the merge join over inputs sorted under the join's comparator emits
    exactly the pairs (and bare left rows) of the nested-loop join with the same match
    relation, in the same order — inner, left, anti (right = left with the sides swapped). -/
theorem join_naive (le : K → K → Bool) (hle : TotalPreorder le) (kind : Zed.Join.Kind)
    (l : List (K × A)) (r : List (K × B))
    (hl : l.Pairwise (fun a b => le a.1 b.1 = true))
    (hr : r.Pairwise (fun a b => le a.1 b.1 = true)) :
    mergeJoin le kind l r = nestedLoop le kind l r :=
  AggJoin.join_naive le hle kind l r hl hr

end join

/-- Without sortedness under the join's own comparator the merge join loses pairs: left keys
    2, 1 (descending) against right keys 1, 2. -/
theorem not_join_naive_unsorted :
    ∃ (l r : List (Int × Unit)),
      r.Pairwise (fun a b => decide (a.1 ≤ b.1) = true) ∧
      Zed.Join.mergeJoin (fun a b : Int => decide (a ≤ b)) .inner l r ≠
        Zed.Join.nestedLoop (fun a b : Int => decide (a ≤ b)) .inner l r :=
  ⟨[(2, ()), (1, ())], [(1, ()), (2, ())], by decide, by decide⟩

section joinplan
open Zed.Join

/-- T1: for a right join the kernel swaps keys, parents AND declared directions before join.New
    (the model's `joinFull .right` does exactly that). -/
theorem right_style_swaps : Zed.Generated.C10.rightStyleSwaps = Zed.Join.rightStyleSwaps := rfl

/-- **join_right_left_symmetry**: a right join is the left join of the swapped inputs with the
    swapped legs (declared directions included), row by row. -/
theorem join_right_left_symmetry {A B : Type} (lleg rleg : Leg) (l : List (JKey × A)) (r : List (JKey × B)) :
    joinFull .right lleg rleg l r = (joinFull .left rleg lleg r l).map AggJoinPlan.flipRow :=
  AggJoinPlan.join_right_left_symmetry lleg rleg l r

/-- FULL statement (not proved for descending plans, see `not_join_plan_naive_desc_nulls`): for every
    combination of declared directions and inserted sorts the planned join equals the nested loop.
    **join_plan_naive_partial**: proved for ascending plans (no side declared descending): whatever
    is declared ascending really is, the other sides get the inserted ascending sort. -/
theorem join_plan_naive_partial {A B : Type} (kind : Zed.Join.Kind) (ld rd : Int)
    (l : List (JKey × A)) (r : List (JKey × B))
    (hld : ld = 0 ∨ ld = 1) (hrd : rd = 0 ∨ rd = 1)
    (hl : ld = 1 → l.Pairwise (fun a b => jle false a.1 b.1 = true))
    (hr : rd = 1 → r.Pairwise (fun a b => jle false a.1 b.1 = true)) :
    joinRun kind ld rd l r =
      nestedLoop (jle false) kind (if ld = 1 then l else sortOp false l) (if rd = 1 then r else sortOp false r) := by
  rw [AggJoinPlan.joinRun_asc kind hld hrd]
  exact AggJoin.join_naive _ AggJoinPlan.jle_asc_totalPreorder kind _ _
    (AggJoinPlan.asc_input_sorted ld l hl) (AggJoinPlan.asc_input_sorted rd r hr)

/-- The confirmed defect at plan level (known finding C10:join:null-keys-declared-desc): with both
    legs sorted by a descending sort operator (nulls last) the join, whose comparator expects nulls
    first, loses the pair of null keys that the ascending plan finds. -/
theorem not_join_plan_naive_desc_nulls :
    joinFull .inner .sortDesc .sortDesc [(some 2, 0), (some 1, 1), (none, 2)] [(some 2, 10), (none, 11)]
      = [.both (some 2, 0) (some 2, 10)] ∧
    joinFull .inner .sortAsc .sortAsc [(some 2, 0), (some 1, 1), (none, 2)] [(some 2, 10), (none, 11)]
      = [.both (some 2, 0) (some 2, 10), .both (none, 2) (none, 11)] := by
  constructor <;> decide +kernel

end joinplan

example : ([(1, ()), (2, ()), (2, ())] : List (Int × Unit)).Pairwise
    (fun a b => decide (a.1 ≤ b.1) = true) := by decide

end Zed.Props.C10

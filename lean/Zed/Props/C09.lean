/-
  C09 — the vector runtime agrees with the sequential runtime and never crashes the query;
  adding / removing vector copies never changes a result.
  The property theorems with the predicates and witnesses their statements need.  Models: Zed/Model/VecOps.lean (+ the column model of C03) for the
  aggregate operators, Zed/Model/VecExpr.lean for the expression evaluators and the streaming
  operators, Zed/Model/VecCacheLock.lean for the lock protocol of the vector cache; lemmas:
  Zed/Proofs/VecOps.lean (on Counter.lean, VngPrimitive.lean), VecExpr.lean, VecCacheLock.lean; tables: Zed.Generated.C09 / C03, regenerated from /repo
  (runtime/vam/op/agg.go, compiler/optimizer/vam.go, compiler/kernel/vop.go, vexpr.go,
  runtime/vcache/*.go, vector/*.go) on every check.

  The full statements
      countby_agree : ∀ objs, (cbRun objs).map cbRows ≈ seqCountBy (values objs)
      sum_agree     : ∀ objs, sumRun objs = the sum of all values (no sequential `sum` is modelled)
      vam_total     : every vector kind the loader can hand to an operator is handled
      vexpr_agree   : ∀ batch e, the vector evaluator's slots = the sequential values
      vop_agree     : ∀ batch ops, runV ops = runS ops
  are FALSE of the current code.  Below: their negations on concrete witnesses (each replayed
  on the real code by the harness and recorded as a known finding), and the `_partial`
  theorems under explicit guards; last, `vcache_fetch_deadlock_free` (true as stated).
  Witnesses: type ids as in `Generated.C03.primitiveTypes` (0 uint8, 9 int64, 16 float64,
  25 string, 29 null); integer bodies are zig-zag ([2] = 1, [4] = 2, [10] = 5).
-/
import Zed.Proofs.VecOps
import Zed.Proofs.VecExpr
import Zed.Proofs.VecCacheLock
namespace Zed.Props.C09
open Zed.Vec Zed.Vng Zed.Generated.C09

/-- the operator / planner functions the model mirrors have the source it was written against. -/
theorem modelled_sources_unchanged : pinnedSources =
  [("runtime/vam/op/agg.go:CountByString.Pull", "4cd1343883f9"),
   ("runtime/vam/op/agg.go:CountByString.update", "f717d48d5a1f"),
   ("runtime/vam/op/agg.go:countByString.count", "34194e831fd8"),
   ("runtime/vam/op/agg.go:countByString.countDict", "4f1644685571"),
   ("runtime/vam/op/agg.go:countByString.countFixed", "acc75b5edfc0"),
   ("runtime/vam/op/agg.go:countByString.materialize", "0329ab8282ca"),
   ("runtime/vam/op/agg.go:Sum.Pull", "4f1ab8626bf9"),
   ("runtime/vam/op/agg.go:Sum.update", "361761f6e279"),
   ("runtime/vam/op/agg.go:Sum.materialize", "39bd1945a706"),
   ("runtime/vam/expr/dot.go:DotExpr.eval", "fd7536bd3cdb"),
   ("compiler/optimizer/vam.go:Optimizer.Vectorize", "9a237303785c"),
   ("compiler/optimizer/vam.go:Optimizer.isScanWithVectors", "887531a19d64"),
   ("compiler/optimizer/vam.go:vectorize", "c9b2ff654b5d"),
   ("compiler/optimizer/vam.go:IsCountByString", "bc90a2a5db9b"),
   ("compiler/optimizer/vam.go:IsSum", "d71aac3a3e95"),
   ("compiler/optimizer/vam.go:isCount", "2962e518fca9"),
   ("compiler/optimizer/vam.go:isSum", "b1b508abd319"),
   ("compiler/optimizer/vam.go:isSingleField", "eb2b55e7bb6e"),
   ("compiler/job.go:Job.Parallelize", "cebc14195165"),
   ("runtime/vam/op/scan.go:Scanner.run", "9ec29dd02c94"),
   ("runtime/vcache/loader.go:loader.loadDict", "ffafd58ea306"),
   ("runtime/vcache/loader.go:loader.loadPrimitive", "5300522c4557"),
   ("runtime/vam/expr/arith.go:Arith.eval", "c7e8c90723d6"),
   ("runtime/vam/expr/compare.go:Compare.eval", "ed1fe4caeb04"),
   ("runtime/vam/expr/logic.go:Not.Eval", "870c255499ea"),
   ("runtime/vam/expr/logic.go:And.Eval", "6ddbd6a889a5"),
   ("runtime/vam/expr/logic.go:Or.Eval", "e0fff13b78cc"),
   ("runtime/vam/expr/logic.go:EvalBool", "ad8d684d9a8c"),
   ("runtime/vam/expr/coerce.go:coerceVals", "a93a6050251c"),
   ("runtime/vam/expr/literal.go:Literal.Eval", "55c91f408b68"),
   ("runtime/vam/expr/genarithfuncs.go:genFunc", "e8dea43fd443"),
   ("runtime/vam/expr/genarithfuncs.go:genLoop", "116f8492a68b"),
   ("runtime/vam/expr/genarithfuncs.go:genExpr", "02ad52266d9e"),
   ("runtime/vam/expr/gencomparefuncs.go:genFunc", "f6b138ec591e"),
   ("runtime/vam/expr/gencomparefuncs.go:genExpr", "02ad52266d9e"),
   ("runtime/vam/op/filter.go:Filter.Pull", "9fbb4b22146d"),
   ("runtime/vam/op/filter.go:applyMask", "457248fdfe1d"),
   ("runtime/vam/op/head.go:Head.Pull", "2a807483785e"),
   ("runtime/vam/op/tail.go:Tail.tail", "f5611f98bfd2"),
   ("runtime/vam/op/yield.go:Yield.Pull", "69883acb0d1d"),
   ("vector/kind.go:FormOf", "f218a58f7597"),
   ("vector/kind.go:KindOf", "c5f37c2071b8"),
   ("vector/bool.go:BoolValue", "f6d61cd485a7"),
   ("vector/view.go:View.Serialize", "394725c7ab0e"),
   ("runtime/sam/expr/eval.go:Compare.Eval", "1d49fb67207b"),
   ("runtime/sam/expr/eval.go:Add.Eval", "0d41cc1d90a7"),
   ("runtime/sam/expr/eval.go:And.Eval", "2b6a403f0c4a"),
   ("runtime/sam/expr/eval.go:Or.Eval", "7bc825111a2f"),
   ("runtime/sam/expr/eval.go:Not.Eval", "a24182ca581a"),
   ("runtime/sam/expr/coerce/coerce.go:Equal", "ab56a96fb8cd"),
   ("runtime/sam/expr/eval.go:Equal.Eval", "7ed2fff5f23a"),
   ("runtime/sam/expr/boolean.go:Comparison", "a023a3f014db"),
   ("runtime/sam/expr/boolean.go:comparison", "3eb80f3cfdc5"),
   ("runtime/sam/expr/boolean.go:CompareBool", "3a2960257ae4"),
   ("runtime/sam/expr/boolean.go:CompareInt64", "24a39fffbdc7"),
   ("runtime/sam/expr/boolean.go:CompareString", "51445f184563"),
   ("runtime/sam/expr/filter.go:filter.Eval", "dc43ce98549e"),
   ("compiler/kernel/expr.go:Builder.compileConstCompare", "2e6bdb119022"),
   ("compiler/kernel/op.go:Builder.evalAtCompileTime", "f7c8b332f901"),
   ("runtime/vcache/cache.go:Cache.lock", "9c3bc0df1886"),
   ("runtime/vcache/cache.go:Cache.unlock", "af4d98381415"),
   ("runtime/vcache/cache.go:Cache.Fetch", "25742982a2bb")] := rfl

/-- `Optimizer.Vectorize`: sequences shorter than two operators are left alone; the scan must
    have vectors for every object; only `count() by <field>` and `sum(<field>)` directly after
    the scan are vectorized (`vectorized` in the model). -/
theorem planner_as_modelled : vectorizeSkipWhenLen = "< 2" ∧ vectorizeTests =
  ["isScanWithVectors(seq[0])", "IsCountByString(seq[1]) -> return vectorize(seq, 2), nil", "IsSum(seq[1]) -> return vectorize(seq, 2), nil"] := ⟨rfl, rfl⟩

/-- A vector kind is handled by `CountByString.update` when it has a case, or is a `Dynamic`
    (the operator recurses into its values first). -/
def cbHandled (k : String) : Bool :=
  countByKinds.contains k || (k == "Dynamic" && countByKindsRecursesIntoDynamic)

/-- **vam_total for count() by — FALSE**: the loader / projection / field access can produce
    kinds `CountByString.update` has no case for, and its default panics. -/
theorem not_countby_total :
    ¬ (∀ k ∈ Zed.Generated.C09.loaderVectorKinds, cbHandled k = true) ∧ countByKindsDefault = "panic" := by
  refine ⟨?_, rfl⟩
  intro h
  exact absurd (h "Int" (by decide)) (by decide)

/-- the kinds `CountByString.update` does handle. -/
theorem countby_total_partial (k : String) (hk : k ∈ ["String", "Dict", "Const", "Dynamic"]) :
    cbHandled k = true := by
  revert k; decide

/-- The `Dict` case asserts that the dictionary values are strings without checking, while
    the loader builds dictionaries over other kinds too: a second panic site. -/
theorem not_countby_dict_total :
    countByDictAssertion = "unchecked-String" ∧
    ∃ t ∈ Zed.Generated.C03.loadDictCases, t ≠ "TypeOfString" := by
  refine ⟨rfl, "TypeOfInt64", by decide +kernel, by decide +kernel⟩

/-- **vam_total for sum**: `Sum.update` has no panicking default (unknown kinds are ignored —
    which is what makes `sum_agree` false) and recurses into `Dynamic`. -/
theorem sum_total : sumKindsDefault = "ignore" ∧ sumKindsRecursesIntoDynamic = true := ⟨rfl, rfl⟩

/-- every vector kind that exists is either produced by the loader or is `View` (built only
    by operators): the kind list the statements above range over is complete. -/
theorem loader_kinds_complete (k : String) (hk : k ∈ vectorKindsWithSerialize) :
    k ∈ Zed.Generated.C09.loaderVectorKinds ∨ k = "View" := by
  revert k; decide +kernel

/-- **countby_agree_partial.**  Guard: one object, one top-level type, the field is a string
    column without nulls (any contents: plain, dictionary or const encoded).  Then the vector
    operator does not fail and its rows agree, as a multiset, with the sequential
    `count() by f`. -/
theorem countby_agree_partial (xs : List Bytes) :
    ∃ s, cbRun [[strCol xs]] = .ok s ∧ RowsAgree (cbRows s) (seqCountBy (strCol xs).values) := by
  obtain ⟨s, hrun, hn, hc⟩ := cbRun_strCol xs
  refine ⟨s, hrun, ?_⟩
  have hrows : cbRows s = s.table.map fun e => ((strTy, Val.prim e.1), e.2) := by
    simp [cbRows, hn]
  rw [hrows]
  exact RowsAgree.of_counts
    (Counts.map_inj (fun x : Bytes => (strTy, Val.prim x)) (by intro a b h; simpa using h) hc)
    (seqCountBy_strCol xs)

-- non-vacuity: the three encodings
example : cbRun [[strCol [[97], [98], [97]]]] = .ok { table := [([97], 2), ([98], 1)], nulls := 0 } := by
  rw [cbRun_one, fieldVec_aba]; decide +kernel
example : cbRun [[strCol [[97], [97]]]] = .ok { table := [([97], 2)], nulls := 0 } := by decide
example : fieldVec (strCol [[97], [98], [97]]) = .dict "String" [([97], 2), ([98], 1)] 3 := fieldVec_aba
example : fieldVec (strCol [[97], [97]]) = .const 25 [97] 2 := by decide

private def disagree (objs : List (List FCol)) : Prop :=
  ∀ s, cbRun objs = .ok s → ¬ RowsAgree (cbRows s) (seqCountBy (objs.flatten.flatMap FCol.values))

/-- **not_countby_agree (dictionary counts across objects)**: `countDict` assigns instead of
    adding.  Two objects `a b a` / `a c`, both dictionary encoded: the vector operator reports
    a:1 where the data has a:3. -/
theorem not_countby_agree_dict_across_objects :
    cbRun [[strCol [[97], [98], [97]]], [strCol [[97], [99]]]] =
      .ok { table := [([97], 1), ([98], 1), ([99], 1)], nulls := 0 } ∧
    cnt (seqCountBy ([strCol [[97], [98], [97]], strCol [[97], [99]]].flatMap FCol.values))
      (strTy, .prim [97]) = 3 := by decide +kernel

/-- **not_countby_total (witnesses)**: an int64 column with two distinct values
    is dictionary encoded and hits the unchecked assertion; a uint8 column (never dictionary
    encoded) hits the switch default; a record without the field yields `error("missing")`,
    which also hits the default. -/
theorem not_countby_total_witnesses :
    cbRun [[.col (.prim 9) [.prim [2], .prim [4]]]] =
      .error "interface conversion: vector.Any is *vector.Int, not *vector.String" ∧
    cbRun [[.col (.prim 0) [.prim [1], .prim [2]]]] = .error "UNKNOWN Uint" ∧
    cbRun [[.missing 1]] = .error "UNKNOWN Error" := by decide +kernel

/-- **not_countby_agree (silently wrong)**: a const-encoded non-string column is dropped; null
    slots of a const string column are counted as the value; null slots of a flat string
    column are counted as ""; a column of type null is reported with key type string. -/
theorem not_countby_agree_witnesses :
    cbRun [[.col (.prim 9) [.prim [2]]]] = .ok {} ∧
    cbRun [[.col strTy [.prim [97], .null]]] = .ok { table := [([97], 2)], nulls := 0 } ∧
    cbRun [[.col strTy [.null]]] = .ok { table := [([], 1)], nulls := 0 } ∧
    (cbRun [[.col (.prim 29) [.null]]]).map cbRows = .ok [((strTy, .null), 1)] ∧
    seqCountBy (FCol.col (.prim 29) [.null]).values = [((.prim 29, .null), 1)] := by
  refine ⟨by decide +kernel, by decide +kernel, ?_, by decide +kernel, by decide +kernel⟩
  -- the only conjunct whose evaluation looks the kind of the type up
  rw [cbRun_one, strTy, fieldVec_prim 25 _ (by decide), kindOfPrim_string]; decide +kernel

/-- **sum_agree_partial.**  Guard: one object, one top-level type, the field is an integer
    column (signed or unsigned kind) without nulls that is not const-encoded.  Then the vector
    operator returns the exact sum of the values before int64 wrap-around (the model adds in
    `Int`; `wrap64` is applied by the driver only). -/
theorem sum_agree_partial (val : Bytes → Int) (id : Nat) (xs : List Bytes)
    (hk : kindOfPrim id = "Int" ∨ kindOfPrim id = "Uint")
    (hc : (primEncode id true xs).isConst = false) :
    sumRun val [[.col (.prim id) (xs.map Val.prim)]] = .ok (xs.map val).sum := by
  simpa using sumRun_intCols val [(id, xs)] (by simpa using ⟨hk, hc⟩)

-- non-vacuity of the guard: int64 with two distinct values (dictionary), uint8 (plain)
example : (kindOfPrim 9 = "Int" ∨ kindOfPrim 9 = "Uint") ∧ (primEncode 9 true [[2], [4], [2]]).isConst = false := by decide +kernel
example : (kindOfPrim 0 = "Int" ∨ kindOfPrim 0 = "Uint") ∧ (primEncode 0 true [[1], [1]]).isConst = false := by decide

/-- **not_sum_agree**: a const-encoded integer column (all values equal) is ignored: the sum of
    `5 5` is reported as 0; float columns are ignored; so is everything else. -/
theorem not_sum_agree_witnesses (val : Bytes → Int) :
    sumRun val [[.col (.prim 9) [.prim [10], .prim [10]]]] = .ok 0 ∧
    sumRun val [[.col (.prim 16) [.prim [1], .prim [2]]]] = .ok 0 ∧
    sumRun val [[.missing 3]] = .ok 0 := by
  refine ⟨by rfl, by rfl, by rfl⟩

/-- the result of `from pool | count() by f` given which objects have vector copies (one
    scan leg). -/
def lakeCountBy (hasVector : List Bool) (objs : List (List FCol)) : Except String (List Row) :=
  if vectorized .countBy hasVector then (cbRun objs).map cbRows
  else .ok (seqCountBy (objs.flatten.flatMap FCol.values))

/-- **vectorize_transparent_partial.**  Under the guard of `countby_agree_partial`, whichever
    objects have vector copies, the query succeeds with the same multiset of rows. -/
theorem vectorize_transparent_partial (xs : List Bytes) (f f' : List Bool) :
    ∃ r r', lakeCountBy f [[strCol xs]] = .ok r ∧ lakeCountBy f' [[strCol xs]] = .ok r' ∧
      RowsAgree r r' := by
  -- with or without vectors the answer agrees with the sequential one
  have key : ∀ f, ∃ r, lakeCountBy f [[strCol xs]] = .ok r ∧
      RowsAgree r (seqCountBy (strCol xs).values) := fun f => by
    obtain ⟨s, hrun, hag⟩ := countby_agree_partial xs
    unfold lakeCountBy
    split
    · exact ⟨_, by rw [hrun]; rfl, hag⟩
    · exact ⟨_, by simp, hag.2.1, hag.2.1, fun _ => rfl⟩
  obtain ⟨r, hr, a⟩ := key f
  obtain ⟨r', hr', a'⟩ := key f'
  exact ⟨r, r', hr, hr', a.1, a'.1, fun k => (a.2.2 k).trans (a'.2.2 k).symm⟩

/-- **not_vectorize_transparent**: with an int64 key column the same pool answers
    `count() by f` without vectors and crashes with them. -/
theorem not_vectorize_transparent :
    (lakeCountBy [false] [[.col (.prim 9) [.prim [2], .prim [4]]]]).toBool = true ∧
    (lakeCountBy [true] [[.col (.prim 9) [.prim [2], .prim [4]]]]).toBool = false := by
  refine ⟨rfl, ?_⟩
  rw [show lakeCountBy [true] _ = (cbRun _).map cbRows from rfl, not_countby_total_witnesses.1]; rfl

section VExprSection
open Zed.VExpr

/-- T1: the kinds the generated arithmetic / comparison function tables cover, the kinds
    `vector.FormOf` knows (no Bool: comparing two Boolean vectors is "incompatible types"), and
    the operators `compiler/kernel/vexpr.go` compiles — as the model assumes. -/
theorem expr_dispatch_as_modelled :
    arithFuncKinds = ["Int", "Uint", "Float", "String"] ∧
    compareFuncKinds = ["Int", "Uint", "Float", "String", "Bytes"] ∧
    formFlatKinds = ["Int", "Uint", "Float", "Bytes", "String", "TypeValue"] ∧
    "Bool" ∉ formFlatKinds ∧
    vamBinaryOps = ["and", "or", "==", "!=", "<", "<=", ">", ">=", "+", "-", "*", "/", "%"] ∧
    vamUnaryOps = ["!"] := by
  refine ⟨rfl, rfl, rfl, by decide, rfl, rfl⟩

/-- **vexpr_agree_partial.**  For every batch whose columns have the batch length and every
    expression of the modelled subset (field access, int / string literals, + - * / %, the six
    comparisons, and / or / !) that reads only null-free columns: a value vector the vector
    evaluator returns (no panic, no error vector) has one slot per row, no null bit set, and
    serialises at every slot to the sequential value — whatever form (flat, dictionary, const)
    the operands have. -/
theorem vexpr_agree_partial (b : Batch) (hwf : b.WF) (e : Expr) (v : XV)
    (hnf : NullFree b e = true) (h : evalX b e = .ok v) (hv : v.isVal = true) :
    v.len = b.n ∧ (∀ k, v.nulls.getD k false = false) ∧ ∀ k, k < b.n → v.at k = evalS b k e :=
  let g := evalX_good b hwf e v hnf h hv
  ⟨g.len, g.clear, g.at_eq⟩

/-- `yield <expr>` straight after the scan emits what the sequential `yield` emits. -/
theorem vyield_agree_partial (b : Batch) (hwf : b.WF) (e : Expr) (v : XV) (rest : List Op)
    (hnf : NullFree b e = true) (h : evalX b e = .ok v) (hv : v.isVal = true) :
    runV (.yieldE e :: rest) { batch := b } = .ok (runS b (.yieldE e :: rest) (List.range b.n)) := by
  have g := evalX_good b hwf e v hnf h hv
  simp only [runV, runS, VState.slots, Option.getD_none, List.length_range, Option.isSome_none,
    Bool.false_eq_true, if_false, h]
  congr 1
  apply List.map_congr_left
  intro k hk
  rw [g.at_eq k (List.mem_range.mp hk)]

/-- `where <expr>` straight after the scan, followed by any number of `head` / `tail`, emits the
    rows the sequential pipeline emits, in the same order (all three branches of `Filter.Pull`:
    nothing kept, everything kept, a `vector.View` of the kept slots). -/
theorem vfilter_agree_partial (b : Batch) (hwf : b.WF) (e : Expr) (v : XV) (rest : List Op)
    (hnf : NullFree b e = true) (h : evalX b e = .ok v) (hv : v.isVal = true)
    (hrest : rest.all Op.plain = true) :
    runV (.filter e :: rest) { batch := b } = .ok (runS b (.filter e :: rest) (List.range b.n)) := by
  have g := evalX_good b hwf e v hnf h hv
  have hf : (List.range b.n).filter (maskAt v) =
      (List.range b.n).filter (fun k => evalS b k e == .bool true) :=
    List.filter_congr fun k hk => mask_agree b e v g k (List.mem_range.mp hk)
  simp only [runV, runS, VState.slots, Option.getD_none, List.length_range, Option.isSome_none,
    Bool.false_eq_true, if_false, h, hf]
  generalize hkept : (List.range b.n).filter (fun k => evalS b k e == .bool true) = kept
  have hsub : kept.Sublist (List.range b.n) := hkept ▸ List.filter_sublist
  by_cases h0 : kept.length = 0
  · rw [if_pos h0, List.eq_nil_of_length_eq_zero h0, runS_nil]
  rw [if_neg h0]
  by_cases hfull : kept.length = b.n
  · rw [if_pos hfull, hsub.eq_of_length (by simpa using hfull)]
    exact runV_plain rest { batch := b } hrest
  · -- slot `i` of the whole batch is row `i`
    have hid : kept.map (fun i => (List.range b.n).getD i 0) = kept := by
      refine (List.map_congr_left fun i hi => ?_).trans (List.map_id' kept)
      have hi' := List.mem_range.mp (hsub.subset hi)
      simp [List.getD_eq_getElem?_getD, List.getElem?_range hi']
    rw [if_neg hfull, runV_plain rest _ hrest]
    simp only [VState.slots, Option.getD_some, hid]

/-- any sequence of `head` / `tail`, from any state (a view or not), emits the sequential rows:
    these operators never fail and never look at values or null bitmaps. -/
theorem vheadtail_agree (rest : List Op) (s : VState) (h : rest.all Op.plain = true) :
    runV rest s = .ok (runS s.batch rest s.slots) := runV_plain rest s h

/-! ### the unguarded statements are false: witnesses (each replayed by the harness and recorded
    as a known finding `C09:vexpr:*` / `C09:vop:field-access-on-view`) -/

private def cA : VExpr.Bytes := [97]
private def cP : VExpr.Bytes := [112]
private def cQ : VExpr.Bytes := [113]

/-- {a:5} {a:7} {a:null} {a:5}: a dictionary vector; selector 0 at the null slot. -/
def xDictNull : Batch := { n := 4, cols := [(cA, .int [some 5, some 7, none, some 5])] }
/-- {a:5} {a:null}: a Const vector. -/
def xConstNull : Batch := { n := 2, cols := [(cA, .int [some 5, none])] }
def xOne : Batch := { n := 1, cols := [(cA, .int [some 5])] }
def xBools : Batch := { n := 2, cols := [(cP, .bool [none, some true]), (cQ, .bool [some true, some true])] }
def xZero : Batch := { n := 2, cols := [(cA, .int [some 0, some 1])] }

theorem xWitnesses_wf : xDictNull.WF ∧ xConstNull.WF ∧ xOne.WF ∧ xBools.WF ∧ xZero.WF := by
  unfold Batch.WF; decide

/-- arithmetic ignores the null bitmap: `a+1` at the null slot is 6 (dictionary: the entry of
    selector 0; const: the constant) with a clear null bit, sequentially null+1 = 1. -/
theorem not_vexpr_agree_arith_null :
    (evalX xDictNull (.arith .add (.field cA) (.litInt 1))).toOption.map (fun v => (List.range 4).map v.at)
        = some [.int 6, .int 8, .int 6, .int 6] ∧
    (List.range 4).map (fun k => evalS xDictNull k (.arith .add (.field cA) (.litInt 1)))
        = [.int 6, .int 8, .int 1, .int 6] ∧
    (evalX xConstNull (.arith .add (.field cA) (.litInt 1))).toOption.map (fun v => (List.range 2).map v.at)
        = some [.int 6, .int 6] ∧
    (List.range 2).map (fun k => evalS xConstNull k (.arith .add (.field cA) (.litInt 1)))
        = [.int 6, .int 1] := by decide

/-- comparisons ignore the null bitmap: `a==5` is true at the null slot, sequentially false. -/
theorem not_vexpr_agree_compare_null :
    (evalX xDictNull (.cmp .eq (.field cA) (.litInt 5))).toOption.map (fun v => (List.range 4).map v.at)
        = some [.bool true, .bool false, .bool true, .bool true] ∧
    (List.range 4).map (fun k => evalS xDictNull k (.cmp .eq (.field cA) (.litInt 5)))
        = [.bool true, .bool false, .bool false, .bool true] := by decide

/-- hence the guard of `vexpr_agree_partial` cannot be dropped. -/
theorem not_vexpr_agree :
    ¬ ∀ (b : Batch) (e : Expr) (v : XV), b.WF → evalX b e = .ok v → v.isVal = true →
        ∀ k, k < b.n → v.at k = evalS b k e := by
  intro h
  have := h xDictNull (.cmp .eq (.field cA) (.litInt 5)) _ xWitnesses_wf.1 rfl rfl 2 (by decide)
  revert this
  decide

/-- the logical operators reject a Const operand: `!(a==5)` over the single record {a:5} is
    error("not type bool"), sequentially false. -/
theorem not_vexpr_logic_const :
    (evalX xOne (.not (.cmp .eq (.field cA) (.litInt 5)))).toOption.map (fun v => v.at 0)
        = some (.err "not type bool") ∧
    evalS xOne 0 (.not (.cmp .eq (.field cA) (.litInt 5))) = .bool false := by decide

/-- the logical operators copy the left null bitmap: `p or q` with p null, q true is null,
    sequentially true. -/
theorem not_vexpr_logic_null :
    (evalX xBools (.or (.field cP) (.field cQ))).toOption.map (fun v => (List.range 2).map v.at)
        = some [.null .bool, .bool true] ∧
    (List.range 2).map (fun k => evalS xBools k (.or (.field cP) (.field cQ)))
        = [.bool true, .bool true] := by decide

/-- two Boolean vectors cannot be compared: `q==q` is error("incompatible types"),
    sequentially true. -/
theorem not_vexpr_compare_bool :
    (evalX xBools (.cmp .eq (.field cQ) (.field cQ))).toOption.map (fun v => (List.range 2).map v.at)
        = some [.err "incompatible types", .err "incompatible types"] ∧
    (List.range 2).map (fun k => evalS xBools k (.cmp .eq (.field cQ) (.field cQ)))
        = [.bool true, .bool true] := by decide

/-- a zero divisor at any slot panics the vector evaluator (the whole query), where the
    sequential evaluator yields error("divide by zero") for that row only. -/
theorem not_vexpr_total :
    evalX xZero (.arith .div (.litInt 1) (.field cA)) = .error "runtime error: integer divide by zero" ∧
    (List.range 2).map (fun k => evalS xZero k (.arith .div (.litInt 1) (.field cA)))
        = [.err "divide by zero", .int 1] := ⟨rfl, by decide⟩

/-- after `head` / `where` kept part of a batch, field accesses see nothing: `head 1 | yield a`
    emits error("missing"), and a second `where a==1` keeps nothing. -/
theorem not_vop_agree_on_view :
    runV [.head 1, .yieldE (.field cA)] { batch := xZero } = .ok [.val (.err "missing")] ∧
    runS xZero [.head 1, .yieldE (.field cA)] (List.range 2) = [.val (.int 0)] ∧
    runV [.filter (.cmp .eq (.field cA) (.litInt 1)), .filter (.cmp .eq (.field cA) (.litInt 1))] { batch := xZero } = .ok [] ∧
    runS xZero [.filter (.cmp .eq (.field cA) (.litInt 1)), .filter (.cmp .eq (.field cA) (.litInt 1))] (List.range 2) = [.row 1] :=
  ⟨rfl, by decide, rfl, by decide⟩

end VExprSection

section CacheLockSection
open Zed.VecCacheLock

/-- T1: the order of the lock operations in `Cache.lock`, `Cache.unlock` and `Cache.Fetch` is the
    one the model's programs (`lockReleased`, `unlockOps`, `fetchOps`) spell out: since /repo
    f9684f0a8 `lock` releases `c.mu` before it blocks on the object mutex. -/
theorem cache_lock_order_as_modelled :
    cacheLockLockOps = ["c.mu.Lock", "c.mu.Unlock", "mu.Lock"] ∧
    cacheUnlockLockOps = ["c.mu.Lock", "c.locks[id].Unlock", "c.mu.Unlock"] ∧
    cacheFetchLockOps = ["c.mu.Lock", "c.mu.Unlock", "c.lock", "defer c.unlock", "c.mu.Lock",
      "c.mu.Unlock", "NewObject", "c.mu.Lock", "c.mu.Unlock"] := ⟨rfl, rfl, rfl⟩

/-- `Cache.Fetch` never waits for the object mutex while it holds `c.mu`. -/
theorem vcache_fetch_ordered : Ordered (fetchOps lockReleased) := by decide

/-- **vcache_fetch_deadlock_free.**  No schedule of two goroutines that both run all twelve lock
    operations of `Cache.Fetch` for the same object (one program for both: the early returns of
    cache.go:55-69 are other programs, not modelled) reaches a state in which nobody can move while
    somebody has work left. -/
theorem vcache_fetch_deadlock_free (sched : List Bool) (s : St)
    (h : run (fetchOps lockReleased) sched init = some s) :
    deadlocked (fetchOps lockReleased) s = false :=
  vcache_fetch_ordered.deadlock_free sched h

/-- non-vacuity: complete runs of both goroutines exist. -/
example : ∃ sched, (run (fetchOps lockReleased) sched init).map (finished (fetchOps lockReleased)) = some true :=
  ⟨List.replicate 12 false ++ List.replicate 12 true, by decide +kernel⟩

/-- with the order `Cache.lock` had before /repo f9684f0a8 (`lockHeld`: the deferred
    `c.mu.Unlock()` ran after `mu.Lock()`) goroutine 0 takes the object mutex and releases `c.mu`;
    goroutine 1 takes `c.mu` and blocks on the object mutex; goroutine 0 blocks on `c.mu` for its
    second probe.  Nobody can move, and `c.mu` stays held (finding `C09:lake:vcache-fetch-deadlock`,
    fixed; observed on the real code as lake queries ending in "context deadline exceeded" with
    exactly these stacks). -/
theorem not_vcache_fetch_deadlock_free_old_order :
    ∃ sched : List Bool, (run (fetchOps lockHeld) sched init).map (deadlocked (fetchOps lockHeld)) = some true :=
  ⟨[false, false, false, false, false, true, true, true], by decide +kernel⟩

end CacheLockSection

end Zed.Props.C09

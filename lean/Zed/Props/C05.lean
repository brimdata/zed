/-
  C05 — types are canonical within a context and portable across contexts.
  Property theorems only.  Tables come from Zed.Generated.C05 (regenerated from
  /repo/type.go, primitive.go, context.go on every check); the model is Zed.Model.TyContext.

  The two regression `example`s replay the witnesses of defects repaired in /repo 2f4e3fba9 (`CompareTypes`
  compared only the outermost names of two named types with one underlying type: findings C05:comparetypes…,
  C05:union-order…) and f60030615 (`LookupByValue` stored the caller's bytes as the type's value: C05:tvstable…).
-/
import Zed.Model.TyContext
import Zed.Proofs.CompareTypesTrans
import Zed.Proofs.InsertionSort
import Zed.Proofs.TypeValueInj
import Zed.Proofs.TypeValueRT
import Zed.Proofs.Context
import Zed.Proofs.CtxStepsInv
namespace Zed.Props.C05
open Zed Zed.Ord Zed.Generated.C05

/-- Obligation on the regenerated tables: the nine type-value codes are pairwise distinct,
    fit a byte and are not primitive ids (so the first byte of a serialized type determines
    its constructor). -/
theorem typeValueCodes_distinct :
    [tvRecord, tvArray, tvSet, tvMap, tvUnion, tvEnum, tvError, tvNameDef, tvNameRef].Nodup ∧
    (∀ c ∈ [tvRecord, tvArray, tvSet, tvMap, tvUnion, tvEnum, tvError, tvNameDef, tvNameRef],
      idTypeComplex ≤ c ∧ c < 256) := by decide

/-- Obligation on the regenerated tables: `LookupPrimitiveByID(id).ID() = id`, every
    implemented id is below `IDTypeComplex`, and `LookupPrimitive` names exactly those types. -/
theorem primitive_tables_consistent :
    (∀ p ∈ primitiveByID, p.1 = p.2 ∧ p.1 < idTypeComplex) ∧
    (primitiveByID.map (·.1)).Nodup ∧
    (∀ e ∈ primitiveNames, e.2.2 ∈ primitiveByID.map (·.1)) ∧
    (primitiveNames.map (·.2.1)).Nodup :=
  ⟨Ctx.primitiveByID_diag, by decide +kernel⟩

/-! ### the order on types (`zed.CompareTypes`) is a total order on all structural types -/

theorem compareTypes_refl (a : Ty) : cmpTy a a = .eq := cmpTy_refl a

theorem compareTypes_antisymm (a b : Ty) : cmpTy b a = (cmpTy a b).swap := cmpTy_swap a b

/-- zero only on equal types -/
theorem compareTypes_eq_iff (a b : Ty) : cmpTy a b = .eq ↔ a = b := cmpTy_eq_iff a b

theorem compareTypes_trans (a b c : Ty) : cmpTy a b ≠ .gt → cmpTy b c ≠ .gt → cmpTy a c ≠ .gt :=
  (cmpTy_STr a b c).le

def tInt : Ty := .prim 9
/-- x=(y=int64) -/
def tXY : Ty := .named [120] (.named [121] tInt)
/-- x=(z=int64) -/
def tXZ : Ty := .named [120] (.named [122] tInt)

/-- regression witnesses: types that differ in an inner name are ordered by it (`y` < `z`) -/
example : cmpTy tXY tXZ = .lt ∧ cmpTy (.named [120] tInt) tXY = .lt := by decide

/-! ### union member order -/

/-- `LookupTypeUnion` yields the same type (and the same context) for every order in which the
    members are listed -/
theorem union_order_irrelevant (c : Ctx) (ts ts' : List Ty) (hp : ts'.Perm ts) :
    c.lookupUnion ts' = c.lookupUnion ts := by
  unfold Ctx.lookupUnion sortTys
  rw [insertionSort_eq_of_perm tyLess _ tyLess_strictTotal ts ts' hp (fun _ _ => trivial)]

/-! ### serialized type values

  `Ty.wf` (Model/TyContext): implemented primitives, no duplicate field names, union members in
  the order `LookupTypeUnion` leaves them in, valid type names, and the decoder's size limits. -/

/-- the serialized type value is a function of the structure only (it is defined on `Ty`) and
    determines it: two well-formed types with the same type value are the same type -/
theorem typevalue_injective (t₁ t₂ : Ty) (w₁ : t₁.wf = true) (w₂ : t₂.wf = true)
    (h : encodeTV t₁ = encodeTV t₂) : t₁ = t₂ := encodeTV_injective t₁ t₂ w₁ w₂ h

/-- decoding the type value of a well-formed type, in *any* context that satisfies the context
    invariant and with any bytes following it, yields exactly that type and consumes exactly
    its bytes; the context keeps the invariant.  (The typedef map of the encoder is mirrored by
    the context's `typedefs` in DFS order: `Ctx.Rel` in Proofs/TypeValueRT.) -/
theorem typevalue_roundtrip (t : Ty) (w : t.wf = true) (c : Ctx) (hc : c.Inv) (rest : Bytes) :
    ∃ c', c.decode (encodeTV t ++ rest) = some (t, rest, c') ∧ c'.Inv := by
  obtain ⟨c', h, i, _⟩ := Ctx.decodeC_encodeTV c hc t w rest
  exact ⟨c', by simp [Ctx.decode, h], i⟩

/-- non-vacuity: a record over a named type, a map and a sorted union is well-formed -/
example : (Ty.record (.cons [97] (.named [120] tInt) (.cons [98] (.map tInt (.prim 25))
    (.cons [99] (.union (.cons tInt (.cons (.prim 25) .nil))) .nil)))).wf = true := by decide

/-! ### the context

  `Ctx.Inv c` (Proofs/ContextInv): no structure is entered twice (`byID.Nodup`), every entered
  type is well-formed, `toType` maps the canonical serialization of every entered type to that
  type and nothing else to it, every value of `toType` and `typedefs` is a type of the context,
  and the stored value of a type (`toValue`) is its canonical serialization. -/

/-- **context_canonical** (sequential): after any history of operations (record / array / set /
    map / union / enum / error / named lookups, LookupByValue with arbitrary bytes, TranslateType
    of well-formed foreign types, LookupTypeValue, LookupTypeDef — arguments being primitives or
    earlier results) the context satisfies the invariant and every result is a type of the
    context.  Operations beyond the decoder's size limits are skipped (see `Ctx.exec`). -/
theorem context_canonical (ops : List Ctx.Op) :
    (Ctx.runOps ops Ctx.empty []).1.Inv ∧ Ctx.EnvOk (Ctx.runOps ops Ctx.empty []).1 (Ctx.runOps ops Ctx.empty []).2 :=
  Ctx.runOps_good ops Ctx.empty [] Ctx.inv_empty (by intro r hr; simp at hr)

/-- two ids of a context never hold the same structure (an id is a position in `byID`) -/
theorem ids_canonical (c : Ctx) (hc : c.Inv) (i j : Nat) (hi : i < c.byID.length) (hj : j < c.byID.length)
    (h : c.byID[i] = c.byID[j]) : i = j :=
  (List.getElem_inj hc.nodup).mp h

/-- looking a structure up again returns the same type and enters nothing -/
theorem lookup_idempotent (c : Ctx) (hc : c.Inv) (t : Ty) (wt : t.wf = true) (ct : t.isComplex = true) :
    (c.lookupOrEnter t).1 = t ∧
    ((c.lookupOrEnter t).2.lookupOrEnter t) = (t, (c.lookupOrEnter t).2) := by
  have sp := Ctx.lookupOrEnter_spec c hc t wt ct
  refine ⟨sp.val, ?_⟩
  have hmem : t ∈ (c.lookupOrEnter t).2.byID := sp.has.2.resolve_right (by simp [ct])
  exact Ctx.lookupOrEnter_hit _ t t (sp.inv.total t hmem)

/-- **translate_roundtrip**: translating a well-formed type into a context yields the structurally
    same type; stated for two contexts -/
theorem translate_roundtrip (c₁ c₂ : Ctx) (h₁ : c₁.Inv) (h₂ : c₂.Inv) (t : Ty) (w : t.wf = true) :
    (c₂.translate t).1 = some t ∧ ((c₁.translate t).1 = some t) :=
  ⟨(Ctx.translate_spec c₂ h₂ t w).1, (Ctx.translate_spec c₁ h₁ t w).1⟩

/-- the bytes `LookupTypeValue` returns are the canonical serialization of the type -/
theorem typevalue_canonical (c : Ctx) (hc : c.Inv) (t : Ty) (w : t.wf = true) (b : Bytes)
    (h : (c.lookupTypeValue t).1 = some b) : b = encodeTV t :=
  Ctx.lookupTypeValue_canonical c hc t w b h

/-- **typevalue_stable**: a type value obtained from the context never changes over any later
    history of operations (including LookupByValue with arbitrary bytes) -/
theorem typevalue_stable (c : Ctx) (hc : c.Inv) (env : Ctx.Env) (he : Ctx.EnvOk c env) (t : Ty) (w : t.wf = true)
    (b : Bytes) (h : (c.lookupTypeValue t).1 = some b) (ops : List Ctx.Op) (b' : Bytes)
    (h' : ((Ctx.runOps ops c env).1.lookupTypeValue t).1 = some b') : b' = b := by
  rw [Ctx.lookupTypeValue_canonical c hc t w b h,
    Ctx.lookupTypeValue_canonical _ (Ctx.runOps_good ops c env hc he).1 t w b' h']

/-- regression witness: after `LookupByValue` of `|[int8]|` followed by one byte the value of
    `|[int8]|` is still its canonical serialization -/
example : (((Ctx.runOps [Ctx.Op.set (.prim 6)] Ctx.empty []).1.exec [] (.byValue [32, 6, 0])).2.2.lookupTypeValue
    (.set (.prim 6))).1 = some [32, 6] := by decide

/-! ### concurrency: every interleaving of the atomic steps

  The atomic steps of the context's clients are its critical sections.  Every `Lookup*` method is one
  (`lock_shape`, regenerated); `LookupByValue` is a probe of `toType`, then `DecodeTypeValue` OUTSIDE
  the mutex — whose only accesses to the context are `Lookup*` calls, one critical section each — then
  a final critical section that stores the caller's bytes (`Ctx.storeByValue`).  A decoding thread is
  the program `Ctx.prog tv` (compiled from the bytes by the same descent as `decodeTV`; control flow
  does not depend on the context) run on a thread-local stack, one instruction per step
  (`Zed.Model.CtxSteps`); `Ctx.runSched` interleaves decoding threads and client threads (histories of
  direct `Lookup*` calls) under an arbitrary schedule. -/

def atomicMethods : List String :=
  ["LookupTypeRecord", "LookupTypeSet", "LookupTypeMap", "LookupTypeArray", "LookupTypeUnion",
   "LookupTypeEnum", "LookupTypeDef", "LookupTypeNamed", "LookupTypeError"]

def isMutexOp (e : String) : Bool := ["Lock", "Unlock", "RLock", "RUnlock", "defer Unlock", "defer RUnlock"].contains e

/-- Obligation on the regenerated table of receiver accesses: every `Lookup*` method takes the mutex
    first, releases it by `defer`, touches nothing before and calls only the `…WithLock` helpers;
    `LookupByValue` is probe / `DecodeTypeValue()` outside the mutex / store; `DecodeTypeValue`
    touches no field and no mutex and calls only the `Lookup*` methods and itself;
    `TranslateType` is `LookupByValue`. -/
theorem lock_shape :
    (atomicMethods.all fun m =>
      match lockShape.lookup m with
      | some ("Lock" :: "defer Unlock" :: rest) =>
        rest.all fun e => !isMutexOp e &&
          [".toType", ".typedefs", ".stringErr", "nextIDWithLock()", "enterWithLock()"].contains e
      | _ => false) = true ∧
    lockShape.lookup "LookupByValue" =
      some ["Lock", ".toType", "Unlock", "DecodeTypeValue()", "Lock", "defer Unlock", ".toValue", ".toValue", ".toType"] ∧
    (match lockShape.lookup "DecodeTypeValue" with
     | some es => es.all fun e => e == "DecodeTypeValue()" || (atomicMethods.map (· ++ "()")).contains e
     | none => false) = true ∧
    lockShape.lookup "TranslateType" = some ["LookupByValue()"] ∧
    lockShape.lookup "enterWithLock" = some [".toValue", ".toType", ".byID", ".byID"] ∧
    lockShape.lookup "nextIDWithLock" = some [".byID"] := by decide +kernel

/-- a decoding thread that runs alone is `DecodeTypeValue` as modelled by `decodeTV` (which the
    harness compares with the real code): same context afterwards, same result, same rest -/
theorem decode_thread_solo (c : Ctx) (tv : Bytes) (st : List Ty) :
    match c.decodeC tv with
    | (c', some (t, rest)) =>
      (Ctx.compileTV (tv.length + 1) tv).2 = some rest ∧ Ctx.runI (Ctx.prog tv).1 c st = (c', some (t :: st))
    | (c', none) =>
      (Ctx.runI (Ctx.prog tv).1 c st).1 = c' ∧ ((Ctx.prog tv).2 = true → (Ctx.runI (Ctx.prog tv).1 c st).2 = none) := by
  have h := Ctx.simTV (tv.length + 1) c tv st
  unfold Ctx.decodeC
  cases hd : Ctx.decodeTV (tv.length + 1) c tv with
  | mk c1 o =>
    rw [hd] at h
    cases o with
    | none => exact h
    | some q => obtain ⟨t, rest⟩ := q; exact h

/-- a `LookupByValue` thread that runs alone is `lookupByValue` -/
theorem lookupByValue_thread_solo (c : Ctx) (tv : Bytes) :
    ∃ n, Ctx.runD n c (Ctx.startD tv) = ((c.lookupByValue tv).2, { tv := tv, ph := .done (c.lookupByValue tv).1 }) :=
  Ctx.runD_solo c tv

/-- the threads of the statement below: one `LookupByValue(tv)` (or `TranslateType`) per `tv`, one
    client per history -/
def threadsOf (tvs : List Bytes) (clients : List (List Ctx.Op)) : List Ctx.Thread :=
  tvs.map (fun tv => .dec (Ctx.startD tv)) ++ clients.map (fun ops => .cli ops [])

/-- **context_canonical for every interleaving of the atomic steps.**  Any number of concurrent
    `LookupByValue`/`TranslateType` calls whose type values are context-independent (`progOk`: the
    bytes are well-formed, no NameRef, no step that fails — duplicate field, bad type name) and any
    number of clients making direct `Lookup*` calls (arguments: primitives or their own earlier
    results), under EVERY schedule of their atomic steps: the invariant of `context_canonical` holds
    (hence `ids_canonical`, `lookup_idempotent`, `typevalue_canonical` of the resulting context);
    every finished `LookupByValue` returned a type of the context, and for the canonical
    serialization of a well-formed type `u` it returned `u` — whatever the other threads did in
    between; every client holds types of the context.  The proof does not use `hat` (`Ctx.exec_good` holds for every
    operation); it excludes runs in which `stepT` would run a method of several critical sections as one step. -/
theorem context_canonical_interleaved (tvs : List Bytes) (clients : List (List Ctx.Op)) (sched : List Nat)
    (hok : ∀ tv ∈ tvs, Ctx.progOk tv = true) (hat : ∀ ops ∈ clients, ∀ op ∈ ops, Ctx.Op.atomic op = true) :
    (Ctx.runSched sched Ctx.empty (threadsOf tvs clients)).1.Inv ∧
    (∀ tv t, Ctx.Thread.dec { tv := tv, ph := .done (some t) } ∈ (Ctx.runSched sched Ctx.empty (threadsOf tvs clients)).2 →
      (Ctx.runSched sched Ctx.empty (threadsOf tvs clients)).1.has t ∧ ∀ u, u.wf = true → encodeTV u = tv → t = u) ∧
    (∀ ops env, Ctx.Thread.cli ops env ∈ (Ctx.runSched sched Ctx.empty (threadsOf tvs clients)).2 →
      Ctx.EnvOk (Ctx.runSched sched Ctx.empty (threadsOf tvs clients)).1 env) := by
  have _ := hat
  have h0 : ∀ th ∈ threadsOf tvs clients, Ctx.TOk Ctx.empty th := by
    intro th hth
    simp only [threadsOf, List.mem_append, List.mem_map] at hth
    rcases hth with ⟨tv, htv, rfl⟩ | ⟨ops, hops, rfl⟩
    · exact ⟨hok tv htv, trivial⟩
    · exact fun r hr => absurd hr List.not_mem_nil
  have g := Ctx.runSched_ok sched Ctx.empty (threadsOf tvs clients) Ctx.inv_empty h0
  refine ⟨g.1, fun tv t hm => ?_, fun ops env hm => g.2 _ hm⟩
  exact (g.2 _ hm).2 t rfl

/-- the context-independent programs are not few: a record with a named type, an array of maps of
    unions, an enum and an error type (no name occurs twice) -/
example : Ctx.progOk (encodeTV (Ty.record (.cons [102] (.named [120] tInt) (.cons [103]
    (.array (.map (.prim 25) (.union (.cons tInt (.cons (.prim 25) .nil))))) (.cons [104]
    (.error (.enum [[97], [98]])) .nil))))) = true := by decide

/-! #### what is false of the current code: a NameRef under interleaving -/

/-- Full statement `nameref_atomicity`: under interleaving of the decoders' atomic steps a
    NameRef resolves to the decoder's own preceding NameDef.  FALSE on a shared context: between
    decoder A's `LookupTypeNamed(x, int64)` and its `LookupTypeDef(x)`, decoder B's
    `LookupTypeNamed(x, string)` rebinds `x`. -/
theorem not_nameref_atomicity :
    ¬ (∀ (c : Ctx) (n : Name) (a b : Ty),
        ((c.lookupNamed n a).2.lookupNamed n b).2.lookupTypeDef n = (c.lookupNamed n a).1) := by
  intro h
  have := h Ctx.empty [120] (.prim 9) (.prim 25)
  revert this
  decide

/-- what decoder A's bytes denote: `{f:x=int64, g:x}` (its program has a NameRef: not `progOk`) -/
def uA : Ty := .record (.cons [102] (.named [120] tInt) (.cons [103] (.named [120] tInt) .nil))

/-- thread 0 = `LookupByValue` of `{f:x=int64, g:x}`, thread 1 = `LookupByValue` of `x=string`; the
    schedule  A: probe · int64 · NameDef x | B: probe · string · NameDef x | A: NameRef x ·
    LookupTypeRecord · store -/
def interleaved : Ctx :=
  (Ctx.runSched [0, 0, 0, 1, 1, 1, 0, 0, 0] Ctx.empty
    (threadsOf [encodeTV uA, encodeTV (.named [120] (.prim 25))] [])).1

/-- `context_canonical_interleaved` without `progOk` is FALSE: after that schedule the context maps
    the canonical serialization of `{f:x=int64, g:x}` to a different type, so translating that type
    into the context no longer yields it (finding C05:nameref:rebinding). -/
theorem not_context_canonical_interleaved :
    uA.wf = true ∧ Ctx.progOk (encodeTV uA) = false ∧ (interleaved.translate uA).1 ≠ some uA := by decide +kernel

end Zed.Props.C05

/-
  C20 — fuse is uniform, order-preserving and lossless.
  The property theorems with the predicates and witnesses their statements need.  Model: Zed.Model.FuseTy / FuseMerge / FuseShape / FuseGood
  (`agg.merge`, `mergeAllRecords`, `Schema.Mixin`, the `fuse()` aggregate, the const shaper with
  Cast|Fill|Order, `Fuser`), tied to runtime/sam/expr/agg/schema.go, runtime/sam/expr/shaper.go and
  runtime/sam/op/fuse by the correspondence harness (harness/c20).
-/
import Zed.Proofs.FuseFits
import Zed.Proofs.FuseMergeFits
namespace Zed.Props.C20
open Zed.Fuse

/-- The Fuser shapes with exactly the transforms the model of the shaper is specialised to. -/
theorem fuser_transforms : Generated.C20.fuserTransforms = ["Cast", "Fill", "Order"] := rfl

/-- `Fuser.stash` starts spilling when the buffered bytes reach the limit (the model's `≥`). -/
theorem spill_condition : Generated.C20.spillCondition = "f.nbytes >= f.memMaxBytes" := rfl

/-- `zed.IDNull` and the `Kind` order the model's `Ty.kind` / `compareTypes` follow. -/
theorem null_id_and_kinds :
    Generated.C20.idNull = 29 ∧
    Generated.C20.kinds = ["PrimitiveKind", "RecordKind", "ArrayKind", "SetKind", "MapKind", "UnionKind",
      "EnumKind", "ErrorKind"] := ⟨rfl, rfl⟩

private def sampleOf : String → Option Ty
  | "Record" => some (.record (.cons [97] (.prim 9) .nil))
  | "Array" => some (.array (.prim 9))
  | "Set" => some (.set (.prim 25))
  | "Map" => some (.map (.prim 25) (.prim 9))
  | _ => none

private def ctorKind : String → Option Nat
  | "MustLookupTypeRecord" => some 1
  | "LookupTypeRecord" => some 1
  | "LookupTypeArray" => some 2
  | "LookupTypeSet" => some 3
  | "LookupTypeMap" => some 4
  | _ => none

private def mergeKind (x y : String) : Option Nat :=
  match sampleOf x, sampleOf y with
  | some a, some b => (merge 4 a b).map Ty.kind
  | _, _ => none

/-- Every row of the kind-pair table of `agg.merge` (regenerated from schema.go) is what the
    model's `merge` does for that pair of kinds … -/
theorem merge_kind_table :
    ∀ row ∈ Generated.C20.mergeKindTable, mergeKind row.1 row.2.1 = ctorKind row.2.2 ∧ (ctorKind row.2.2).isSome = true := by
  decide +kernel

/-- … and every pair of container kinds not in the table falls through to a union. -/
theorem merge_kind_table_complete :
    ∀ x ∈ ["Record", "Array", "Set", "Map"], ∀ y ∈ ["Record", "Array", "Set", "Map"],
      (Generated.C20.mergeKindTable.any fun r => r.1 == x && r.2.1 == y) = false → mergeKind x y = some 5 := by
  decide +kernel

/-- Every leaf path of the left input, with its primitive type, is a leaf path of the merge
    (for any fuel at which `merge` answers). -/
theorem merge_embeds_left (n : Nat) (a b c : Ty) (h : merge n a b = some c) :
    ∀ l ∈ tleaves a, l ∈ tleaves c :=
  fun l hl => (merge_leafJoin n a b c h l).2 (Or.inl hl)

/-- … and of the right input. -/
theorem merge_embeds_right (n : Nat) (a b c : Ty) (h : merge n a b = some c) :
    ∀ l ∈ tleaves b, l ∈ tleaves c :=
  fun l hl => (merge_leafJoin n a b c h l).2 (Or.inr hl)

/-- `merge` invents nothing: every leaf of the result comes from one of the inputs. -/
theorem merge_no_new_leaves (n : Nat) (a b c : Ty) (h : merge n a b = some c) :
    ∀ l ∈ tleaves c, l ∈ tleaves a ∨ l ∈ tleaves b :=
  fun l hl => (merge_leafJoin n a b c h l).1 hl

/-- **The fused type is exactly the join of the input types**: a leaf path (with primitive
    type) is in the type `fuse()` reports iff it is in some input type.  In particular every
    input type embeds in it. -/
theorem fused_type_leaves (fuel : Nat) (ts : List Ty) (T : Ty) (h : aggType fuel ts = some (some T)) :
    ∀ l, l ∈ tleaves T ↔ ∃ t ∈ ts, l ∈ tleaves t := by
  intro l
  have := mixinAll_leaves fuel _ none (some T) h l
  rw [Option.toList_some, lsOf_singleton, Option.toList_none, lsOf_iff (firstSeen [] ts)] at this
  simpa only [lsOf_nil, false_or, mem_firstSeen, List.not_mem_nil, not_false_eq_true, and_true] using this

def WellTyped (xs : List Input) : Prop := ∀ x ∈ xs, hasType x.val x.ty = true

/-- **fuse_count_order.**  One output per input, in input order: output `i` is the shaper
    applied to input `i` (under the shaper cache left by inputs `0..i-1`), for the type the
    aggregate reports. -/
theorem fuse_count_order (fuel memMax : Nat) (xs : List Input) (outs : List Out)
    (h : fuse fuel memMax xs = some outs) :
    outs.length = xs.length ∧
    ∀ T, aggType fuel (xs.map (·.ty)) = some (some T) →
      ∀ i (hi : i < xs.length),
        outs[i]? = some (evalShaper T (cacheAfter T [] (xs.take i)) xs[i].ty xs[i].val).1 := by
  rw [fuse_eq] at h
  simp only [Option.map_eq_some_iff] at h
  obtain ⟨s, hs, rfl⟩ := h
  constructor
  · cases s with
    | none =>
      -- no type mixed in: there was no input
      cases xs with
      | nil => rfl
      | cons x r =>
        exfalso
        simp only [aggType, List.map_cons, firstSeen, List.not_mem_nil, if_false, mixinAll, mixin,
          Option.bind_some] at hs
        have := mixinAll_none_of_some fuel _ x.ty hs
        exact this
    | some T => simp [shapeWith, (shapeAll_spec T [] xs).1]
  · intro T hT i hi
    rw [hs] at hT
    simp only [Option.some.injEq] at hT
    subst hT
    exact (shapeAll_spec T [] xs).2 i hi

/-- **fuse_agg_same_type.**  The type the `fuse` operator shapes to (the Fuser's schema after
    all writes) is the type the `fuse()` aggregate reports for the same input. -/
theorem fuse_agg_same_type (fuel memMax : Nat) (xs : List Input) (f : Fuser)
    (h : Fuser.writeAll fuel { memMax := memMax } xs = some f) :
    aggType fuel (xs.map (·.ty)) = some f.schema := by
  have hv := writeAll_view fuel { memMax := memMax } xs
  rw [h] at hv
  simp only [Option.map_some] at hv
  unfold aggType
  cases hm : mixinAll fuel none (firstSeen [] (xs.map (·.ty))) with
  | none => simp [hm] at hv
  | some s =>
    simp only [hm, Option.map_some, Option.some.injEq, Prod.mk.injEq] at hv
    rw [hv.2]

/-- **fuse_spill_invariant.**  The result does not depend on the memory limit, i.e. on
    whether, and from which value on, the input was spilled. -/
theorem fuse_spill_invariant (fuel memMax memMax' : Nat) (xs : List Input) :
    fuse fuel memMax xs = fuse fuel memMax' xs := by
  rw [fuse_eq, fuse_eq]

/-  Full statements (FALSE of the current code, see the negations below):

    fuse_uniform  : every output has the type the aggregate reports
    fuse_lossless : every output carries exactly the non-null leaves of its input

    Proved under the decidable guard `guardAll`: the plan the shaper applies to that input is
    free of primitive casts, covers every input field / member / element and lands in the fused
    type (`Zed.Fuse.goodStep`).  The guard is evaluated by the driver for every case the harness
    runs; it fails exactly on the witness classes recorded in findings/C20.json. -/

/-- **fuse_lossless_partial.**  Guard: `guardAll` at input `i`.  The output is a value of the
    fused type whose non-null primitive leaves (path, primitive type, bytes) are exactly those of
    the input: every non-null leaf of the input appears at the same path with the same type and
    value, and every other leaf of the output is null. -/
theorem fuse_lossless_partial (fuel memMax : Nat) (xs : List Input) (outs : List Out) (T : Ty)
    (h : fuse fuel memMax xs = some outs) (hT : aggType fuel (xs.map (·.ty)) = some (some T))
    (i : Nat) (hi : i < xs.length) (hg : (guardAll (some T) xs)[i]? = some true)
    (ht : hasType xs[i].val xs[i].ty = true) :
    ∃ v', outs[i]? = some (.val T v') ∧ ∀ l, l ∈ leaves T v' ↔ l ∈ leaves xs[i].ty xs[i].val := by
  have := (fuse_count_order fuel memMax xs outs h).2 T hT i hi
  rw [this]
  rw [guardAll, (guardsFrom_spec T [] xs).2 i hi] at hg
  obtain ⟨v', h1, h2⟩ := evalShaper_good T _ _ _ (Option.some.inj hg) ht
  exact ⟨v', by rw [h1], h2⟩

/-- **fuse_uniform_partial.**  Guard: `guardAll` at input `i`. -/
theorem fuse_uniform_partial (fuel memMax : Nat) (xs : List Input) (outs : List Out) (T : Ty)
    (h : fuse fuel memMax xs = some outs) (hT : aggType fuel (xs.map (·.ty)) = some (some T))
    (i : Nat) (hi : i < xs.length) (hg : (guardAll (some T) xs)[i]? = some true)
    (ht : hasType xs[i].val xs[i].ty = true) :
    ∃ v', outs[i]? = some (.val T v') :=
  let ⟨v', h1, _⟩ := fuse_lossless_partial fuel memMax xs outs T h hT i hi hg ht
  ⟨v', h1⟩

/-! ### Guards on the input types only

  `fits a T` (Zed.Model.FuseFits) relates an input *type* to the fused *type*, place by place,
  without mentioning plans: same underlying type, null, record ⊆ record, element fits element,
  every member of an input union fits, and — wherever something has to go into a union of the
  fused type — a member of that union with the same underlying type (NoUnionMemberReshape); no
  map has to become a different map, no primitive a different primitive (NoMapReshape). -/

/-- **fits ⇒ good plan.**  If the input type fits the target, `shaperType` answers the target
    and `newStep` plans a step that satisfies `goodStep`. -/
theorem fits_gives_good_plan (a T : Ty) (h : fits a T = true) :
    ∃ s, newShaper a T = .ok (T, s) ∧ s.toType = T ∧ goodStep a s = true :=
  newShaper_of_fits h

/-- **fuse_lossless_inputs_partial** (and uniformity).  Guard on the input types only: every
    input type fits the fused type.  Then every output is a value of the fused type carrying
    exactly the non-null leaves of its input. -/
theorem fuse_lossless_inputs_partial (fuel memMax : Nat) (xs : List Input) (outs : List Out) (T : Ty)
    (h : fuse fuel memMax xs = some outs) (hT : aggType fuel (xs.map (·.ty)) = some (some T))
    (hfit : ∀ x ∈ xs, fits x.ty T = true) (hwt : WellTyped xs)
    (i : Nat) (hi : i < xs.length) :
    ∃ v', outs[i]? = some (.val T v') ∧ ∀ l, l ∈ leaves T v' ↔ l ∈ leaves xs[i].ty xs[i].val := by
  refine fuse_lossless_partial fuel memMax xs outs T h hT i hi ?_ (hwt _ (List.getElem_mem hi))
  have hall := guardsFrom_of_fits T xs [] (cacheOK_nil T) hfit
  rw [guardAll, (guardsFrom_spec T [] xs).2 i hi]
  exact congrArg some (hall _ (List.mem_of_getElem? ((guardsFrom_spec T [] xs).2 i hi)))

/-- **merge_admits_good_plans.**  For two clean (union-free, map-free, distinct field names)
    types, both fit their merge — so by `fits_gives_good_plan` the merged type admits a good
    shaping plan from either input.  (For three inputs this is false: `not_fuse_uniform`.) -/
theorem merge_admits_good_plans (n : Nat) (a b c : Ty) (ha : clean a = true) (hb : clean b = true)
    (h : merge n a b = some c) : fits a c = true ∧ fits b c = true :=
  merge_fits ha hb h

/-- **fuse_two_types_lossless.**  An end-to-end statement whose hypotheses are on the inputs
    only: any number of well-typed values of (at most) two clean types, in any order, at any
    memory limit: every output is a value of the type `fuse()` reports and carries exactly the
    non-null leaves of its input. -/
theorem fuse_two_types_lossless (fuel memMax : Nat) (a b : Ty) (xs : List Input) (outs : List Out) (T : Ty)
    (ha : clean a = true) (hb : clean b = true) (hab : ∀ x ∈ xs, x.ty = a ∨ x.ty = b) (hwt : WellTyped xs)
    (h : fuse fuel memMax xs = some outs) (hT : aggType fuel (xs.map (·.ty)) = some (some T))
    (i : Nat) (hi : i < xs.length) :
    ∃ v', outs[i]? = some (.val T v') ∧ ∀ l, l ∈ leaves T v' ↔ l ∈ leaves xs[i].ty xs[i].val := by
  refine fuse_lossless_inputs_partial fuel memMax xs outs T h hT ?_ hwt i hi
  have hsub : ∀ t ∈ firstSeen [] (xs.map (·.ty)), t = a ∨ t = b := by
    intro t ht
    obtain ⟨x, hx, rfl⟩ := List.mem_map.1 ((mem_firstSeen [] _ t).1 ht).1
    exact hab x hx
  have hlen : (firstSeen [] (xs.map (·.ty))).length ≤ 2 :=
    (firstSeen_nodup [] _).length_le_of_subset (l₂ := [a, b]) (fun t ht => by simpa using hsub t ht)
  have hclean : ∀ t ∈ firstSeen [] (xs.map (·.ty)), clean t = true := by
    intro t ht
    rcases hsub t ht with rfl | rfl <;> assumption
  intro x hx
  exact mixinAll_fits_of_le_two fuel _ hclean hlen T hT _
    ((mem_firstSeen [] _ _).2 ⟨List.mem_map_of_mem hx, by simp⟩)

/-- The value-level core: a good plan builds every well-typed value into the announced type
    with exactly the same non-null leaves. -/
theorem build_lossless (s : Step) (a : Ty) (v : Val) (hg : goodStep a s = true) (ht : hasType v a = true) :
    ∃ v', build s v = .ok s.toType v' ∧ ∀ l, l ∈ leaves s.toType v' ↔ l ∈ leaves a v :=
  build_good s a v hg ht

/-! ### Witnesses: the full statements are false of the current code -/

def tInt : Ty := .prim 9
def tStr : Ty := .prim 25

/-- `{m:|{"a":1}|}` and `{m:|{"b":"x"}|}` -/
def witMap : List Input :=
  [ { ty := .record (.cons [109] (.map tStr tInt) .nil),
      val := .recd (.cons (.map (.cons (.prim 25 [97]) (.cons (.prim 9 [2]) .nil))) .nil), nbytes := 5 },
    { ty := .record (.cons [109] (.map tStr tStr) .nil),
      val := .recd (.cons (.map (.cons (.prim 25 [98]) (.cons (.prim 25 [120]) .nil))) .nil), nbytes := 6 } ]

/-- `{a:1}`, `"s"`, `{b:2}` -/
def witRecUnion : List Input :=
  [ { ty := .record (.cons [97] tInt .nil), val := .recd (.cons (.prim 9 [2]) .nil), nbytes := 2 },
    { ty := tStr, val := .prim 25 [115], nbytes := 1 },
    { ty := .record (.cons [98] tInt .nil), val := .recd (.cons (.prim 9 [4]) .nil), nbytes := 2 } ]

/-- `{u:{a:1}(({a:int64},string))}`, `{u:{b:2}}` -/
def witCreateStep : List Input :=
  [ { ty := .record (.cons [117] (.union (.cons tStr (.cons (.record (.cons [97] tInt .nil)) .nil))) .nil),
      val := .recd (.cons (.union 1 (.recd (.cons (.prim 9 [2]) .nil))) .nil), nbytes := 6 },
    { ty := .record (.cons [117] (.record (.cons [98] tInt .nil)) .nil),
      val := .recd (.cons (.recd (.cons (.prim 9 [4]) .nil)) .nil), nbytes := 4 } ]

theorem witnesses_well_typed : WellTyped witMap ∧ WellTyped witRecUnion ∧ WellTyped witCreateStep := by
  refine ⟨?_, ?_, ?_⟩ <;> intro x hx <;> simp only [witMap, witRecUnion, witCreateStep, List.mem_cons, List.not_mem_nil, or_false] at hx <;>
    rcases hx with rfl | rfl | rfl <;> decide

/-- **not_fuse_lossless.**  Proved on `witMap`: two records whose map field has different key/value
    types; `fuse` emits two `error("cannot yet use maps in shaping functions")` values. -/
theorem not_fuse_lossless :
    ¬ ∀ (fuel memMax : Nat) (xs : List Input) (outs : List Out), WellTyped xs →
        fuse fuel memMax xs = some outs →
        ∀ i (hi : i < xs.length), ∃ T v', outs[i]? = some (.val T v') ∧
          ∀ l, l ∈ leaves T v' ↔ l ∈ leaves xs[i].ty xs[i].val := by
  intro h
  have hf : fuse 10 1000 witMap = some [.err .maps, .err .maps] := by decide
  obtain ⟨T, v', h1, _⟩ := h 10 1000 witMap _ witnesses_well_typed.1 hf 0 (by decide)
  simp at h1

/-- The same statement, proved on `witCreateStep`: a record that has to go into a union whose record
    member was merged (`mergeAllRecords`) fails with "createStep: incompatible types". -/
theorem not_fuse_lossless_createStep :
    ¬ ∀ (fuel memMax : Nat) (xs : List Input) (outs : List Out), WellTyped xs →
        fuse fuel memMax xs = some outs →
        ∀ i (hi : i < xs.length), ∃ T v', outs[i]? = some (.val T v') ∧
          ∀ l, l ∈ leaves T v' ↔ l ∈ leaves xs[i].ty xs[i].val := by
  intro h
  have hf : (fuse 10 1000 witCreateStep).map (·[0]?) = some (some (.err .createStep)) := by decide +kernel
  cases ho : fuse 10 1000 witCreateStep with
  | none => simp [ho] at hf
  | some outs =>
    obtain ⟨T, v', h1, _⟩ := h 10 1000 witCreateStep outs witnesses_well_typed.2.2 ho 0 (by decide)
    simp [ho, h1] at hf

/-- **not_fuse_uniform.**  Proved on `{a:1} "s" {b:2}`: the aggregate reports
    `(string,{a:int64,b:int64})` but the first and last outputs keep their input types. -/
theorem not_fuse_uniform :
    ¬ ∀ (fuel memMax : Nat) (xs : List Input) (outs : List Out) (T : Ty), WellTyped xs →
        fuse fuel memMax xs = some outs → aggType fuel (xs.map (·.ty)) = some (some T) →
        ∀ o ∈ outs, ∃ v, o = .val T v := by
  intro h
  have hf : fuse 10 1000 witRecUnion = some
      [ .val (.record (.cons [97] tInt .nil)) (.recd (.cons (.prim 9 [2]) .nil)),
        .val (.union (.cons tStr (.cons (.record (.cons [97] tInt (.cons [98] tInt .nil))) .nil))) (.union 0 (.prim 25 [115])),
        .val (.record (.cons [98] tInt .nil)) (.recd (.cons (.prim 9 [4]) .nil)) ] := by decide +kernel
  have ha : aggType 10 (witRecUnion.map (·.ty)) =
      some (some (.union (.cons tStr (.cons (.record (.cons [97] tInt (.cons [98] tInt .nil))) .nil)))) := by decide
  obtain ⟨v, hv⟩ := h 10 1000 witRecUnion _ _ witnesses_well_typed.2.1 hf ha _ (List.mem_cons_self)
  simp at hv

/-- `1`, `error("x")` (the error value as an opaque leaf) -/
def witErr : List Input :=
  [ { ty := tInt, val := .prim 9 [2], nbytes := 1 },
    { ty := .error tStr, val := .prim idError [120], nbytes := 1 } ]

/-- The same statement, proved on `witErr`: a top-level error value is returned by the shaper as it
    is (`val.IsError()`) and keeps its own type while `fuse()` reports the union. -/
theorem not_fuse_uniform_error_value :
    ¬ ∀ (fuel memMax : Nat) (xs : List Input) (outs : List Out) (T : Ty), WellTyped xs →
        fuse fuel memMax xs = some outs → aggType fuel (xs.map (·.ty)) = some (some T) →
        ∀ o ∈ outs, ∃ v, o = .val T v := by
  intro h
  have hw : WellTyped witErr := by
    intro x hx
    simp only [witErr, List.mem_cons, List.not_mem_nil, or_false] at hx
    rcases hx with rfl | rfl <;> decide
  have hf : fuse 10 1000 witErr = some
      [ .val (.union (.cons tInt (.cons (.error tStr) .nil))) (.union 0 (.prim 9 [2])),
        .val (.error tStr) (.prim idError [120]) ] := by decide
  have ha : aggType 10 (witErr.map (·.ty)) = some (some (.union (.cons tInt (.cons (.error tStr) .nil)))) := by decide
  obtain ⟨v, hv⟩ := h 10 1000 witErr _ _ hw hf ha _ (List.mem_cons_of_mem _ List.mem_cons_self)
  simp at hv

mutual
/-- no union in the type has two identical members -/
def noDupUnion : Ty → Bool
  | .prim _ => true
  | .record fs => noDupUnionF fs
  | .array t => noDupUnion t
  | .set t => noDupUnion t
  | .map k v => noDupUnion k && noDupUnion v
  | .union ts => noDupUnionU ts && ts.toList.Nodup
  | .named _ t => noDupUnion t
  | .enum _ => true
  | .error t => noDupUnion t
def noDupUnionF : Fields → Bool
  | .nil => true
  | .cons _ t r => noDupUnion t && noDupUnionF r
def noDupUnionU : Tys → Bool
  | .nil => true
  | .cons t r => noDupUnion t && noDupUnionU r
end

/-- **not_merge_union_wellformed.**  `merge` of an array and a set of the same element type
    (likewise of two maps with the same key type) builds a union of two identical types. -/
theorem not_merge_union_wellformed :
    ¬ ∀ (n : Nat) (a b c : Ty), noDupUnion a = true → noDupUnion b = true → merge n a b = some c →
        noDupUnion c = true := by
  intro h
  have := h 5 (.array tInt) (.set tInt) (.array (.union (.cons tInt (.cons tInt .nil)))) (by decide) (by decide) (by decide)
  revert this; decide

/-- `{a:1,b:2}` and `{b:"s",a:3,c:4}` -/
def exOK : List Input :=
  [ { ty := .record (.cons [97] tInt (.cons [98] tInt .nil)),
      val := .recd (.cons (.prim 9 [2]) (.cons (.prim 9 [4]) .nil)), nbytes := 4 },
    { ty := .record (.cons [98] tStr (.cons [97] tInt (.cons [99] tInt .nil))),
      val := .recd (.cons (.prim 25 [115]) (.cons (.prim 9 [6]) (.cons (.prim 9 [8]) .nil))), nbytes := 6 } ]

def exT : Ty := .record (.cons [97] tInt (.cons [98] (.union (.cons tInt (.cons tStr .nil))) (.cons [99] tInt .nil)))

/-- The hypotheses of `fuse_lossless_partial` / `fuse_uniform_partial` are satisfiable on an input
    that needs filling, reordering and a cast into a union; the memory limit 5 makes the Fuser
    spill at the second value. -/
example : fuse 10 5 exOK = some
      [ .val exT (.recd (.cons (.prim 9 [2]) (.cons (.union 0 (.prim 9 [4])) (.cons .null .nil)))),
        .val exT (.recd (.cons (.prim 9 [6]) (.cons (.union 1 (.prim 25 [115])) (.cons (.prim 9 [8]) .nil)))) ] ∧
    aggType 10 (exOK.map (·.ty)) = some (some exT) ∧
    guardAll (some exT) exOK = [true, true] ∧
    fuseSpilled 10 5 exOK = some true ∧
    (∀ x ∈ exOK, hasType x.val x.ty = true) := by
  decide +kernel

/-- The input-only guards are satisfiable on the same example, and fail on the witnesses. -/
example : (exOK.all fun x => clean x.ty && fits x.ty exT) = true ∧
    (witRecUnion.all fun x => clean x.ty) = true ∧
    (witRecUnion.all fun x => fits x.ty
      (.union (.cons tStr (.cons (.record (.cons [97] tInt (.cons [98] tInt .nil))) .nil)))) = false ∧
    (witMap.all fun x => clean x.ty) = false := by decide

/-- `merge` answers on nested inputs with little fuel. -/
example : merge 3 (.record (.cons [97] tInt .nil)) (.record (.cons [97] tStr (.cons [98] tInt .nil))) =
    some (.record (.cons [97] (.union (.cons tInt (.cons tStr .nil))) (.cons [98] tInt .nil))) := by decide

/-- The guard fails on the witnesses (so the partial theorems do not contradict the negations). -/
example : guardAll (some (.union (.cons tStr (.cons (.record (.cons [97] tInt (.cons [98] tInt .nil))) .nil)))) witRecUnion
    = [false, true, false] := by decide

end Zed.Props.C20

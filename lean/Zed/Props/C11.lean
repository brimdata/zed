/-
  C11 — untrusted bytes never crash or hang the process; with validation on, values handed out
  are structurally consistent.
  Property theorems only.  The binary decoders are the TOTAL functions of Zed/Model/Zng*.lean
  (`List UInt8 → …`, every bound check of the Go code, panic sites as values: the type-value decoder
  has them, the ZNG reader had three until repo commit 0b09f99cc); the theorems say
  that every loop consumes input (so termination is a theorem, not fuel), that the allocation
  requests are bounded by the configured read limit, that the reader reaches no panic site, and what
  `Validate` guarantees (with negations on concrete witnesses that the harness replays on the real code).
  The text readers and the query compiler have no model: fuzzing only (evidence: search).
-/
import Zed.Proofs.ZngReader
import Zed.Proofs.ZngValidate
import Zed.Proofs.ZngTypeValue
import Zed.Model.ZngVng
namespace Zed.Props.C11
open Zed.Zng Zed.Generated.C01

/-- varint: a successful read consumes 1 … 10 bytes and yields a 64-bit value -/
theorem progress_uvarint (bs : Bytes) (v : Nat) (r : Bytes) (h : readUvarint bs = .ok (v, r)) :
    r.length < bs.length ∧ (∃ p, bs = p ++ r ∧ p.length ≤ 10) ∧ v < two64 :=
  let ⟨p, hp, _, hl, hv⟩ := readUvarintAux_ok 10 true bs v r h
  ⟨readUvarint_progress bs v r h, ⟨p, hp, hl⟩, hv⟩

/-- zcode iterator (`Iter.Next`, used by Walk/Validate) -/
theorem progress_zcode (bs : Bytes) (v : Option Bytes) (r : Bytes) (h : znext bs = .ok (v, r)) :
    r.length < bs.length := znext_progress bs v r h

/-- typedef decoder: one typedef consumes its code byte and does not grow the input -/
theorem progress_typedef {ctx ctx' : Ctx} {code : Nat} {bs r : Bytes}
    (h : decTypedef ctx code bs = .ok (ctx', r)) : r.length ≤ bs.length := decTypedef_progress h

/-- a count taken from the input cannot make the counted loops spin -/
theorem progress_typedef_loops {ctx : Ctx} {n : Nat} {bs r : Bytes} :
    (∀ fs, rdFields ctx n bs = .ok (fs, r) → r.length + 2 * n ≤ bs.length) ∧
    (∀ ts, rdTypes ctx n bs = .ok (ts, r) → r.length + n ≤ bs.length) ∧
    (∀ ss, rdSyms n bs = .ok (ss, r) → r.length + n ≤ bs.length) :=
  ⟨fun _ h => (rdFields_progress h).1, fun _ h => (rdTypes_progress h).1, fun _ h => (rdSyms_progress h).1⟩

/-- value decoder (`decodeVal`, the loop of `scanBatch`) -/
theorem progress_value {o : ROpts} {ctx : Ctx} {bs r : Bytes} {v : RVal}
    (h : decodeVal o ctx bs = .ok v r) : r.length < bs.length := decodeVal_progress h

/-- frame parser (`parser.read`): a frame that is not the end of the stream leaves strictly less
    input (its code byte is consumed before `step`) -/
theorem progress_frame {o : ROpts} {decomp : Bytes → Nat → Option Bytes} {ctx ctx' : Ctx} {code : UInt8}
    {bs rest : Bytes} {vs : List RVal} {al : List Nat}
    (h : step o decomp ctx code bs = .cont ctx' vs al rest) : rest.length < (code :: bs).length :=
  Nat.lt_succ_of_le (step_progress h)

/-- **alloc_bounded.**  For every input, every LZ4 behaviour and every starting context, each
    length the ZNG parser hands to the peeker or to `newBuffer` (frame buffers for compressed and
    uncompressed payloads) is at most `ReaderOpts.Max`; `newBuffer` itself allocates up to a quarter
    more than it is asked for. -/
theorem alloc_bounded (o : ROpts) (decomp : Bytes → Nat → Option Bytes) (ctx : Ctx) (bs : Bytes) :
    ∀ a ∈ (readStream o decomp ctx bs).allocs, a ≤ o.maxSize :=
  (readStream_safe o decomp ctx bs).2

/-- **reader_never_panics.**  For every input, every option setting, every LZ4 behaviour and every
    starting context the modelled ZNG reader ends with values/EOF or an error.  The Go reader tests
    the sign of the three `int`s it takes from 64-bit varints and uses as index or length (a value's
    type id, a compressed frame's declared size, a typedef's string length); the model returns an
    error at each of them, and then no function of the reader model yields a panic at all: that is
    all this theorem records.  Until repo commit 0b09f99cc the three were used without a sign check
    and the statement was false of the code: the negations `not_reader_panic_free_*` were proved
    here on the three streams below, and replayed on the real code they killed the process from the
    scanner's goroutines.  That the Go reader behaves as the model does is what the harness tests. -/
theorem reader_never_panics (o : ROpts) (decomp : Bytes → Nat → Option Bytes) (ctx : Ctx) (bs : Bytes)
    (s : String) : (readStream o decomp ctx bs).out ≠ .panic s :=
  (readStream_safe o decomp ctx bs).1 s

/-- the streams of those negations: the type id, the declared size, the string length is 2^63
    (the harness replays them on the real code on every run) -/
def witnessNegId : Bytes := [0x1b, 0x00, 0x80, 0x80, 0x80, 0x80, 0x80, 0x80, 0x80, 0x80, 0x80, 0x01, 0x01]
def witnessNegSize : Bytes := [0x5b, 0x00, 0x00, 0x80, 0x80, 0x80, 0x80, 0x80, 0x80, 0x80, 0x80, 0x80, 0x01]
def witnessNegStr : Bytes := [0x0b, 0x00, 0x07, 0x80, 0x80, 0x80, 0x80, 0x80, 0x80, 0x80, 0x80, 0x80, 0x01]

/-- since that commit the first of them, a value whose type id is 2^63, is an ordinary error -/
theorem former_witness_type_id (decomp : Bytes → Nat → Option Bytes) :
    (readAll ⟨1073741824, false⟩ decomp witnessNegId).out = .err := by
  have hd : decodeVal ⟨1073741824, false⟩ [] [0x80, 0x80, 0x80, 0x80, 0x80, 0x80, 0x80, 0x80, 0x80, 0x01, 0x01]
      = .err := by decide
  have hs : step ⟨1073741824, false⟩ decomp [] 0x1b [0x00, 0x80, 0x80, 0x80, 0x80, 0x80, 0x80, 0x80, 0x80, 0x80, 0x01, 0x01]
      = .done .err [11, 11] := by
    show (match decodeVals ⟨1073741824, false⟩ [] [0x80, 0x80, 0x80, 0x80, 0x80, 0x80, 0x80, 0x80, 0x80, 0x01, 0x01] with
      | .ok vs => Step.cont [] vs [11, 11] []
      | .error e => Step.done e [11, 11]) = _
    rw [decodeVals_of_err rfl hd]
  exact congrArg RRes.out (readStream_done hs)

/-- **typevalue_decode_total.**  The model of `DecodeTypeValue` is a fuel-indexed function; with
    fuel `length + 1` it never runs out: every recursive call and every iteration of the record,
    union and enum loops first consumes a byte. -/
theorem typevalue_decode_total (tv : Bytes) : TV.lookupByValue tv ≠ .fuelOut :=
  ((TV.spec_all (tv.length + 1)).1 [] tv (Nat.lt_succ_self _)).no_fuelOut

/-- FULL statement "decoding a type value ends with a type or an error" is FALSE of the current
    code at three places (witnesses replayed on the real code by the harness on every run):
    a union member that fails to decode is appended as nil and `LookupTypeUnion` panics on it … -/
theorem not_typevalue_panic_free_union :
    (∃ p, TV.lookupByValue [UInt8.ofNat typeValueUnion, 1] = .panic p) ∧
    (∃ p, TV.lookupByValue [UInt8.ofNat typeValueUnion, 2, 9] = .panic p) :=
  ⟨⟨_, rfl⟩, ⟨_, rfl⟩⟩

set_option maxRecDepth 8000 in
/-- … a name length ≥ 2^63 is a negative `int` that passes `namelen > len(tv)` and `tv[:namelen]`
    panics … -/
theorem not_typevalue_panic_free_name :
    ∃ p, TV.lookupByValue [UInt8.ofNat typeValueNameDef, 0x80, 0x80, 0x80, 0x80, 0x80, 0x80, 0x80, 0x80, 0x80, 0x01, 9] = .panic p :=
  ⟨_, rfl⟩

set_option maxRecDepth 8000 in
/-- … and a field/member count ≥ 2^63 passes `n > MaxRecordFields` and `make(…, 0, n)` panics. -/
theorem not_typevalue_panic_free_count :
    ∃ p, TV.lookupByValue [UInt8.ofNat typeValueRecord, 0x80, 0x80, 0x80, 0x80, 0x80, 0x80, 0x80, 0x80, 0x80, 0x01] = .panic p :=
  ⟨_, rfl⟩

/-- non-vacuity: a well-formed type value decodes -/
example : ∃ t r d, TV.lookupByValue [UInt8.ofNat typeValueRecord, 1, 1, 97, 9] = .ok t r d := ⟨_, _, _, rfl⟩

/-- T1: `Header.Deserialize` tests each field against its own limit (it tested `MetaSize` twice
    until repo commit 0b09f99cc, hence the four tests pinned here), and the two vector readers
    allocate `MemLength` bytes with no guard in front — what the model below is written against. -/
theorem vng_shape :
    Zed.Generated.C11.vngHeaderChecks = ["len(bytes) != HeaderSize || bytes[0] != 'V' || bytes[1] != 'N' || bytes[2] != 'G' || bytes[3] != 0",
      "h.Version != Version", "h.MetaSize > MaxMetaSize", "h.DataSize > MaxDataSize"] ∧
    Zed.Generated.C11.vngHeaderFields = ["h.Version = binary.LittleEndian.Uint32(bytes[4:])",
      "h.MetaSize = binary.LittleEndian.Uint64(bytes[8:])", "h.DataSize = binary.LittleEndian.Uint64(bytes[16:])"] ∧
    Zed.Generated.C11.vngPrimitiveBuilderMakes = ["make([]byte, p.loc.MemLength)"] ∧
    Zed.Generated.C11.vngPrimitiveBuilderLengthGuards = [] ∧
    Zed.Generated.C11.vngDictBuilderMakes = ["make([]byte, d.loc.MemLength)"] ∧
    Zed.Generated.C11.vngDictBuilderLengthGuards = [] := ⟨rfl, rfl, rfl, rfl, rfl, rfl⟩

/-- **vng_header_bounded.**  Every header `Deserialize` accepts has the supported version and
    section sizes within the declared limits. -/
theorem vng_header_bounded (bs : Bytes) (h : Vng.Header) (hd : Vng.deserialize bs = some h) :
    h.version = Zed.Generated.C11.vngVersion ∧ h.metaSize ≤ Zed.Generated.C11.vngMaxMetaSize ∧
    h.dataSize ≤ Zed.Generated.C11.vngMaxDataSize := by
  simp only [Vng.deserialize, Option.ite_none_left_eq_some, Option.some.injEq] at hd
  obtain ⟨-, -, hv, hm, hs, rfl⟩ := hd
  exact ⟨Decidable.not_not.mp hv, Nat.le_of_not_gt hm, Nat.le_of_not_gt hs⟩

/-- non-vacuity: a header is accepted -/
example : (Vng.deserialize [86, 78, 71, 0, 4, 0, 0, 0, 10, 0, 0, 0, 0, 0, 0, 0, 6, 0, 0, 0, 0, 0, 0, 0]).isSome = true := by decide

/-- **not_vng_alloc_bounded.**  FULL statement "every buffer the VNG reader requests is bounded by a
    function of the declared limits" is FALSE of the current code: the segment's `MemLength`
    comes from the metadata and is allocated unchecked, so for every bound there is a segment
    descriptor (any 64-bit value is accepted) whose read requests more. -/
theorem not_vng_alloc_bounded (bound : Nat) :
    ∃ s : Vng.Segment, ∃ a ∈ Vng.readAllocs s, a > bound :=
  ⟨⟨0, 0, bound + 1, false⟩, bound + 1, by simp [Vng.readAllocs], Nat.lt_succ_self _⟩

/-- **vng_alloc_bounded_partial.**  Guard: the descriptor's lengths do not exceed the data section
    the (checked) header declares; then so do the requests. -/
theorem vng_alloc_bounded_partial (s : Vng.Segment) (dataSize : Nat)
    (hg : s.memLength ≤ dataSize ∧ s.length ≤ dataSize) : ∀ a ∈ Vng.readAllocs s, a ≤ dataSize := by
  intro a ha
  rcases List.mem_cons.mp ha with rfl | ha
  · exact hg.1
  · split at ha
    · exact List.mem_singleton.mp ha ▸ hg.2
    · cases ha

/-- **validate_sound_partial.**  FULL statement (false of the current code, see the two negations
    below): `validate t b = true → WellFormed t b` for every type.  Proved: for every type without
    enum components whose sets are sets of leaf types — primitives, possibly named or wrapped in
    error — (guard `ZTy.plain`, decidable; `Validate` checks a set's element order but never walks
    the elements, so sets of containers are exactly where the code is wrong), every body the model of
    `Value.Validate` accepts is structurally consistent with the type: containers split into
    items, one well-formed item per record field in order, well-formed array elements, alternating
    well-formed map keys and values, union bodies of exactly a tag in range and a well-formed
    member value. -/
theorem validate_sound_partial (t : ZTy) (b : Option Bytes) (hg : t.plain = true)
    (h : validate t b = true) : WellFormed t b :=
  (walk_iff t b hg).mp (validate_iff_walk.mp h)

/-- **wellformed_walk_total.**  Conversely, on a structurally consistent value of such a type
    `Walk` reaches none of the panic sites of `zcode.Iter` (and reports no error): for these types
    `Validate` accepts exactly the well-formed values. -/
theorem wellformed_walk_total (t : ZTy) (b : Option Bytes) (hg : t.plain = true) (h : WellFormed t b) :
    walk t b = .ok () := (walk_iff t b hg).mpr h

theorem validate_iff_wellformed (t : ZTy) (b : Option Bytes) (hg : t.plain = true) :
    validate t b = true ↔ WellFormed t b :=
  validate_iff_walk.trans (walk_iff t b hg)

/-- **validate_enum_sound_partial.**  For an enum the code is right exactly when the selector is
    below 2^63 (guard on the value: `checkEnum` compares a signed int): then an accepted selector is
    in range. -/
theorem validate_enum_sound_partial (syms : List Bytes) (body : Bytes)
    (hg : decodeCountedUvarint body < two63) (h : validate (.enum syms) (some body) = true) :
    WellFormed (.enum syms) (some body) := by
  apply WellFormed.enum
  simp only [validate, walk] at h
  split at h
  · rename_i hw
    split at hw
    · cases hw
    · rename_i hlt
      have hu : decodeCountedUvarint body % two64 = decodeCountedUvarint body := by
        unfold two63 two64 at *; omega
      simp only [asInt, hu, hg, if_true, Int.ofNat_eq_natCast] at hlt
      omega
  · cases h

/-- non-vacuity of the guard and of the hypothesis -/
example : (ZTy.record (.cons [97] (.array (.prim 9)) (.cons [98] (.union (.cons (.prim 9) (.cons (.set (.named [112] (.prim 25))) .nil))) .nil))).plain = true := by
  decide

/-- The full statement is false: `Validate` never looks inside the elements of a set. -/
theorem not_validate_sound_set :
    let t : ZTy := .set (.record (.cons [97] (.prim 9) .nil))
    validate t (some [2, 5]) = true ∧ ¬ WellFormed t (some [2, 5]) := by
  have hn : znext [2, 5] = .ok (some [5], []) := by rfl
  have hn5 : znext [5] = .error .outOfRange := by rfl
  have hit : ziterAll [2, 5] = .ok [some [5]] := by rw [ziterAll_of_znext hn, ziterAll_nil]
  have hcs : checkSetFrom none [2, 5] = .ok () := by
    rw [checkSetFrom_none_of_znext hn, checkSetFrom_nil]
  refine ⟨?_, ?_⟩
  · simp only [validate, walk, hcs]
  · intro hw
    cases hw with
    | set hi hall _ =>
      rw [hit] at hi; cases hi
      have := hall (some [5]) (by simp)
      cases this with
      | record hf =>
        cases hf with
        | cons hz _ _ => rw [hn5] at hz; cases hz

/-- … and an enum selector ≥ 2^63 is accepted because the range test is on a signed int. -/
theorem not_validate_sound_enum :
    let t : ZTy := .enum [[97], [98]]
    let body : Bytes := [0, 0, 0, 0, 0, 0, 0, 128]
    validate t (some body) = true ∧ ¬ WellFormed t (some body) := by
  refine ⟨by decide, ?_⟩
  intro hw
  cases hw with
  | enum _ _ h => revert h; decide

end Zed.Props.C11

/-
  C17 — a crash at any storage operation leaves the lake consistent, atomic and usable.
  Property theorems only.  Model: the labelled transition system of DESIGN.md §4 L5
  (Zed/Model/{StoreEngine,JournalQueue,BranchCommit}.lean), atomic puts.

  A crash is a client that is never stepped again; recovery is any set of fresh client ids
  (empty caches).  Because the theorems below hold in *every* reachable state of *every* label
  sequence, they hold after any number of crashes at any storage operations, with any recovery
  and follow-up activity — no bound on histories, clients or crash points.
-/
import Zed.Proofs.StoreFillRef
namespace Zed.Props.C17
open Zed.Store

/-- **crash_atomic** — whatever clients stopped wherever, journal j is in one of two shapes:
    entries are exactly 1..e, every one a complete entry, and HEAD is e (nothing in flight) or
    e-1; the second case arises exactly while the creator of entry e has not written HEAD.  So a
    cold reader (who trusts HEAD) sees the interrupted commit entirely (HEAD = e) or not at all
    (HEAD = e-1): the single commit point is the creation of entry e. -/
theorem crash_atomic (j : Nat) (s : Sys) (h : Reach j s) :
    ∃ e, (∀ n, (s.store (.ent j n)).isSome ↔ (1 ≤ n ∧ n ≤ e)) ∧
      (∀ n v, s.store (.ent j n) = some v → ∃ acts, v = .entry acts) ∧
      (headOf s.store j = e ∨
        (headOf s.store j + 1 = e ∧ ∃ c, (s.cl c).pcOn j = some (.putHead e))) := by
  obtain ⟨e, he⟩ := h.inv1
  refine ⟨e, he.range, he.typed, ?_⟩
  by_cases hh : headOf s.store j = e
  · exact Or.inl hh
  · have h1 := he.he; have h2 := he.eh
    have hb : headOf s.store j + 1 = e := by omega
    exact Or.inr ⟨hb, he.pend hb⟩

/-- **crash_durable** — everything visible (in particular everything acknowledged: a commit is
    acknowledged only after its HEAD write) stays visible and unchanged: for every position n at
    or below HEAD, the entry and the table replayed up to n are the same in every later state,
    and n stays at or below HEAD. -/
theorem crash_durable (j : Nat) (s : Sys) (h : Reach j s) (ls : List Label) (hn : NoReset j ls)
    (n : Nat) (hvis : n ≤ headOf s.store j) :
    n ≤ headOf (s.run ls).store j ∧
      (∀ m, 1 ≤ m → m ≤ n → (s.run ls).store (.ent j m) = s.store (.ent j m)) ∧
      tableAt (s.run ls).store j n = tableAt s.store j n := by
  obtain ⟨e, he⟩ := h.inv1
  obtain ⟨_, _, _, x⟩ := inv1_run ls he hn
  have hne : n ≤ e := Nat.le_trans hvis he.he
  exact ⟨Nat.le_trans hvis x.head, fun m h1 h2 => x.ents m h1 (Nat.le_trans h2 hne), x.tableAt n hne⟩

/-- **crash_wedged** — the general form of the defect: once a client has stopped between its
    entry put and its HEAD put (HEAD = e-1, entry e exists), then as long as that client is not
    resumed, HEAD never moves again and no entry is ever created again, whatever any number of
    other (recovered, fresh) clients do: every later commit on this journal fails. -/
theorem crash_wedged (j : Nat) (s : Sys) (h : Reach j s) (e c0 : Nat)
    (hbehind : headOf s.store j + 1 = e) (hwho : (s.cl c0).pcOn j = some (.putHead e))
    (ls : List Label) (hn : NoReset j ls) (hstop : ∀ l ∈ ls, l ≠ .step c0) :
    headOf (s.run ls).store j = headOf s.store j ∧
      (∀ n, ((s.run ls).store (.ent j n)).isSome ↔ (1 ≤ n ∧ n ≤ e)) := by
  obtain ⟨e', he'⟩ := h.inv1
  have hee : e' = e := (he'.ph c0 e hwho).1.symm
  subst hee
  obtain ⟨hw, hH⟩ := wedged_run ls ⟨he', hbehind, hwho⟩ hn hstop
  exact ⟨hH, hw.inv.range⟩

/-- **crash_durable_commits_partial** (guard as C12 `ack_exactly_once_partial`: pool j not deleted, its
    branches not removed / renamed during the run) — every acknowledged branch commit survives:
    after any crashes, recoveries and further activity it is still exactly once on the parent chain
    from its branch's visible tip. -/
theorem crash_durable_commits_partial (j : Nat) (hj : j ≠ 0) (s : Sys) (h : ReachB j s) (x : Ack)
    (hx : x ∈ s.acks) (hxj : x.pool = j) (ls : List Label) (hn : NoReset j ls) (hd : NoDrop j ls) :
    ∃ t tip, visibleTable (s.run ls).store j = some t ∧ Table.get t x.branch = some tip ∧
      (chain (s.run ls).store j tip).count x.id = 1 :=
  (h.run ls hn hd).ack_chain hj x (run_acks_mono ls s x hx) hxj

/-- **crash_atomic_commit** — a branch commit interrupted anywhere is all or nothing: either its
    commit id occurs in no journal entry (nothing of it is visible; its object, if written, is
    unreachable garbage), or its journal entry exists and then its commit object exists, complete,
    with the tip it was checked against as parent. -/
theorem crash_atomic_commit (j : Nat) (hj : j ≠ 0) (s : Sys) (h : ReachB j s) (c : Nat) (p : Proc) (id : Nat)
    (hp : (s.cl c).proc = some p) (hid : p.ownedId j = some id) :
    (¬ Ref s.store j id) ∨
    (∃ b tip att n, p = .bc b (.update tip id att (.putHead n)) ∧
      s.store (.cobj j id) = some (.commit tip b.adds b.dels) ∧
      s.store (.ent j n) = some (.entry [.update b.branch id])) := by
  obtain ⟨e, h1, h2, h3⟩ := h.inv hj
  have hbc := h3.bc c p hp
  cases p with
  | bc b ph =>
    cases ph with
    | lookup pc => simp [Proc.ownedId] at hid
    | putObj tip id' =>
      simp only [Proc.ownedId] at hid; split at hid
      · rename_i hb; cases hid; exact Or.inl (hbc hb).2.2.2.2
      · cases hid
    | cleanup id' err =>
      simp only [Proc.ownedId] at hid; split at hid
      · rename_i hb; cases hid; exact Or.inl (hbc hb).2.2
      · cases hid
    | update tip id' att pc =>
      simp only [Proc.ownedId] at hid; split at hid
      · rename_i hb; cases hid
        obtain ⟨_, _, _, a4, a5⟩ := hbc hb
        cases hpc : pc.isPutHead with
        | false => exact Or.inl (a5 hpc)
        | true =>
          cases pc <;> simp [JPc.isPutHead] at hpc
          rename_i n
          right
          obtain ⟨hon, hk⟩ := Client.machine_update hp
          rw [hb] at hon hk
          obtain ⟨op, a, hk', hent, -⟩ := h2.pcs c b.slot _ _ hon hk
          cases hk'
          exact ⟨b, tip, att, n, rfl, a4, hent⟩
      · cases hid
  | _ => simp [Proc.ownedId] at hid

/-! ### Crashes under the create-then-fill put discipline (local file engine) -/

/-- **fill_crash_atomic** — with create-then-fill puts a crash can also leave an *empty* entry
    file, but only as entry HEAD+1 (its creator stopped between the exclusive create and the
    fill); every entry at or below HEAD is a complete file and the journal replays up to HEAD: a
    cold reader still sees all or nothing of the interrupted commit. -/
theorem fill_crash_atomic (j : Nat) (f : FSys) (h : FReach j f) :
    ∃ e, (∀ n, (f.a.store (.ent j n)).isSome ↔ (1 ≤ n ∧ n ≤ e)) ∧
      (∀ n, f.half (.ent j n) = true → n = e ∧ headOf f.a.store j + 1 = e) ∧
      (∀ n, n ≤ headOf f.a.store j → f.half (.ent j n) = false) ∧
      ∃ t, visibleTable f.a.store j = some t := by
  obtain ⟨hr, hi⟩ := h.inv
  obtain ⟨e, h1, h2⟩ := hr.inv12
  exact ⟨e, h1.range, fill_half_entry_is_end h1 hi, fill_complete_below_head h1 hi, h2.wf.tableAt_some _ h1.he⟩

/-- The witness for `not_fill_crash_readable`: client 0 commits on the pools journal and is stopped
    after truncating HEAD (4 storage operations: Get HEAD, exclusive create of entry 1, its fill,
    truncate HEAD); the fresh client 1 then tries to load the journal, 30 storage operations. -/
def fillHeadLabels : List FLabel :=
  [.start 0 (.commit 0 0 (.insert 1 7)), .step 0, .step 0, .step 0, .step 0, .start 1 (.load 0 0)] ++
    List.replicate 30 (.step 1)

/-- **not_fill_crash_readable** — `crash_readable` is FALSE under create-then-fill puts (harness
    key C17:fill:head-empty, replayed on the real code): HEAD is rewritten in place, so a crash
    between its truncation and its fill leaves an empty HEAD; the recovered reader never gets past
    `Get HEAD` (`readID` retries, then gives up: the journal cannot be opened), although entry 1 is
    complete. -/
theorem not_fill_crash_readable :
    let f := FSys.init.run fillHeadLabels
    f.reads (.head 0) = some none ∧ f.mid 0 = some (.head 0) ∧
      ((f.a.cl 1).proc = some (.jp 0 0 .load .rdHead)) ∧ (f.a.cl 1).res = none ∧
      (f.a.store (.ent 0 1)).isSome ∧ f.half (.ent 0 1) = false := by
  decide

/-- **crash_readable** — after any crashes the journal replays without error up to HEAD: a cold
    reader gets a table, namely the one before or after the interrupted commit. -/
theorem crash_readable (j : Nat) (s : Sys) (h : Reach j s) : ∃ t, visibleTable s.store j = some t := by
  obtain ⟨e, h1, h2⟩ := h.inv12
  exact h2.wf.tableAt_some _ h1.he

/-- **crash_live_partial** — a client that stands at its put-if-absent of entry pos+1, that entry
    not existing (in a reachable state: pos is HEAD and the journal end, i.e. no crash inside the
    [entry put, HEAD put] window), succeeds when run alone: two storage operations later the entry
    exists, HEAD is pos+1 and the procedure has ended.  The load and the constraint check before
    it are not part of the statement.  (`crash_live` for every crash point is false: `not_crash_live`.) -/
theorem crash_live_partial (j : Nat) (s : Sys) (h : Reach j s) (c slot pos : Nat) (op : JOp) (a : Nat)
    (hon : (s.cl c).onJ j = some (slot, .putx pos)) (hk : (s.cl c).kindOn j = some (.commit op a))
    (hguard : s.store (.ent j (pos + 1)) = none) :
    let s2 := ((s.step c).1.step c).1
    headOf s2.store j = pos + 1 ∧ s2.store (.ent j (pos + 1)) = some (.entry op.acts) ∧
      (s2.cl c).pcOn j = none :=
  -- holds in any state
  have _ := h
  commit_at_end_succeeds c slot pos op a hon hk hguard

/-- Non-vacuity of `crash_live_partial`: on a fresh lake client 0 reaches `putx 0` after one
    storage operation and the guard holds. -/
example : (((Sys.init.run [.start 0 (.commit 0 0 (.insert 1 7)), .step 0]).cl 0).onJ 0 = some (0, .putx 0)) ∧
    (Sys.init.run [.start 0 (.commit 0 0 (.insert 1 7)), .step 0]).store (.ent 0 1) = none := by decide

/-! ### `crash_live` is false of the current code (DESIGN §11 item 7; replayed on the real code
    by the harness, key C17:live:head-behind-journal-end)

    crash_live (full statement): for every reachable state, every journal j, a fresh client that
    runs a commit whose constraint holds, alone, is acknowledged.                              -/

/-- The witness trace on the pools journal of a fresh lake: client 0 inserts key 1 and is stopped
    after its entry put (2 storage operations); then the fresh client 1 tries to insert key 2 and
    runs alone until its procedure ends (10 attempts × 2 storage operations). -/
def wedgeLabels : List Label :=
  [.start 0 (.commit 0 0 (.insert 1 7)), .step 0, .step 0, .start 1 (.commit 0 0 (.insert 2 8))] ++
    List.replicate 20 (.step 1)

/-- **not_crash_live** — after the crash the journal shows none of client 0's commit (HEAD = 0,
    atomic), client 1's constraint holds (key 2 is absent), and yet client 1's commit fails with
    `journal.ErrRetriesExceeded` and leaves nothing behind. -/
theorem not_crash_live :
    let s := Sys.init.run wedgeLabels
    headOf s.store 0 = 0 ∧ visibleTable s.store 0 = some [] ∧
      (s.cl 1).res = some .retries ∧ (s.cl 1).proc = none ∧ s.store (.ent 0 2) = none := by
  decide

/-- The witness is a state of the system (non-vacuity of `crash_wedged`'s hypotheses). -/
example : Reach 0 (Sys.init.run (wedgeLabels.take 3)) ∧
    headOf (Sys.init.run (wedgeLabels.take 3)).store 0 + 1 = 1 ∧
    ((Sys.init.run (wedgeLabels.take 3)).cl 0).pcOn 0 = some (.putHead 1) :=
  ⟨⟨Sys.init, _, init_fresh, noReset_zero _, rfl⟩, by decide, by decide⟩

end Zed.Props.C17

import Zed.Model.ZsonFormat
import Zed.Model.ZsonAnalyze
import Zed.Model.ZsonJson
import Zed.Proofs.ZsonQuote
import Zed.Proofs.ZsonPlainTop
import Zed.Proofs.ZsonJson
import Zed.Proofs.ZsonNamedTop
import Zed.Proofs.ZsonStream
import Zed.Proofs.ZsonNested
/-!
  C02 — ZSON text round trip is the identity; JSON is a subset.

  The model is split at the abstract syntax of `compiler/ast/zed`:
  `fmtTop` (Zed.Model.ZsonFormat) is the real formatter followed by the real lexer+parser,
  `analyzeTop` (Zed.Model.ZsonAnalyze) is the real analyzer followed by `Build`.  Both are
  tied to /repo on every run (T1: `Zed.Generated.C02`; T2: harness/c02 compares the abstract
  syntax and the analysed values of the real code with the model's, case by case).

  The model follows the code as it is, defects included; where the full statement is false
  of the current code its negation is proved on a concrete witness (`not_…`), the witness is
  replayed on the real code by the harness, and the statement is proved under an explicit
  decidable guard (`…_partial`).
-/
namespace Zed.Props.C02
open Zed.Zson Zed.Generated

/-! ## T1 — the regenerated tables are the ones the model implements

  `implied`, `selfDescribing`, `castOk`, `decorateM`, `needsDecoration`, `fmtValue`'s union
  case and `fmtTop` are hand-written mirrors of code whose *shape* is regenerated as text;
  a change of that text breaks these obligations (the primitive sets, name tables, id
  bounds and escape tables are used by the model directly). -/

theorem implied_rules_as_modelled :
    C02.impliedComplex =
      [("record", "!slices.ContainsFunc(typ.Fields, func(f zed.Field) bool { return !Implied(f.Type) })"),
       ("array", "Implied(typ.Type)"), ("set", "Implied(typ.Type)"),
       ("map", "Implied(typ.KeyType) && Implied(typ.ValType)"), ("error", "Implied(typ.Type)")] ∧
    C02.selfDescribing =
      [("record", "true"), ("array", "true"), ("set", "true"), ("map", "true"),
       ("named", "SelfDescribing(typ.Type)")] := ⟨rfl, rfl⟩

theorem cast_rule_as_modelled :
    C02.castTypeCond =
      "typID == castID || typID == zed.IDNull || zed.IsInteger(typID) && (zed.IsInteger(castID) || zed.IsFloat(castID)) || zed.IsFloat(typID) && zed.IsFloat(castID)" ∧
    C02.isIntegerCond = "id <= IDInt256" ∧
    C02.isFloatCond = "id >= IDFloat16 && id <= IDFloat256" := ⟨rfl, rfl, rfl⟩

theorem decorate_rules_as_modelled :
    C02.decorateConds =
      ["known || (!(null && typ != zed.TypeNull) && f.isImplied(typ))",
       "name := f.nameOf(typ); name != \"\"", "f.tab > 0", "SelfDescribing(typ) && !null",
       "typ, ok := typ.(*zed.TypeNamed); ok", "f.tab > 0", "f.tab > 0"] ∧
    C02.needsDecorationBody =
      ["_, isnamed := e.typ.(*zed.TypeNamed)",
       "return e.union != nil && (isnamed || len(e.seen) < len(e.union.Types))"] ∧
    C02.formatUnionBody =
      ["typ, bytes := union.Untag(bytes)", "const known = false", "const parentImplied = true",
       "f.formatValue(indent, typ, bytes, known, parentImplied, true)"] ∧
    C02.formatValueAndDecorateBody =
      ["known := f.hasName(typ)", "implied := f.isImplied(typ)",
       "f.formatValue(0, typ, bytes, known, implied, false)", "f.decorate(typ, false, bytes == nil)"] :=
  ⟨rfl, rfl, rfl, rfl⟩

/-- `Analyzer.convertType`, `case *astzed.TypeName`, as modelled by `convertType (.name n)`:
    the analyzer's own (stream-scoped) table first, the shared context's typedefs only as a
    fallback. -/
theorem typename_lookup_as_modelled :
    C02.convertTypeNameBody =
      ["typ, ok := a[t.Name]",
       "if !ok { named := zctx.LookupTypeDef(t.Name) if named == nil { return nil, fmt.Errorf(\"no such type name: %q\", t.Name) } typ = named }",
       "return typ, nil"] := rfl

/-- a bare type name bound in the reader's own table resolves to that binding whatever the
    shared context says (another reader on the same context may have rebound the name). -/
theorem name_lookup_prefers_stream_table (st : AState) (n : Name) (t : Ty)
    (h : alookup n st.names = some t) : convertType st (.name n) = .ok (st, t) := by
  simp [convertType, h]

/-- … and only a name the reader has not bound itself is looked up in the context. -/
theorem name_lookup_falls_back_to_context (st : AState) (n : Name) (t : Ty)
    (h1 : alookup n st.names = none) (h2 : alookup n st.ctxdefs = some t) :
    convertType st (.name n) = .ok (st, t) := by
  simp [convertType, h1, h2]

example : ∃ st : AState, alookup [120] st.names = some (.prim 9) ∧ alookup [120] st.ctxdefs = some (.prim 25) :=
  ⟨{ names := [([120], .prim 9)], ctxdefs := [([120], .prim 25)] }, by decide⟩

/-- `pretty_irrelevant`, as far as it is decided here: pretty-printing is not part of the model
    (`fmtTop` has no layout parameter: it produces the abstract syntax, and the harness compares
    the syntax the real parser reads from the real text for pretty 0, 2 and 4 with it).  What is
    an obligation is that the layout code of `zson/formatter.go` only ever writes blanks and line
    breaks: every statement guarded by `f.tab > 0` is `f.build(" ")`, `newline` is `""` or
    `"\n"` and is only written as such or after a `","`, and `indent` writes `' '` bytes in
    front of a token that is written anyway (regenerated text; a layout statement that starts to
    write anything else breaks this). -/
theorem layout_writes_only_whitespace :
    C02.prettyGuardedBodies = ["{ f.build(\" \") }", "{ newline = \"\\n\" }"] ∧
    C02.newlineUses = ["f.build(f.newline)", "f.build(newline)", "newline := f.newline", "newline = \"\"",
      "newline = \"\\n\"", "sep := f.newline", "sep = \",\" + f.newline"] ∧
    C02.indentBody = ["for k := 0; k < tab; k++ { f.builder.WriteByte(' ') }", "f.build(s)"] :=
  ⟨rfl, rfl, rfl⟩

/-- every primitive name the formatter can print is read back as the same primitive
    (`PrimitiveName` and `LookupPrimitive` are inverse tables). -/
theorem primitive_names_inverse :
    ∀ p ∈ C02.primitiveName, lookupPrimitive (ascii p.2) = some p.1 := fun _ => lookupPrimitive_ascii

/-- every primitive type in the regenerated `Implied` set other than `int64` is recognised by
    the lexer from its spelling alone, whatever the text (so leaving the decorator out loses
    nothing); adding a type whose spelling the lexer classifies differently — `int32`,
    `uint8`, `float32` … — to `Implied` breaks this obligation.  (`int64` is the lexer's
    default for decimal integers that fit; `primOK` carries that range condition.) -/
theorem implied_prims_lex_exact :
    ∀ id ∈ C02.impliedPrims, id ≠ 9 → ∀ text, lexClass id text = primName id := by
  have key : ∀ id ∈ C02.impliedPrims, id ≠ 9 →
      (C02.idInt256 < id ∧ (¬ (C02.idFloat16 ≤ id ∧ id ≤ C02.idFloat256) ∨ primName id = ascii "float64")) := by
    decide
  intro id hid hne text
  obtain ⟨h1, h2⟩ := key id hid hne
  have h1' : ¬ id ≤ C02.idInt256 := Nat.not_le.mpr h1
  unfold lexClass
  simp only [h1', if_false]
  rcases h2 with h2 | h2
  · simp [h2]
  · split
    · exact h2.symm
    · rfl

/-! ## quote_roundtrip — names and strings survive the character layer -/

/-- `unquote (quoted s) = s` for string values, for all lists of code points `s` (quotes, backslashes, control
    characters, non-ASCII, keywords …) and whatever follows the closing quote. -/
theorem quote_roundtrip_string (L : List Nat) (s rest : List Nat) :
    Quote.unquote L .string (Quote.quote L .string s ++ rest) = some (s, rest) :=
  Quote.unquote_quotedString s rest

/-- field names and enum symbols inside types (`QuotedName` / `matchSymbol`), for all lists of code points `s`
    (keywords, digits first, empty, unicode, control characters), provided the next character
    does not extend a bare identifier (the formatter always writes `:` `,` or `)` next). -/
theorem quote_roundtrip_name (L : List Nat) (s rest : List Nat)
    (hr : ∀ c, rest.head? = some c → Quote.typeChar L c = false) :
    Quote.unquote L .name (Quote.quote L .name s ++ rest) = some (s, rest) :=
  Quote.unquoteName_quotedName L s rest hr

example : ∃ rest : List Nat, ∀ c, rest.head? = some c → Quote.typeChar [] c = false := ⟨[58], by decide⟩

/- Full statement (false of the current code, see `not_quote_roundtrip_tname_*`):
     ∀ s, unquote .tname (quote .tname s ++ rest) = some (s, rest)
   Proved for the names `tnameGuard` accepts: non-empty, not starting with '.', not `error` /
   `enum`, not a primitive type name (those cannot name a type at all). -/
theorem quote_roundtrip_tname_partial (L : List Nat) (s rest : List Nat)
    (hg : Quote.tnameGuard s = true)
    (hr : ∀ c, rest.head? = some c → Quote.typeChar L c = false) :
    Quote.unquote L .tname (Quote.quote L .tname s ++ rest) = some (s, rest) :=
  Quote.unquoteTName_quotedTypeName L s rest hg hr

example : Quote.tnameGuard (Quote.ascii "a b") = true := by decide +kernel
example : Quote.tnameGuard (Quote.ascii "1.5") = true := by decide +kernel

/-- a type named `error` (or `enum`) is written bare and read back as the error type keyword. -/
theorem not_quote_roundtrip_tname_keyword :
    Quote.unquote [] .tname (Quote.quote [] .tname (Quote.ascii "error") ++ [41]) ≠
      some (Quote.ascii "error", [41]) := by decide

/-- `IsTypeName` accepts a leading '.', `matchTypeName` does not. -/
theorem not_quote_roundtrip_tname_leading_dot :
    Quote.unquote [] .tname (Quote.quote [] .tname (Quote.ascii ".a") ++ [41]) ≠
      some (Quote.ascii ".a", [41]) := by decide

/-- `Formatter.formatType` writes type names without quoting them. -/
theorem not_quote_roundtrip_tname_in_type_decorator :
    Quote.unquote [] .tnameRaw (Quote.quote [] .tnameRaw (Quote.ascii "a b") ++ [41]) ≠
      some (Quote.ascii "a b", [41]) := by decide +kernel

/-- `%symbol` is written without quoting and read with `matchIdentifier`. -/
theorem not_quote_roundtrip_enum_symbol :
    Quote.unquote [] .enumval (Quote.quote [] .enumval (Quote.ascii "a b") ++ [41]) ≠
      some (Quote.ascii "a b", [41]) := by decide


/-! ## zson_roundtrip_type -/

/- Full statement: `∀ t, wfTy t → analyzeType {} (fmtTypeTop t) = ok t` (named types with their
   def-on-first-use / name-afterwards scoping and error types included).  Proved for the plain
   fragment; named and error types are tied by correspondence only (harness sub-check `type`). -/
theorem zson_roundtrip_type_partial (a0 : AState) (t : Ty) (hp : plainTy t = true) (hw : wfTy t = true) :
    analyzeType a0 (fmtTypeTop t) = .ok (a0, t) := by
  simp [analyzeType, fmtTypeTop, canonType_plain [] t hp, convertType_plain a0 t hp hw]

example : plainTy (.map (.prim 25) (.union (.cons (.prim 9) (.cons (.array (.prim 8)) .nil)))) = true ∧
    wfTy (.map (.prim 25) (.union (.cons (.prim 9) (.cons (.array (.prim 8)) .nil)))) = true := by decide

/-! ## implied_inferred — the decorator is dropped exactly when re-inference is exact -/

/-- For every type with `Implied t` (over the regenerated primitive set) the formatter writes
    no decorator after a (non-null, non-empty) value of `t`, and the analyzer infers exactly `t`
    from the bare syntax.  (Nulls and empty containers *inside* the value carry their own
    decorators; an empty container directly inside an error value does not — `errOK`.) -/
theorem implied_inferred (fst : FState) (a0 : AState) (t : Ty) (v : Val) (pi e : Bool)
    (hi : implied t = true) (hp : plainTy t = true) (hw : wfTy t = true) (hv : wfVal t v = true)
    (hn : v.isNull = false) (hb : bareEmpty v = false) (he : errOK v = true) :
    ∃ any, fmtValue fst t v false pi true e = (fst, any, []) ∧
      convertValue a0 (.implied any) none = .ok (a0, (t, strip v)) := by
  obtain ⟨any, ds, hf, _, hA, _⟩ := goodV_all v t e hp hw hv he pi fst a0
  have hnu : t.isUnion = false := implied_notUnion t hi
  have hds : ds = [] := by
    have := implied_ds fst t v pi e hi hv hn hb
    rw [hf] at this; exact this
  subst hds
  refine ⟨any, hf, ?_⟩
  simpa [expA, hnu] using hA

example : implied (.record (.cons [97] (.prim 9) (.cons [98] (.array (.prim 25)) .nil))) = true := by decide

/-! ## zson_roundtrip_value -/

/- Full statement (false of the current code — see the `not_zson_roundtrip_value_*` witnesses):

     ∀ t v, wfTy t → wfVal t v → analyze (fmt t v) = ok (t, v)
     (any formatter typedef state mirrored by the analyzer name table)

   Proved for the plain fragment (`plainTy`: no named types — those are covered at the top of a
   value and over streams below —, no record field of union type; error types included) and
   every value that is not an empty array / set / map as a whole (`bareEmpty`) or directly
   inside an error value (`errOK`), for every formatter state and every analyzer state —
   neither is changed. -/
theorem zson_roundtrip_value_partial (fst : FState) (a0 : AState) (t : Ty) (v : Val)
    (hp : plainTy t = true) (hw : wfTy t = true) (hv : wfVal t v = true) (hb : bareEmpty v = false)
    (he : errOK v = true) :
    (fmtTop fst t v).1 = fst ∧ analyzeTop a0 (fmtTop fst t v).2 = .ok (a0, (t, v)) :=
  roundtrip_plain fst a0 t v hp hw hv hb he

/-- `pretty_irrelevant`, per-value vs per-stream scope, `persist`: in the plain fragment what
    is read back does not depend on the formatter's typedef state (and the model has no layout
    parameter at all: pretty-printing produces no tokens), so every formatter setting
    round-trips alike. -/
theorem zson_roundtrip_value_any_settings (fst1 fst2 : FState) (a0 : AState) (t : Ty) (v : Val)
    (hp : plainTy t = true) (hw : wfTy t = true) (hv : wfVal t v = true) (hb : bareEmpty v = false)
    (he : errOK v = true) :
    analyzeTop a0 (fmtTop fst1 t v).2 = analyzeTop a0 (fmtTop fst2 t v).2 :=
  fmtTop_state_irrelevant fst1 fst2 a0 t v hp hw hv hb he

-- non-vacuity: a value that exercises unions, partial population, nulls and nested decorators
example :
    let t : Ty := .record (.cons [97] (.array (.union (.cons (.prim 8) (.cons (.prim 25) .nil))))
      (.cons [98] (.map (.prim 25) (.set (.prim 0))) (.cons [99] (.enum [[120], [121]]) .nil)))
    let v : Val := .record (.cons (.array (.cons (.union 0 (.prim [49])) (.cons .null .nil)))
      (.cons (.map (.cons (.prim [107]) (.set .nil) .nil)) (.cons (.enum 1) .nil)))
    plainTy t = true ∧ wfTy t = true ∧ wfVal t v = true ∧ bareEmpty v = false ∧ errOK v = true ∧
      rtOK t v = true := by
  decide +kernel

/- Named types (the typedef scopes are proved over streams below; named types under a name that
   is itself known, and named unions inside values, are tied by correspondence only): a value of a
   named type `n = u` over a plain type `u`, at the first occurrence of the
   name (per-value scope, or the name not yet seen in the stream, and not persisted): it is
   written `value (=n)` when `u` is self-describing and `value (n=type)` otherwise, it reads
   back as itself, **and the analyzer's name table receives exactly the binding the formatter's
   typedef table receives** (the coupling invariant of the stream scope).  Guards: the name is
   a legal type name; `u` is not an enum (`named-enum-value`), the value is not an empty
   container (`empty-container-undecorated`) and gets no decorator of its own
   (`named-partial-union-container`). -/
theorem zson_roundtrip_value_named_top_partial (fst : FState) (a0 : AState) (n : Name) (u : Ty) (v : Val)
    (hok : nameOK n = true) (hp : plainTy u = true) (hw : wfTy u = true)
    (hv : wfVal u v = true) (hn : v.isNull = false) (hb : bareEmpty v = false)
    (hod : noOwnDeco u v = true) (hen : enumSyms u = none) (he : errOK v = true)
    (hfst : fst.hasName (.named n u) = false) :
    (fmtTop fst (.named n u) (.named v)).1 = fst.saveType n (.named n u) ∧
    analyzeTop a0 (fmtTop fst (.named n u) (.named v)).2 =
      .ok (aPush a0 n (.named n u), (.named n u, .named v)) :=
  named_top fst a0 n u v hok hp hw hv hn hb hod hen he hfst

example :
    let u : Ty := .record (.cons [97] (.prim 8) (.cons [98] (.array (.prim 25)) .nil))
    let v : Val := .record (.cons (.prim [49]) (.cons (.array (.cons (.prim [120]) .nil)) .nil))
    nameOK [112, 111, 114, 116] = true ∧ plainTy u = true ∧ wfTy u = true ∧ wfVal u v = true ∧
      v.isNull = false ∧ bareEmpty v = false ∧ noOwnDeco u v = true ∧ enumSyms u = none ∧
      ({} : FState).hasName (.named [112, 111, 114, 116] u) = false ∧
      rtOK (.named [112, 111, 114, 116] u) (.named v) = true := by decide +kernel

/-- a *later* occurrence of a named type `n = u` the formatter already knows (and the analyzer
    has bound alike): it is written `value (n)` with no decorator inside (`known = true`) and
    reads back as itself; neither table changes.  Guards: `u` plain, not an enum, without
    union-typed container elements (`known-name-union-elements-undecorated`). -/
theorem zson_roundtrip_value_named_later_partial (fst : FState) (a0 : AState) (n : Name) (u : Ty) (v : Val)
    (hp : plainTy u = true) (hw : wfTy u = true) (hk : noUnionElems u = true) (hen : enumSyms u = none)
    (hv : wfVal u v = true) (hnn : v.isNull = false) (he : errOK v = true)
    (hname : fst.nameOf (.named n u) = some n) (hhas : fst.hasName (.named n u) = true)
    (ha : alookup n a0.names = some (.named n u)) :
    (fmtTop fst (.named n u) (.named v)).1 = fst ∧
    analyzeTop a0 (fmtTop fst (.named n u) (.named v)).2 = .ok (a0, (.named n u, .named v)) :=
  named_later fst a0 n u v hp hw hk hen hv hnn he hname hhas ha

/-- **streams**: a sequence of values — plain values and values of named types over plain types,
    one name bound to one type over the whole stream — written by one formatter and read by one
    analyzer comes back value by value, for the per-value typedef scope (`FormatRecord`,
    `reset = true`) and the per-stream scope (`Format`, `reset = false`), with or without a
    `persist` table and for every `persist` predicate.  Proved by induction over the stream with
    the coupling invariant `Coupled`: whatever name the formatter has bound (in the current scope
    or permanently) the analyzer's table binds to the same type; first occurrences extend both
    tables alike (`…named_top_partial`), later occurrences are written by bare name and leave
    both unchanged (`…named_later_partial`), a scope reset only forgets formatter bindings. -/
theorem zson_roundtrip_stream_partial (reset perm : Bool) (persist : Name → Bool) (items : List (Ty × Val))
    (hok : ∀ x ∈ items, itemOK x = true) (hcons : namesConsistent items = true) (a0 : AState) :
    analyzeStream a0
      (fmtStream reset { typedefs := [], permanent := if perm then some [] else none, persist := persist } items) =
      .ok items :=
  stream_roundtrip reset items hcons items (fun _ h => h) hok _ a0 (coupledQ_init _ persist perm a0)

/-- **named types inside values**: a stream of values that are plain, or records / arrays / sets
    (neither null nor empty) whose fields and elements are plain values or values of named types
    over plain types (`spineOK`, against a binding table `b`: one name, one type over the whole
    stream) round-trips value by value — the first occurrence of a name *inside* a value is
    written `v (=n)` / `v (n=type)` and enters both tables, every later occurrence in the same
    value or in a later value of the scope is written `v (n)` — for the per-value scope, the
    per-stream scope and every `persist` predicate.  Same coupling invariant as above, now
    threaded through the fields and elements of each value. -/
theorem zson_roundtrip_stream_nested_partial (reset perm : Bool) (persist : Name → Bool)
    (b : List (Name × Ty)) (items : List (Ty × Val)) (hok : ∀ x ∈ items, itemOKB b x = true) (a0 : AState) :
    analyzeStream a0
      (fmtStream reset { typedefs := [], permanent := if perm then some [] else none, persist := persist } items) =
      .ok items :=
  stream_roundtrip_nested reset b items hok _ a0 (coupledQ_init _ persist perm a0)

/-- … in particular one value with nested named types, written by a fresh formatter. -/
theorem zson_roundtrip_value_nested_partial (b : List (Name × Ty)) (t : Ty) (v : Val)
    (hok : spineOK b t v = true) (hb : bareEmpty v = false) (a0 : AState) :
    ∃ a1, analyzeTop a0 (fmtTop {} t v).2 = .ok (a1, (t, v)) := by
  obtain ⟨_, a1, _, h, _⟩ := spine_step b {} a0 t v (coupledQ_init _ (fun _ => false) false a0) hok hb
  exact ⟨a1, h⟩

-- non-vacuity: `[{a:1(int32)}(=x), {a:2}(x)]` inside a record, then the name again in the next value
example :
    let x : Ty := .named [120] (.record (.cons [97] (.prim 8) .nil))
    let b : List (Name × Ty) := [([120], x)]
    let t : Ty := .record (.cons [112] (.array x) (.cons [113] x (.cons [114] (.prim 25) .nil)))
    let r (s : List UInt8) : Val := .named (.record (.cons (.prim s) .nil))
    let v : Val := .record (.cons (.array (.cons (r [49]) (.cons (r [50]) .nil))) (.cons (r [51]) (.cons (.prim [107]) .nil)))
    let items : List (Ty × Val) := [(t, v), (x, r [52])]
    (∀ y ∈ items, itemOKB b y = true) ∧
      analyzeStream {} (fmtStream false {} items) = .ok items ∧
      analyzeStream {} (fmtStream true {} items) = .ok items := by
  decide +kernel

-- non-vacuity, and the theorem's conclusion re-computed on a stream with a repeated name
example :
    let x : Ty := .named [120] (.record (.cons [97] (.prim 8) (.cons [98] (.array (.prim 25)) .nil)))
    let v1 : Val := .named (.record (.cons (.prim [49]) (.cons (.array (.cons (.prim [107]) .nil)) .nil)))
    let v2 : Val := .named (.record (.cons .null (.cons (.array .nil) .nil)))
    let items : List (Ty × Val) := [(x, v1), (.array (.prim 8), .array (.cons (.prim [51]) .nil)), (x, v2)]
    (∀ y ∈ items, itemOK y = true) ∧ namesConsistent items = true ∧
      analyzeStream {} (fmtStream false {} items) = .ok items ∧
      analyzeStream {} (fmtStream true { permanent := some [], persist := fun _ => true } items) = .ok items := by
  decide +kernel

-- error types are inside the proved fragment: error of a record, of a union, of an error
example :
    let t : Ty := .error (.record (.cons [97] (.error (.union (.cons (.prim 8) (.cons (.prim 25) .nil))))
      (.cons [98] (.array (.prim 9)) .nil)))
    let v : Val := .error (.record (.cons (.error (.union 0 (.prim [49]))) (.cons (.array .nil) .nil)))
    plainTy t = true ∧ wfTy t = true ∧ wfVal t v = true ∧ bareEmpty v = false ∧ errOK v = true ∧
      rtOK t v = true := by
  decide +kernel

/-- `error([])` of an implied error type: the empty container is written bare inside `error(…)`
    and nothing supplies its type (the guard `errOK`). -/
theorem not_zson_roundtrip_value_empty_container_in_error :
    rtOK (.record (.cons [97] (.error (.array (.prim 9))) .nil)) (.record (.cons (.error (.array .nil)) .nil)) = false := by
  decide

/-- an empty container as a whole value is written `[]` with no decorator and read back as an
    empty array of nulls (`formatValueAndDecorate` passes `null = false` to `decorate`). -/
theorem not_zson_roundtrip_value_empty_container :
    rtOK (.array (.prim 9)) (.array .nil) = false ∧ rtOK (.map (.prim 25) (.prim 8)) (.map .nil) = false := by
  decide

/-- a value of a *named* enum type cannot be read back (`buildEnum` asserts the unnamed type). -/
theorem not_zson_roundtrip_value_named_enum :
    rtOK (.named [120] (.enum [[97], [98]])) (.named (.enum 0)) = false := by decide +kernel

/-- a name bound to a named type of the same name loses one level: `1(=x)`. -/
theorem not_zson_roundtrip_value_named_over_same_name :
    rtOK (.named [120] (.named [120] (.prim 9))) (.named (.named (.prim [49]))) = false := by decide +kernel

/-- a named container of partially populated union elements: the `(=x)` that follows the full
    decorator makes the parser drop the value (`parseDecorator(nil, val)`). -/
theorem not_zson_roundtrip_value_named_partial_union_container :
    rtOK (.named [120] (.array (.union (.cons (.prim 9) (.cons (.prim 25) .nil)))))
      (.named (.array (.cons (.union 0 (.prim [49])) .nil))) = false := by decide

/-- a named type first defined *inside* a value and referenced by name in the decorator that
    follows the value: the analyzer converts the decorator before the value. -/
theorem not_zson_roundtrip_value_typedef_in_value_used_by_decorator :
    rtOK (.array (.union (.cons (.prim 9) (.cons (.named [120] (.prim 8)) .nil))))
      (.array (.cons (.union 1 (.named (.prim [49]))) .nil)) = false := by decide +kernel

/-- a union-typed record field under a decorator that supplies the field types is converted to
    the union twice: `type "(int32,int64)" is not in union type "(int32,int64)"`. -/
theorem not_zson_roundtrip_value_union_field_under_decorator :
    rtOK (.error (.record (.cons [98] (.union (.cons (.prim 8) (.cons (.prim 9) .nil))) .nil)))
      (.error (.record (.cons (.union 0 (.prim [49])) .nil))) = false := by decide +kernel


/-- one name bound to two types in one value: `hasName` looks the *name* up, so the parts of
    the second value lose their decorators (`{c:1}(=z)` for c of type uint8). -/
theorem not_zson_roundtrip_value_same_name_two_types :
    rtOK (.record (.cons [97] (.named [122] (.prim 9)) (.cons [98] (.named [122] (.record (.cons [99] (.prim 0) .nil))) .nil)))
      (.record (.cons .null (.cons (.named (.record (.cons (.prim [49]) .nil))) .nil))) = false := by decide +kernel

/-- a short-form typedef `(=x)` under a decorator that already supplies the union type. -/
theorem not_zson_roundtrip_value_short_typedef_under_decorator :
    rtOK (.error (.union (.cons (.prim 9) (.cons (.named [120] (.prim 25)) .nil))))
      (.error (.union 1 (.named (.prim [97])))) = false := by decide +kernel

/-- a type value binds its names in the analyzer's table only: the later `(t)` is resolved to
    the type value's `t=int8` instead of the value-level `t=uint8`. -/
theorem not_zson_roundtrip_value_type_value_rebinds_name :
    rtOK (.record (.cons [97] (.named [116] (.prim 0)) (.cons [98] (.prim 28) (.cons [99] (.named [116] (.prim 0)) .nil))))
      (.record (.cons (.named (.prim [49])) (.cons (.typeval (.named [116] (.prim 6))) (.cons (.named (.prim [50])) .nil)))) = false := by
  decide +kernel

/-! ## json_subset — every JSON document read as ZSON denotes what the JSON reader builds -/

/- Full statement (false of the current code, see `not_json_subset_*`):
     ∀ j : J, analyze (zsonParse j) = ok (jsonBuild j)
   Proved for documents without a repeated object key and without an integer literal in
   (2^63-1, 2^64-1] (`jsonGuard`), for every analyzer state: integers → int64, other numbers →
   float64, arrays → array of the union of the non-null element types (`[null]` when there is
   none), objects → records.  String escapes and number spelling are below the model (tied by
   the harness oracle `json`). -/
theorem json_subset_partial (j : Json.J) (h : Json.jsonGuard j = true) (st : AState) :
    analyzeTop st (Json.toAst j) = .ok (st, Json.jsonBuild j) := by
  simp only [analyzeTop, Json.json_core j h st, Except.map]
  rw [Json.wrapAll_noNamed _ (Json.jsonBuild_noNamed j)]

example : Json.jsonGuard (.obj (.cons [97] (.arr (.cons (.num [49] [49] [49, 46]) (.cons (.str [120]) (.cons .null .nil))))
    (.cons [98] (.obj .nil) .nil))) = true := by decide

/-- a repeated key: the JSON reader keeps the last value, the ZSON parser the first field. -/
theorem not_json_subset_duplicate_key :
    (analyzeTop {} (Json.toAst (.obj (.cons [97] (.num [49] [49] [49, 46]) (.cons [97] (.str [120]) .nil))))).toOption.map (·.2) ≠
      some (Json.jsonBuild (.obj (.cons [97] (.num [49] [49] [49, 46]) (.cons [97] (.str [120]) .nil)))) := by
  decide +kernel

/-- 9223372036854775808: float64 for the JSON reader, uint64 for the ZSON lexer. -/
theorem not_json_subset_integer_above_int64 :
    let big : Bytes := [57, 50, 50, 51, 51, 55, 50, 48, 51, 54, 56, 53, 52, 55, 55, 53, 56, 48, 56]
    (analyzeTop {} (Json.toAst (.num big big [57]))).toOption.map (·.2) ≠ some (Json.jsonBuild (.num big big [57])) := by
  decide +kernel

end Zed.Props.C02

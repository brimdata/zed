/-
  C15 — merge and revert have exact, conflict-safe semantics.
  Property theorems, negation witnesses and examples (model: Zed/Model/LakePatch.lean,
  LakeOps.lean — `Patch`, `Diff`, `Revert` exactly as coded; lemmas: Zed/Proofs/Lake*.lean).
-/
import Zed.Proofs.LakePatch
import Zed.Proofs.LakeOps
namespace Zed.Props.C15
open Zed.Lake

variable {K V : Type} [DecidableEq V]

/-- **merge_conflict_untouched / failed operations are invisible.**  A step whose operation returns
    an error — a merge conflict, an empty difference, an empty revert, … — leaves the whole pool state as it was: `step` is defined so. -/
theorem merge_conflict_untouched (cfg : Cfg K V) (s : State K V) (op : Op V) (e : Err)
    (h : apply cfg s op = .error e) : step cfg s op = s := by
  unfold step; rw [h]

/-! ### merge -/

/-- guard of `merge_exact_partial`: every object the child deleted since the common ancestor
    is still in the parent tip (decidable) -/
def NoCommonDeletes (pc : Patch K) (Sp : Snap K) : Bool := pc.delObjs.all Sp.hasObj

omit [DecidableEq V] in
/-- the commit object a successful `merge` appends is exactly `Diff(parentPatch, childPatch)`
    of the two `PatchOfPath`s from the common ancestor, committed on the parent's tip -/
theorem merge_commit (s s' : State K V) (child parent : Nat) (h : merge s child parent = .ok s') :
    ∃ ctip ptip acts, s.tip child = some ctip ∧ s.tip parent = some ptip ∧
      mergeActions s.commits ctip ptip = .ok acts ∧ s' = s.commit parent ptip acts :=
  merge_ok h

/-- **merge_exact_partial** (guard `NoCommonDeletes`).
    Full statement `merge_exact`: *a successful merge makes the parent contain its previous
    objects plus everything the child added since the common ancestor minus everything the
    child deleted since then, and the parent stays readable* — FALSE of the current code without
    the guard (`not_merge_result_replayable`).

    Setting: `B` is the snapshot of the common ancestor; `Ap` / `Ac` are the actions of the
    commits on the parent / child path since then, so that `Sp = play B Ap`, `Sc = play B Ac`
    are the two tip snapshots (`Store.Snapshot` is this fold) and `pp`, `pc` the two
    `PatchOfPath`s; `d = Diff(pp, pc)` is what `buildMergeObject` commits.  Then the commit
    object replays on the parent tip and the new parent snapshot holds exactly
    `(Sp \ childDeleted) ∪ childAdded`, with `childAdded = Sc \ B`, `childDeleted = B \ Sc`.
    Vectors of the parent are untouched.  Holds for every base, every pair of action
    sequences, every outcome of earlier merges (objects the parent already took over). -/
theorem merge_exact_partial (B Sp Sc : Snap K) (Ap Ac : List (Action K)) (pp pc d : Patch K)
    (hpp : (Patch.new (.snap B)).play Ap = .ok pp) (hpc : (Patch.new (.snap B)).play Ac = .ok pc)
    (hSp : play B Ap = .ok Sp) (hSc : play B Ac = .ok Sc)
    (hd : diff pp pc = .ok d) (guard : NoCommonDeletes pc Sp = true) :
    ∃ S', play Sp d.commitActions = .ok S' ∧ S'.vecs = Sp.vecs ∧
      ∀ id, S'.hasObj id =
        ((Sp.hasObj id && !(B.hasObj id && !Sc.hasObj id)) || (Sc.hasObj id && !B.hasObj id)) := by
  exact merge_rel (sim B Ap _ pp B Sp (Rel.init B) hpp hSp) (sim B Ac _ pc B Sc (Rel.init B) hpc hSc) hd guard

/-- **readable_after** (merge): under the guard the parent's new tip replays — this is the
    first component of `merge_exact_partial`; without the guard it does not
    (`not_merge_result_replayable`). -/
theorem readable_after_merge (B Sp Sc : Snap K) (Ap Ac : List (Action K)) (pp pc d : Patch K)
    (hpp : (Patch.new (.snap B)).play Ap = .ok pp) (hpc : (Patch.new (.snap B)).play Ac = .ok pc)
    (hSp : play B Ap = .ok Sp) (hSc : play B Ac = .ok Sc)
    (hd : diff pp pc = .ok d) (guard : NoCommonDeletes pc Sp = true) :
    (play Sp d.commitActions).toBool = true := by
  obtain ⟨S', h1, _, _⟩ := merge_exact_partial B Sp Sc Ap Ac pp pc d hpp hpc hSp hSc hd guard
  rw [h1]; rfl

/-- **merge_exact_partial, on pool states** (no hypotheses about patches or action sequences).
    If `merge child → parent` is acknowledged in a state where both tips are readable
    (`Sc`, `Sp`), `B` is the snapshot of the common ancestor the code picks, and every object of
    `B` that the child no longer has is still in the parent (`NoCommonDeletes`, the guard), then
    the parent's new tip is readable and holds exactly `Sp \ (B \ Sc) ∪ (Sc \ B)`; the
    parent's vectors are unchanged.  Derived from `merge_exact_partial` by the path-replay lemma
    (`Store.Snapshot` of a tip = snapshot of the ancestor + the actions `PatchOfPath` plays). -/
theorem merge_exact_state_partial (s s' : State K V) (child parent ctip ptip : Nat) (Sc Sp : Snap K)
    (h : merge s child parent = .ok s')
    (hc : s.tip child = some ctip) (hp : s.tip parent = some ptip)
    (hSc : snapAt s.commits ctip = .ok Sc) (hSp : snapAt s.commits ptip = .ok Sp) :
    ∃ B, snapAt s.commits (commonAncestor (pathAt s.commits ptip) (pathAt s.commits ctip)) = .ok B ∧
      ((∀ id, B.hasObj id = true → Sc.hasObj id = false → Sp.hasObj id = true) →
        ∃ S', snapAt s'.commits (s.commits.length + 1) = .ok S' ∧ S'.vecs = Sp.vecs ∧
          ∀ id, S'.hasObj id =
            ((Sp.hasObj id && !(B.hasObj id && !Sc.hasObj id)) || (Sc.hasObj id && !B.hasObj id))) := by
  obtain ⟨ctip0, ptip0, acts, hc0, hp0, hm, rfl⟩ := merge_ok h
  rw [hc] at hc0; cases hc0
  rw [hp] at hp0; cases hp0
  obtain ⟨hanc0, B, pc, pp, d, hB, hpc, hpp, hd, rfl⟩ := mergeActions_ok hm
  have hanc := commonAncestor_mem _ _ hanc0
  -- both tips are the ancestor's snapshot with the actions `PatchOfPath` plays
  obtain ⟨Bc, hBc, Ac, hplayc, hpatchc⟩ := patchOfPath_replay s.commits ctip _ hanc.2 Sc hSc
  obtain ⟨Bp, hBp, Ap, hplayp, hpatchp⟩ := patchOfPath_replay s.commits ptip _ hanc.1 Sp hSp
  rw [hB] at hBc hBp; cases hBc; cases hBp
  refine ⟨B, hB, fun guard => ?_⟩
  rw [hpatchc] at hpc
  rw [hpatchp] at hpp
  have rc := sim B Ac _ pc B Sc (Rel.init B) hpc hplayc
  have hguard : NoCommonDeletes pc Sp = true := by
    unfold NoCommonDeletes
    rw [List.all_eq_true]
    intro id hid
    have hdel := rc.deleted id
    rw [List.contains_iff_mem.mpr hid, Bool.and_eq_true, Bool.not_eq_true'] at hdel
    exact guard id hdel.1 hdel.2
  obtain ⟨S', h1, h2, h3⟩ := merge_rel (sim B Ap _ pp B Sp (Rel.init B) hpp hplayp) rc hd hguard
  exact ⟨S', by rw [snapAt_commit s parent ptip _ Sp hSp]; exact h1, h2, h3⟩

/-! ### merge racing with other commits -/

/-- **merge_keeps_concurrent.**  `mergeLoop` is `Branch.mergeInto` inside the commit retry loop
    of `Branch.commit`, with `others[i]` = what other clients commit (on any branch, any
    operations) between the i-th attempt's tip lookup and its branch-pointer update.  If the
    merge is acknowledged, then for some attempt `k`: `sk` is the state after everything the
    others did before that attempt, `sstar` the state after what they did during it; the
    parent's tip is the same (`seen`) in both, the merge object was built by `buildMergeObject`
    against exactly that tip (`mergeActions sk.commits ctip seen`), and the result is `sstar`
    with that object committed on top of `seen`.  Hence every commit of every other client —
    before or during the merge, on the parent, the child or elsewhere — is still there, the
    parent's previous tip is the merge commit's parent, and `merge_exact_partial` applies with
    the LATEST parent tip: nothing committed after the merge started is lost or overwritten. -/
theorem merge_keeps_concurrent (cfg : Cfg K V) (fuel : Nat) (s : State K V) (ctip parent : Nat)
    (others : List (List (Op V))) (sf : State K V)
    (h : mergeLoop cfg fuel s ctip parent others = .ok sf) :
    ∃ (k : Nat) (seen : Nat) (acts : List (Action K)),
      let sk := run cfg s (others.take k).flatten
      let sstar := run cfg sk (others.getD k [])
      sk.tip parent = some seen ∧ sstar.tip parent = some seen ∧
      mergeActions sk.commits ctip seen = .ok acts ∧ sf = sstar.commit parent seen acts ∧
      sf.commits = sstar.commits ++ [{ parent := seen, acts := acts }] ∧ sf.files = sstar.files := by
  revert h
  fun_induction mergeLoop cfg fuel s ctip parent others <;> intro h
  case case1 => cases h
  case case2 => cases h
  case case3 => cases h
  case case4 fuel s ctip parent others seen ht acts hm s1 hc =>
    cases h
    have e0 : others.getD 0 [] = others.headD [] := by cases others <;> rfl
    refine ⟨0, seen, acts, ht, ?_, hm, ?_, ?_, ?_⟩ <;> rw [e0]
    · exact eq_of_beq hc
    all_goals rfl
  case case5 fuel s ctip parent others seen ht acts hm s1 hc ih =>
    obtain ⟨k, seen', acts', hk⟩ := ih h
    -- what the others did before attempt `k + 1`: their first batch, then `k` more
    have e1 : others.getD (k + 1) [] = others.tail.getD k [] := by cases others <;> rfl
    have e2 : run cfg s (others.take (k + 1)).flatten =
        run cfg (run cfg s (others.headD [])) (others.tail.take k).flatten := by
      cases others with
      | nil => simp [run]
      | cons o os => simp only [run, List.take_succ_cons, List.flatten_cons, List.foldl_append]; rfl
    refine ⟨k + 1, seen', acts', ?_⟩
    rw [e2, e1]
    exact hk

/-- without interference the loop is the plain merge -/
example (cfg : Cfg K V) (s : State K V) (ctip ptip child parent : Nat) (hc : s.tip child = some ctip)
    (hp : s.tip parent = some ptip) :
    mergeLoop cfg 10 s ctip parent [] = merge s child parent := by
  unfold merge
  rw [mergeLoop, hp, hc]
  dsimp only
  cases mergeActions s.commits ctip ptip with
  | error e => rfl
  | ok acts => simp only [run, List.headD_nil, List.foldl_nil, hp, beq_self_eq_true, if_true]

/-! ### revert -/

/-- **revert_exact.**  Let `B` be the snapshot of commit `c`'s parent, `A` the actions of `c`
    (so `pc = PatchOfCommit(c)`, `Sc = play B A` = `c`'s snapshot) and `T` the snapshot of the
    branch tip, whatever happened since.  If `Patch.Revert` returns a commit object, it replays
    on the tip (the branch stays readable) and the new snapshot is
    `(T \ added(c)) ∪ deleted(c)`: what `c` added is removed if still present, what it deleted
    is restored if still absent, everything else is untouched. -/
theorem revert_exact (B Sc T : Snap K) (A : List (Action K)) (pc : Patch K) (acts : List (Action K))
    (hpc : (Patch.new (.snap B)).play A = .ok pc) (hSc : play B A = .ok Sc)
    (hr : pc.revert T = .ok acts) :
    ∃ T', play T acts = .ok T' ∧ T'.vecs = T.vecs ∧
      ∀ id, T'.hasObj id =
        ((T.hasObj id && !(Sc.hasObj id && !B.hasObj id)) || (B.hasObj id && !Sc.hasObj id)) := by
  exact revert_rel (sim B A _ pc B Sc (Rel.init B) hpc hSc) hr

/-- **revert_revert_id.**  Reverting a commit at the tip it created restores the previous
    object set exactly; in particular reverting a revert restores the contents the branch had
    before the revert.  (`T`: snapshot before the commit, `acts`: its actions, `T'`: the tip.) -/
theorem revert_revert_id (T T' : Snap K) (acts acts2 : List (Action K)) (pr : Patch K)
    (hpr : (Patch.new (.snap T)).play acts = .ok pr) (hT' : play T acts = .ok T')
    (h2 : pr.revert T' = .ok acts2) :
    ∃ T'', play T' acts2 = .ok T'' ∧ ∀ id, T''.hasObj id = T.hasObj id := by
  obtain ⟨T'', h1, _, h3⟩ := revert_exact T T' T' acts pr acts2 hpr hT' h2
  refine ⟨T'', h1, ?_⟩
  intro id
  rw [h3 id]
  cases T'.hasObj id <;> cases T.hasObj id <;> rfl

/-- **readable_after** (revert): whenever `Revert` produces a commit object it replays on the tip. -/
theorem readable_after_revert (B Sc T : Snap K) (A : List (Action K)) (pc : Patch K) (acts : List (Action K))
    (hpc : (Patch.new (.snap B)).play A = .ok pc) (hSc : play B A = .ok Sc)
    (hr : pc.revert T = .ok acts) : (play T acts).toBool = true := by
  obtain ⟨T', h1, _, _⟩ := revert_exact B Sc T A pc acts hpc hSc hr
  rw [h1]; rfl

/-- **revert_exact, on pool states.**  If `revert(b, c)` is acknowledged, `c`'s snapshot `Sc` and
    its parent's snapshot `B` exist and the tip of `b` is readable (`T`), then the new tip is
    readable and holds `(T \ (Sc \ B)) ∪ (B \ Sc)`; vectors unchanged. -/
theorem revert_exact_state (s s' : State K V) (b c t : Nat) (co : Commit K) (Sc T : Snap K)
    (h : revert s b c = .ok s') (ht : s.tip b = some t) (hco : getCommit s.commits c = some co)
    (hSc : snapAt s.commits c = .ok Sc) (hT : snapAt s.commits t = .ok T) :
    ∃ B, snapAt s.commits co.parent = .ok B ∧
      ∃ T', snapAt s'.commits (s.commits.length + 1) = .ok T' ∧ T'.vecs = T.vecs ∧
        ∀ id, T'.hasObj id =
          ((T.hasObj id && !(Sc.hasObj id && !B.hasObj id)) || (B.hasObj id && !Sc.hasObj id)) := by
  obtain ⟨t0, patch, T0, acts, ht0, hp, hT0, hr, rfl⟩ := revert_ok h
  rw [ht] at ht0; cases ht0
  rw [hT] at hT0; cases hT0
  obtain ⟨co0, B, hco0, hB, hp⟩ := patchOfCommit_ok hp
  rw [hco] at hco0; cases hco0
  refine ⟨B, hB, ?_⟩
  have hplay : play B co.acts = .ok Sc := by
    rw [snapAt_unfold s.commits c co hco] at hSc
    split at hSc
    · simpa [hB] using hSc
    · cases hSc
  obtain ⟨T', h1, h2, h3⟩ := revert_exact B Sc T co.acts patch acts hp hplay hr
  exact ⟨T', by rw [snapAt_commit s b t _ T hT]; exact h1, h2, h3⟩

/-! ### non-vacuity of the hypotheses (a concrete base, two divergent sides) -/

private def exB : Snap Nat := { objs := [{ id := 1, min := 1, max := 1, count := 1 }, { id := 2, min := 2, max := 2, count := 1 }] }
private def exAc : List (Action Nat) := [.del 1, .add { id := 3, min := 3, max := 3, count := 1 }]
private def exAp : List (Action Nat) := [.add { id := 4, min := 4, max := 4, count := 1 }]

example : ∃ pp pc d Sp Sc, (Patch.new (.snap exB)).play exAp = .ok pp ∧ (Patch.new (.snap exB)).play exAc = .ok pc ∧
    play exB exAp = .ok Sp ∧ play exB exAc = .ok Sc ∧ diff pp pc = .ok d ∧ NoCommonDeletes pc Sp = true :=
  ⟨_, _, _, _, _, rfl, rfl, rfl, rfl, rfl, rfl⟩

example : ∃ pc Sc acts, (Patch.new (.snap exB)).play exAc = .ok pc ∧ play exB exAc = .ok Sc ∧
    pc.revert Sc = .ok acts := ⟨_, _, _, rfl, rfl, rfl⟩

/-! ### the 4-step witness: both sides delete the same object -/

/-- two loads on main (commits 1, 2), branch `1` created at commit 2, `delete [1]` on the
    branch (commit 3) and on main (commit 4) -/
def commonDelete : State Nat Nat :=
  { commits := [{ parent := 0, acts := [.add { id := 1, min := 1, max := 1, count := 1 }] },
                { parent := 1, acts := [.add { id := 2, min := 2, max := 2, count := 1 }] },
                { parent := 2, acts := [.del 1] },
                { parent := 2, acts := [.del 1] }],
    branches := [(0, 4), (1, 3)], files := [(1, [1]), (2, [2])], nextObj := 3 }

/-- both branches are readable before the merge -/
example : (snapAt commonDelete.commits 4).toBool = true ∧ (snapAt commonDelete.commits 3).toBool = true :=
  ⟨rfl, rfl⟩

/-- **not_merge_result_replayable.**  The full statement `merge_result_replayable` ("the commit
    object a successful merge emits replays on the parent tip") is FALSE of the current code:
    in `commonDelete` the merge of branch 1 into main is acknowledged, main's new tip is commit
    5, and commit 5 cannot be replayed (`delete of a non-existent data object`) — main is
    unreadable from then on.  Cause: `Patch.Lookup` consults the base snapshot without
    subtracting `deletedObjects`, so `Diff` finds the object "present" in the parent and emits a
    second `Delete`.  Replayed on the real code by the harness (witness:common-delete). -/
theorem not_merge_result_replayable :
    ∃ s', merge commonDelete 1 0 = .ok s' ∧ s'.tip 0 = some 5 ∧
      snapAt s'.commits 5 = .error .noObject := ⟨_, rfl, rfl, rfl⟩

/-- the same child merged twice: the first merge is fine, the second one re-emits the child's
    delete and leaves main unreadable (witness:repeated-merge). -/
def repeatedMerge : State Nat Nat :=
  { commits := [{ parent := 0, acts := [.add { id := 1, min := 1, max := 1, count := 1 }] },
                { parent := 1, acts := [.add { id := 2, min := 2, max := 2, count := 1 }] },
                { parent := 2, acts := [.del 1] }],
    branches := [(0, 2), (1, 3)], files := [(1, [1]), (2, [2])], nextObj := 3 }

theorem not_repeated_merge_replayable :
    ∃ s1 s2 snap, merge repeatedMerge 1 0 = .ok s1 ∧ snapAt s1.commits 4 = .ok snap ∧
      snap.ids = [2] ∧ merge s1 1 0 = .ok s2 ∧ s2.tip 0 = some 5 ∧
      snapAt s2.commits 5 = .error .noObject := ⟨_, _, _, rfl, rfl, rfl, rfl, rfl, rfl⟩

/-! ### the child deletes an object the parent took over in an earlier merge -/

/-- main: c1 adds o1; branch 1 created at c1; child c2 adds X (= 2); first merge: c3 on main adds
    X; child c4 deletes X, c5 adds Y (= 3) -/
def mergedDelete : State Nat Nat :=
  { commits := [{ parent := 0, acts := [.add { id := 1, min := 1, max := 1, count := 1 }] },
                { parent := 1, acts := [.add { id := 2, min := 2, max := 2, count := 1 }] },
                { parent := 1, acts := [.add { id := 2, min := 2, max := 2, count := 1 }] },
                { parent := 2, acts := [.del 2] },
                { parent := 4, acts := [.add { id := 3, min := 3, max := 3, count := 1 }] }],
    branches := [(0, 3), (1, 5)], files := [(1, [1]), (2, [2]), (3, [3])], nextObj := 4 }

/-- **not_merge_removes_child_deleted.**  Read literally ("minus everything the child deleted
    since the common ancestor"), a merge must remove X from main: the child deleted it after the
    ancestor (commit 1).  In the code the child's add and delete of X cancel inside its patch and
    the common ancestor stays commit 1 after the first merge, so the second merge only adds Y:
    main ends with {o1, X, Y} while the child holds {o1, Y}.  (`merge_exact_partial` states the
    NET reading — childAdded = Sc \ B, childDeleted = B \ Sc — which the code does satisfy.)
    Replayed on the real code by the harness (witness:delete-of-merged-object). -/
theorem not_merge_removes_child_deleted :
    ∃ s' main child, merge mergedDelete 1 0 = .ok s' ∧ snapAt s'.commits 6 = .ok main ∧
      main.ids = [1, 2, 3] ∧ snapAt mergedDelete.commits 5 = .ok child ∧ child.ids = [1, 3] :=
  ⟨_, _, _, rfl, rfl, rfl, rfl, rfl⟩

/-- non-vacuity of `merge_exact_state_partial` / `revert_exact_state`: in `repeatedMerge` the first
    merge satisfies all hypotheses, incl. the guard (the only base object the child lacks, 1, is
    still on main); reverting commit 2 on main satisfies those of the revert theorem -/
example : ∃ s' Sc Sp B, merge repeatedMerge 1 0 = .ok s' ∧ repeatedMerge.tip 1 = some 3 ∧
    repeatedMerge.tip 0 = some 2 ∧ snapAt repeatedMerge.commits 3 = .ok Sc ∧
    snapAt repeatedMerge.commits 2 = .ok Sp ∧
    snapAt repeatedMerge.commits (commonAncestor (pathAt repeatedMerge.commits 2) (pathAt repeatedMerge.commits 3)) = .ok B ∧
    B.ids = [1, 2] ∧ Sc.ids = [2] ∧ Sp.ids = [1, 2] := ⟨_, _, _, _, rfl, rfl, rfl, rfl, rfl, rfl, rfl, rfl, rfl⟩
example : ∃ s' co Sc T, revert repeatedMerge 0 2 = .ok s' ∧ getCommit repeatedMerge.commits 2 = some co ∧
    snapAt repeatedMerge.commits 2 = .ok Sc ∧ snapAt repeatedMerge.commits 2 = .ok T :=
  ⟨_, _, _, _, rfl, rfl, rfl, rfl⟩

end Zed.Props.C15

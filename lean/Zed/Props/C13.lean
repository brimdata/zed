/-
  C13 — a commit is an immutable snapshot; readers are isolated from writers.
  Property theorems, with `noVacuum` and `pullSeq` they are stated over, and examples
  (model: Zed/Model/Lake*.lean; lemmas: Zed/Proofs/LakeStore.lean, LakeOps.lean, LakeScan.lean).

  The statements quantify over every state `s` of the model (not only reachable ones), every
  operation / history, every pool configuration and every commit id.
-/
import Zed.Proofs.LakeOps
import Zed.Proofs.LakeScan
namespace Zed.Props.C13
open Zed.Lake

variable {K V : Type} [DecidableEq V]

/-- **snapshot_stable** (one step).  No operation — load, delete, delete-where, compaction,
    vector add/delete, vacuum, branch creation, merge, revert, successful or failed — changes
    the snapshot (the fold of `PlayAction` along the parent chain) of an existing commit. -/
theorem snapshot_stable (cfg : Cfg K V) (s : State K V) (op : Op V) (c : Nat)
    (hc : c ≤ s.commits.length) :
    snapAt (step cfg s op).commits c = snapAt s.commits c := by
  rcases step_commits cfg s op with h | ⟨x, h⟩
  · rw [h]
  · rw [h]; exact snapAt_append _ _ _ hc

/-- commit objects are write-once: an existing commit object is never modified or removed. -/
theorem commit_object_immutable (cfg : Cfg K V) (s : State K V) (op : Op V) (c : Nat)
    (hc : c ≤ s.commits.length) :
    getCommit (step cfg s op).commits c = getCommit s.commits c := by
  unfold getCommit
  by_cases h0 : c = 0
  · simp [h0]
  · simp only [h0, if_false]
    rcases step_commits cfg s op with h | ⟨x, h⟩
    · rw [h]
    · rw [h, List.getElem?_append_left (by omega)]

theorem run_commits_le (cfg : Cfg K V) (s : State K V) (ops : List (Op V)) :
    s.commits.length ≤ (run cfg s ops).commits.length :=
  run_induction cfg ops (P := fun r => s.commits.length ≤ r.commits.length) (Nat.le_refl _)
    fun r hr op _ => Nat.le_trans hr (step_commits_le cfg r op)

/-- **snapshot_stable** (histories).  For every later history `ops`, of any length and with
    any operations, the snapshot of a commit that exists now is what it is now. -/
theorem history_snapshot_stable (cfg : Cfg K V) (s : State K V) (ops : List (Op V)) (c : Nat)
    (hc : c ≤ s.commits.length) :
    snapAt (run cfg s ops).commits c = snapAt s.commits c :=
  (run_induction cfg ops (P := fun r => s.commits.length ≤ r.commits.length ∧
      snapAt r.commits c = snapAt s.commits c) ⟨Nat.le_refl _, rfl⟩
    fun r hr op _ => ⟨Nat.le_trans hr.1 (step_commits_le cfg r op),
      (snapshot_stable cfg r op c (Nat.le_trans hc hr.1)).trans hr.2⟩).2

/-- data objects are write-once: no operation other than vacuum modifies or removes one. -/
theorem data_object_immutable (cfg : Cfg K V) (s : State K V) (op : Op V) (hv : op.isVacuum = false)
    (id : Nat) (p : List V) (h : fileOf s.files id = some p) :
    fileOf (step cfg s op).files id = some p := by
  unfold step
  split
  · rename_i s' ha
    obtain ⟨_, ext, hf⟩ := apply_extends cfg s s' op hv ha
    rw [hf]; exact fileOf_append _ _ _ _ h
  · exact h

/-- **vacuum_safe** (object level): vacuuming commit `c` never removes a data object that is in
    `c`'s snapshot. -/
theorem vacuum_spares_snapshot (cfg : Cfg K V) (s : State K V) (c : Nat) (snap : Snap K)
    (hs : snapAt s.commits c = .ok snap) (id : Nat) (hin : snap.hasObj id = true)
    (p : List V) (h : fileOf s.files id = some p) :
    fileOf (step cfg s (.vacuum c)).files id = some p := by
  unfold step
  split
  · rename_i s' ha
    rw [vacuum_keeps s s' c snap ha hs id hin]; exact h
  · exact h

def noVacuum (ops : List (Op V)) : Bool := ops.all (fun op => !op.isVacuum)

theorem files_mono (cfg : Cfg K V) (s : State K V) (ops : List (Op V)) (hv : noVacuum ops = true)
    (id : Nat) (p : List V) (h : fileOf s.files id = some p) :
    fileOf (run cfg s ops).files id = some p :=
  run_induction cfg ops (P := fun r => fileOf r.files id = some p) h fun r hr op hop =>
    data_object_immutable cfg r op (by simpa using List.all_eq_true.mp hv op hop) id p hr

/-- **query_pinned**.  The result of `from pool@c` is a function of the commit id and the
    immutable stores: after any vacuum-free history, of any length, the query of an existing
    commit returns exactly what it returns now (same values, same order). -/
theorem query_pinned (cfg : Cfg K V) (s : State K V) (ops : List (Op V)) (hv : noVacuum ops = true)
    (c : Nat) (hc : c ≤ s.commits.length) (r : List V)
    (h : State.query cfg s c = .ok r) :
    State.query cfg (run cfg s ops) c = .ok r := by
  unfold State.query at *
  rw [history_snapshot_stable cfg s ops c hc]
  cases hs : snapAt s.commits c with
  | error e => simp [hs] at h
  | ok snap =>
    simp only [hs] at h ⊢
    exact scanParts_mono cfg s.files _ (fun id p hp => files_mono cfg s ops hv id p hp) _ r h

/-- A reader: the partitions to scan are fixed when the query starts (`Lister(snapshot c)` →
    `Slicer`); each `Pull` scans the next partition from the data object store as it is at
    that moment, after the writers' operations `opss[i]` that were committed in between. -/
def pullSeq (cfg : Cfg K V) : State K V → List (List (Obj K)) → List (List (Op V)) → Except Err (List V)
  | _, [], _ => .ok []
  | s, p :: ps, opss =>
    match payloads s.files p with
    | .error e => .error e
    | .ok ls =>
      match pullSeq cfg (run cfg s (opss.headD [])) ps opss.tail with
      | .ok r => .ok (mergeK cfg ls ++ r)
      | .error e => .error e

/-- **read_isolated**.  Whatever vacuum-free operations other handles commit between the
    pulls of a started reader, and wherever they are placed, the reader returns exactly what
    an uninterrupted scan of the state it started in returns. -/
theorem read_isolated (cfg : Cfg K V) (s : State K V) (parts : List (List (Obj K)))
    (opss : List (List (Op V))) (hv : opss.all noVacuum = true) (r : List V)
    (h : scanParts cfg s.files parts = .ok r) :
    pullSeq cfg s parts opss = .ok r := by
  induction parts generalizing s opss r with
  | nil => simpa [scanParts, pullSeq] using h
  | cons P ps ih =>
    obtain ⟨hpres, rfl⟩ := (scanParts_iff cfg s.files (P :: ps) r).mp h
    have hv' : noVacuum (opss.headD []) = true ∧ opss.tail.all noVacuum = true := by
      cases opss with
      | nil => exact ⟨rfl, rfl⟩
      | cons o os => exact Bool.and_eq_true_iff.mp (List.all_cons ▸ hv)
    -- the rest is scanned from a later file store, which still has every file
    have hrest := scanParts_mono cfg s.files (run cfg s (opss.headD [])).files
      (fun id q hq => files_mono cfg s _ hv'.1 id q hq) ps _
      ((scanParts_iff cfg s.files ps _).mpr ⟨fun Q hQ => hpres Q (List.mem_cons_of_mem _ hQ), rfl⟩)
    rw [pullSeq, (payloads_iff s.files P _).mpr ⟨hpres P List.mem_cons_self, rfl⟩, ih _ _ hv'.2 _ hrest]
    rfl

/-- **ack_visible.**  When an operation that commits on branch `b` (load, delete, delete-where,
    compaction, vector add/delete, merge into `b`, revert on `b`) is acknowledged, `b` resolves
    to the new commit — so every query started afterwards sees it — and the new commit sits on
    top of the branch's previous chain; the chain only ever grows: under every later history, of
    any operations on any branches, every commit that was on `b`'s parent chain stays on it
    (in particular no acknowledged commit is ever dropped from its branch). -/
theorem ack_visible (cfg : Cfg K V) (s s' : State K V) (b : Nat) (h : CommitsOn s s' b)
    (later : List (Op V)) :
    ∃ t, s.tip b = some t ∧ s'.tip b = some (s.commits.length + 1) ∧
      pathAt s'.commits (s.commits.length + 1) = (s.commits.length + 1) :: pathAt s.commits t ∧
      OnChain (run cfg s' later) b (s.commits.length + 1) ∧
      ∀ c, OnChain s b c → OnChain (run cfg s' later) b c := by
  obtain ⟨t, ht, h1, h2⟩ := h.chain
  refine ⟨t, ht, h1, h2, ?_, ?_⟩
  · exact run_onChain cfg s' later b _ ⟨_, h1, by rw [h2]; simp⟩
  · intro c hc
    obtain ⟨t0, ht0, hm⟩ := hc
    rw [ht] at ht0; cases ht0
    exact run_onChain cfg s' later b c ⟨_, h1, by rw [h2]; exact List.mem_cons_of_mem _ hm⟩

/-- every successful operation either makes exactly one commit on some branch (`CommitsOn`; its own
    branch: `load_on` … `revert_on`) or leaves the commit store and all existing branch pointers alone -/
theorem acknowledged_shape (cfg : Cfg K V) (s s' : State K V) (op : Op V) (h : apply cfg s op = .ok s') :
    (∃ b, CommitsOn s s' b) ∨
    (s'.commits = s.commits ∧ ∀ b t, s.tip b = some t → s'.tip b = some t) :=
  apply_shape cfg s s' op h

omit [DecidableEq V] in
/-- **cache_correct** (atomic puts).  `snapCached` is `commits.Store.Snapshot` with its caches
    (in-memory LRU and persisted `<commit>.snap.zng`, keyed by commit id; a walk toward the root
    that stops at the first ancestor with an entry, copies it and replays the later commits).
    If every cache entry equals the fold of the commit chain it is keyed by, the cached lookup
    returns exactly the fold, for every commit and every set of cached commits — and the entry it
    then stores keeps the cache correct. -/
theorem cache_correct (cache : List (Nat × Snap K)) (cs : List (Commit K))
    (hc : ∀ e ∈ cache, snapAt cs e.1 = .ok e.2) (c : Nat) :
    snapCached cache cs c c = snapAt cs c ∧
    ∀ snap, snapCached cache cs c c = .ok snap → ∀ e ∈ (c, snap) :: cache, snapAt cs e.1 = .ok e.2 := by
  have h := snapCached_correct cache cs hc c c (Nat.le_refl _)
  refine ⟨h, ?_⟩
  intro snap hs e he
  simp only [List.mem_cons] at he
  rcases he with he | he
  · subst he; rw [← h]; exact hs
  · exact hc e he

/-! ### non-vacuity: the hypotheses are satisfiable (a concrete two-commit pool) -/

private def exCfg : Cfg Nat Nat :=
  { key := id, mkey := id, kle := Nat.ble, keq := (· == ·), vle := Nat.ble, desc := false,
    thresh := 1000, size := fun _ => 1 }

private def exState : State Nat Nat :=
  { commits := [{ parent := 0, acts := [.add { id := 1, min := 1, max := 2, count := 2 }] },
                { parent := 1, acts := [.add { id := 2, min := 5, max := 5, count := 1 }] }],
    branches := [(0, 2)], files := [(1, [1, 2]), (2, [5])], nextObj := 3 }

example : ∃ snap, snapAt exState.commits 1 = .ok snap ∧ snap.hasObj 1 = true ∧
    fileOf exState.files 1 = some [1, 2] := ⟨_, rfl, rfl, rfl⟩
example : noVacuum ([.delete 0 [1], .merge 1 0, .revert 0 2] : List (Op Nat)) = true := rfl
example : (1 : Nat) ≤ exState.commits.length := by decide
example : CommitsOn exState (exState.commit 0 2 []) 0 := ⟨exState, 2, [], rfl, rfl, rfl, rfl⟩
example : payloads exState.files [({ id := 1, min := 1, max := 2, count := 2 } : Obj Nat)] = .ok [[1, 2]] := rfl

end Zed.Props.C13

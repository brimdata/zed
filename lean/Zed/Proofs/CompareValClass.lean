import Zed.Proofs.CompareValEq
import Zed.Proofs.CompareTypesTrans
/-!
  `compareValues` is lexicographic: first the class of a value (`vk`: null, number, or the underlying
  type; ordered by `cmpVK`), then the comparison inside one class (`within`) — `cmpVal_classified`.
  Each law of `cmpVal` is that of `cmpVK`, then that inside a class (CompareValSwap, CompareValTrans).
-/
namespace Zed
open Zed.Ord

inductive VK where
  | nullv
  | num
  | ty (u : Ty)
  deriving DecidableEq

def vk (v : Val) : VK :=
  if v.isNull then .nullv else if v.ty.isNumber then .num else .ty v.ty.under

def cmpVK (nm : Bool) : VK → VK → Ordering
  | .nullv, .nullv => .eq
  | .nullv, _ => if nm then .gt else .lt
  | _, .nullv => if nm then .lt else .gt
  | .num, .num => .eq
  | .num, .ty _ => .lt
  | .ty _, .num => .gt
  | .ty u, .ty u' => cmpS u u'

/-- the comparison inside the class of `a`; the `.eq` arms are those `cmpCore` never reaches -/
def within (nm : Bool) (a b : Val) : Ordering :=
  match vk a with
  | .nullv => .eq
  | .num => match a.num?, b.num? with
    | some x, some y => cmpNum x y
    | _, _ => .eq
  | .ty _ => cmpSameOf nm a b

theorem isNumber_under {t : Ty} (h : t.isNumber = true) : ∃ i, t.under = .prim i ∧ isNumberId i = true := by
  unfold Ty.isNumber Ty.primId? at h
  cases hu : t.under <;> simp [hu] at h
  exact ⟨_, rfl, h⟩

theorem under_ne_of_isNumber {s t : Ty} (hs : s.isNumber = true) (ht : t.isNumber = false) :
    s.under ≠ t.under := by
  intro e
  unfold Ty.isNumber Ty.primId? at hs ht
  rw [e, ht] at hs; cases hs

theorem cmpTy_number_lt (s t : Ty) (hs : s.isNumber = true) (ht : t.isNumber = false) : cmpTy s t = .lt := by
  obtain ⟨i, hu, hi⟩ := isNumber_under hs
  have hn : ∀ j, t.under = .prim j → isNumberId j = false := fun j hj => by
    unfold Ty.isNumber Ty.primId? at ht; simpa [hj] using ht
  rw [cmpTy_def, if_neg (under_ne_of_isNumber hs ht), hu]
  have hv := Ty.under_not_named t
  generalize t.under = v at *
  cases v with
  | prim j =>
    have hj := hn j rfl
    simp only [cmpS_prim]
    apply Nat.compare_eq_lt.mpr
    rw [isNumberId_iff] at hi
    have := mt (isNumberId_iff j).mpr (by simp [hj])
    omega
  | named => simp [Ty.isNamed] at hv
  | _ => rw [cmpS_kind _ _ rfl (by simp)]; exact Nat.compare_eq_lt.mpr (by simp)

theorem cmpTy_lt_number (s t : Ty) (hs : s.isNumber = false) (ht : t.isNumber = true) : cmpTy s t = .gt := by
  rw [cmpTy_swap t s, cmpTy_number_lt t s ht hs]; rfl

def VKok : VK → Prop
  | .ty u => u.isNamed = false
  | _ => True

theorem vk_ok (v : Val) : VKok (vk v) := by
  unfold vk
  split
  · trivial
  · split
    · trivial
    · exact Ty.under_not_named _

/-- nulls at the end `nm` says, numbers before all other values -/
def VK.key (nm : Bool) : VK → Nat × Ty
  | .nullv => (if nm then 3 else 0, .prim 0)
  | .num => (1, .prim 0)
  | .ty u => (2, u)

theorem vkLin (nm : Bool) : Lin VKok (cmpVK nm) :=
  ((natLin.prod sLinAll).pullInj (VK.key nm) (fun k hk => ⟨trivial, by cases k <;> first | exact hk | rfl⟩)
    fun k k' _ _ h => by cases k <;> cases k' <;> cases nm <;> simp [VK.key] at h ⊢ <;> exact h).congr
    fun k k' _ _ => by cases k <;> cases k' <;> cases nm <;> rfl

/-- the tests of `cmpCore` are, in their order, the cases in which the classes differ; `same` is reached iff they are equal -/
theorem cmpVal_classified (nm : Bool) (a b : Val) :
    cmpVal nm a b = (cmpVK nm (vk a) (vk b)).then (within nm a b) := by
  rw [← ite_eq_then ((vkLin nm).eq_iff (vk_ok a) (vk_ok b))]
  rw [cmpVal_eq]
  unfold cmpCore vk within
  by_cases ha : a.isNull = true <;> by_cases hb : b.isNull = true
  · simp [ha, hb, vk, ordOfInt, Generated.C06.bothNull]
  · cases nm <;> simp [ha, hb, vk, cmpVK, ordOfInt, Generated.C06.nullA] <;> split <;> simp_all
  · cases nm <;> simp [ha, hb, vk, cmpVK, ordOfInt, Generated.C06.nullB] <;> split <;> simp_all
  · simp only [ha, hb, Bool.false_and, Bool.false_eq_true, if_false, vk]
    by_cases na : a.ty.isNumber = true <;> by_cases nb : b.ty.isNumber = true
    · simp only [na, nb, Bool.and_self, if_true]
      cases a.num? <;> cases b.num? <;> rfl
    · replace nb : b.ty.isNumber = false := by simpa using nb
      simp [na, nb, cmpVK, under_ne_of_isNumber na nb, cmpTy_number_lt a.ty b.ty na nb]
    · replace na : a.ty.isNumber = false := by simpa using na
      simp [na, nb, cmpVK, (under_ne_of_isNumber nb na).symm, cmpTy_lt_number a.ty b.ty na nb]
    · simp only [na, nb, Bool.false_and, Bool.false_eq_true, if_false, VK.ty.injEq, ne_eq]
      by_cases hu : a.ty.under = b.ty.under
      · simp [hu]
      · simp only [hu, not_false_eq_true, if_true, if_false, cmpVK]
        rw [cmpTy_def, if_neg hu]

end Zed

import Zed.Proofs.CompareValClass
/-! The guarded law of `compareValues` (`valPre`): inside one class all well-formed values have one constructor
    (`shape_of_ok`), so the class is the image of that constructor (`Law.image`). -/
namespace Zed
open Zed.Ord

/-- the constructor of a value, by number; `tyShape t` is the number `Val.ok` forces on a non-null
    value of type `t` (`shape_of_ok`) -/
def shapeIdx : Val → Nat
  | .null _ => 0 | .num _ _ => 1 | .bool _ _ => 2 | .bytes _ _ => 3 | .string _ _ => 4
  | .ip _ _ => 5 | .typ _ _ => 6 | .seq _ _ => 7 | .raw _ _ => 8

def tyShape (t : Ty) : Nat :=
  match t.primId? with
  | some id =>
    if isNumberId id then 1 else if id = idBool then 2 else if id = idBytes then 3
    else if id = idString then 4 else if id = idIP then 5 else if id = idType then 6 else 8
  | none => if t.inner?.isSome then 7 else 8

theorem ids_facts : idBool = 23 ∧ idBytes = 24 ∧ idString = 25 ∧ idIP = 26 ∧ idType = 28 := by decide +kernel

theorem primId_inner_none {t : Ty} {id : Nat} (h : t.primId? = some id) : t.inner? = none := by
  unfold Ty.primId? at h; unfold Ty.inner?
  cases hu : t.under <;> simp [hu] at h ⊢

theorem shape_of_ok (v : Val) (h : v.ok = true) (hn : v.isNull = false) : shapeIdx v = tyShape v.ty := by
  obtain ⟨h1, h2, h3, h4, h5⟩ := ids_facts
  cases v with
  | null t => simp [Val.isNull] at hn
  | num t n =>
    simp only [Val.ok] at h
    cases hp : t.primId? with
    | none => simp [hp] at h
    | some id => simp [hp] at h; simp [shapeIdx, tyShape, Val.ty, hp, h.1]
  | bool t x =>
    simp only [Val.ok, beq_iff_eq] at h
    simp [shapeIdx, tyShape, Val.ty, h, isNumberId_iff, h1]
  | bytes t x =>
    simp only [Val.ok, beq_iff_eq] at h
    simp [shapeIdx, tyShape, Val.ty, h, isNumberId_iff, h1, h2]
  | string t x =>
    simp only [Val.ok, beq_iff_eq] at h
    simp [shapeIdx, tyShape, Val.ty, h, isNumberId_iff, h1, h2, h3]
  | ip t x =>
    simp only [Val.ok, Bool.and_eq_true, beq_iff_eq] at h
    simp [shapeIdx, tyShape, Val.ty, h.1, isNumberId_iff, h1, h2, h3, h4]
  | typ t x =>
    simp only [Val.ok, beq_iff_eq] at h
    simp [shapeIdx, tyShape, Val.ty, h, isNumberId_iff, h1, h2, h3, h4, h5]
  | seq t es =>
    simp only [Val.ok] at h
    cases hi : t.inner? with
    | none => simp [hi] at h
    | some e =>
      have : t.primId? = none := by
        cases hp : t.primId? with
        | none => rfl
        | some id => rw [primId_inner_none hp] at hi; simp at hi
      simp [shapeIdx, tyShape, Val.ty, hi, this]
  | raw t x =>
    simp only [Val.ok, Bool.and_eq_true] at h
    cases hp : t.primId? with
    | none => simp [shapeIdx, tyShape, Val.ty, hp, Option.isNone_iff_eq_none.mp h.1]
    | some id =>
      simp [hp, specialPrim] at h
      simp [shapeIdx, tyShape, Val.ty, hp, h.2.1, h.2.2]

theorem tyShape_under (s t : Ty) (h : s.under = t.under) : tyShape s = tyShape t := by
  unfold tyShape Ty.primId? Ty.inner?; rw [h]

theorem vk_ty_of {v : Val} {u : Ty} (h : vk v = .ty u) : v.isNull = false ∧ v.ty.isNumber = false ∧ v.ty.under = u := by
  unfold vk at h
  split at h
  · simp at h
  · split at h
    · simp at h
    · simp only [VK.ty.injEq] at h
      exact ⟨by simpa using ‹¬ v.isNull = true›, by simpa using ‹¬ v.ty.isNumber = true›, h⟩

theorem vk_num_of {v : Val} (h : vk v = .num) : v.isNull = false ∧ v.ty.isNumber = true := by
  unfold vk at h
  split at h
  · simp at h
  · split at h
    · exact ⟨by simpa using ‹¬ v.isNull = true›, ‹_›⟩
    · simp at h

theorem num_of_ok {v : Val} (h : v.ok = true) (hk : vk v = .num) : ∃ t n, v = .num t n := by
  obtain ⟨hn, hnum⟩ := vk_num_of hk
  have hs := shape_of_ok v h hn
  obtain ⟨i, hu, hi⟩ := isNumber_under hnum
  have : tyShape v.ty = 1 := by simp [tyShape, Ty.primId?, hu, hi]
  rw [this] at hs
  cases v <;> simp [shapeIdx] at hs
  exact ⟨_, _, rfl⟩

theorem num_ok_isNumber {t : Ty} {n : Num} (h : (Val.num t n).ok = true) : t.isNumber = true := by
  simp only [Val.ok] at h
  cases hp : t.primId? with
  | none => simp [hp] at h
  | some id => simp [hp] at h; simp [Ty.isNumber, hp, h.1]

theorem class_excl (id : Nat) :
    ¬ (isSignedId id = true ∧ isUnsignedId id = true) ∧ ¬ (isSignedId id = true ∧ isFloatId id = true) ∧
    ¬ (isUnsignedId id = true ∧ isFloatId id = true) := by
  simp [isSignedId, isUnsignedId, isFloatId, evalBounds, evalBound, Generated.C06.isSigned,
    Generated.C06.isUnsigned, Generated.C06.isFloat]
  omega

theorem pairOK_same_ty (x y : Val) (okx : x.ok = true) (oky : y.ok = true) (h : x.ty = y.ty) : PairOK x y := by
  unfold PairOK
  cases x <;> cases y <;> simp only [Val.num?] <;> try trivial
  rename_i t n t' n'
  simp only [Val.ty] at h
  subst h
  simp only [Val.ok] at okx oky
  cases hp : t.primId? with
  | none => simp [hp] at okx
  | some id =>
    simp only [hp, Bool.and_eq_true] at okx oky
    have ex := class_excl id
    intro hf
    cases n <;> cases n' <;> simp [numOk, Num.isFloat, IntSafe] at okx oky hf ⊢ <;> simp_all

theorem inner_of_under {s t : Ty} (h : s.under = t.under) : s.inner? = t.inner? := by
  unfold Ty.inner?; rw [h]

theorem seq_ok {t : Ty} {xs : Vals} (h : (Val.seq t xs).ok = true) : ∃ e, t.inner? = some e ∧ xs.okAll e = true := by
  simp only [Val.ok] at h
  cases hi : t.inner? with
  | none => simp [hi] at h
  | some e => exact ⟨e, rfl, by simpa [hi] using h⟩

def Compat (S : Val → Prop) : Prop := ∀ a, S a → a.ok = true ∧ ∀ b, S b → PairOK a b

theorem compat_sameTy (e : Ty) : Compat fun v => v.ty = e ∧ v.ok = true :=
  fun a ha => ⟨ha.2, fun b hb => pairOK_same_ty a b ha.2 hb.2 (ha.1.trans hb.1.symm)⟩

theorem PairOK.symm {x y : Val} (h : PairOK x y) : PairOK y x := by
  unfold PairOK at *
  cases hx : x.num? <;> cases hy : y.num? <;> simp only [hx, hy] at h ⊢
  exact fun hf => (h hf.symm).symm

theorem compat_triple {a b c : Val} (oka : a.ok = true) (okb : b.ok = true) (okc : c.ok = true)
    (pab : PairOK a b) (pbc : PairOK b c) (pac : PairOK a c) : Compat fun v => v = a ∨ v = b ∨ v = c := by
  have self : ∀ x : Val, x.ok = true → PairOK x x := fun x hx => pairOK_same_ty x x hx hx rfl
  rintro v (rfl | rfl | rfl)
  · refine ⟨oka, ?_⟩; rintro w (rfl | rfl | rfl)
    · exact self _ oka
    · exact pab
    · exact pac
  · refine ⟨okb, ?_⟩; rintro w (rfl | rfl | rfl)
    · exact pab.symm
    · exact self _ okb
    · exact pbc
  · refine ⟨okc, ?_⟩; rintro w (rfl | rfl | rfl)
    · exact pac.symm
    · exact pbc.symm
    · exact self _ okc

theorem Vals.okAll_mem : (xs : Vals) → (e : Ty) → xs.okAll e = true →
    ∀ v ∈ xs.toList, v.ty = e ∧ v.ok = true
  | .cons x r, e, h, v, hv => by
    simp only [Vals.okAll, Bool.and_eq_true, beq_iff_eq] at h
    simp only [Vals.toList, List.mem_cons] at hv
    rcases hv with rfl | hv
    · exact h.1
    · exact Vals.okAll_mem r e h.2 v hv

def numKey (v : Val) : FVal := match v.num? with
  | some n => n.key
  | none => .nan

theorem boolPre : Pre All fun x y : Bool => if x = y then Ordering.eq else if x then .gt else .lt :=
  ⟨fun _ _ => if_pos rfl, fun x y z _ _ _ => by cases x <;> cases y <;> cases z <;> decide,
   fun f => f.elim⟩

theorem ipLin : Lin All fun x y : Bytes => (compare x.length y.length).then (cmpBytes x y) :=
  Law.byClass List.length fun _ _ => bytesLin.mono fun _ _ => trivial

theorem valPre (nm : Bool) {S : Val → Prop} (hS : Compat S) : Pre S (cmpVal nm) :=
  Law.of_rank sizeOf Compat (hS := hS) fun n ih S hS => by
    refine (Law.then ((vkLin nm).pull vk fun a _ => vk_ok a) fun a ha => ?_).congr
      fun a b _ _ => cmpVal_classified nm a b
    refine Law.mono (S := fun b => (S b ∧ sizeOf b < n + 1) ∧ vk b = vk a) ?_
      fun b hb => ⟨hb.1, (((vkLin nm).eq_iff (vk_ok a) (vk_ok b)).mp hb.2).symm⟩
    cases hk : vk a with
    | nullv => exact Pre.const.congr fun x _ hx _ => by unfold within; rw [hx.2]
    | num =>
      refine (fLin.pull numKey fun _ _ => trivial).congr fun x y hx hy => ?_
      obtain ⟨_, nx, rfl⟩ := num_of_ok (hS x hx.1.1).1 hx.2
      obtain ⟨_, ny, rfl⟩ := num_of_ok (hS y hy.1.1).1 hy.2
      unfold within; rw [hx.2]
      exact cmpNum_eq_exact nx ny ((hS _ hx.1.1).2 _ hy.1.1)
    | ty u =>
      have same : ∀ x, ((S x ∧ sizeOf x < n + 1) ∧ vk x = .ty u) → shapeIdx x = shapeIdx a := by
        intro x hx
        obtain ⟨nx, _, ux⟩ := vk_ty_of hx.2
        obtain ⟨na, _, ua⟩ := vk_ty_of hk
        rw [shape_of_ok x (hS x hx.1.1).1 nx, shape_of_ok a (hS a ha.1).1 na]
        exact tyShape_under _ _ (ux.trans ua.symm)
      -- the class consists of values `mk t b`, which compare by `d` on `b`
      have ctor : ∀ {β : Type} (mk : Ty → β → Val) {q : Prop} {T : β → Prop} {d : β → β → Ordering},
          Law q T d →
          (∀ x, shapeIdx x = shapeIdx a → ∃ p : Ty × β, x = mk p.1 p.2) →
          (∀ t b, ((S (mk t b) ∧ sizeOf (mk t b) < n + 1) ∧ vk (mk t b) = .ty u) → T b) →
          (∀ t b t' b', cmpSameOf nm (mk t b) (mk t' b') = d b b') →
          Pre (fun x => (S x ∧ sizeOf x < n + 1) ∧ vk x = .ty u) (within nm) :=
        fun mk _ _ _ hd inv hT e => (hd.pull Prod.snd fun _ h => h).image (fun p => mk p.1 p.2)
          (fun x hx => inv x (same x hx)) (fun p => hT p.1 p.2) fun p q hp _ => by unfold within; rw [hp.2]; exact e ..
      cases a with
      | null t => exact absurd (vk_ty_of hk).1 (by simp [Val.isNull])
      | num t m =>
        have := num_ok_isNumber (hS _ ha.1).1
        have h2 : t.isNumber = false := (vk_ty_of hk).2.1
        rw [h2] at this; exact absurd this (by simp)
      | bool t b =>
        exact ctor Val.bool boolPre (fun x h => by cases x <;> simp [shapeIdx] at h; exact ⟨(_, _), rfl⟩)
          (fun _ _ _ => trivial) fun _ _ _ _ => rfl
      | bytes t b =>
        exact ctor Val.bytes bytesLin (fun x h => by cases x <;> simp [shapeIdx] at h; exact ⟨(_, _), rfl⟩)
          (fun _ _ _ => trivial) fun _ _ _ _ => rfl
      | string t b =>
        exact ctor Val.string bytesLin (fun x h => by cases x <;> simp [shapeIdx] at h; exact ⟨(_, _), rfl⟩)
          (fun _ _ _ => trivial) fun _ _ _ _ => rfl
      | raw t b =>
        exact ctor Val.raw bytesLin (fun x h => by cases x <;> simp [shapeIdx] at h; exact ⟨(_, _), rfl⟩)
          (fun _ _ _ => trivial) fun _ _ _ _ => rfl
      | ip t b =>
        exact ctor Val.ip ipLin (fun x h => by cases x <;> simp [shapeIdx] at h; exact ⟨(_, _), rfl⟩)
          (fun _ _ _ => trivial) fun _ _ _ _ => rfl
      | typ t b =>
        exact ctor Val.typ tyLin (fun x h => by cases x <;> simp [shapeIdx] at h; exact ⟨(_, _), rfl⟩)
          (fun _ _ _ => trivial) fun _ _ _ _ => rfl
      | seq t es =>
        -- the elements: of the one element type `e` of the class, well-formed, smaller
        obtain ⟨e, he, _⟩ := seq_ok (hS _ ha.1).1
        have ua := (vk_ty_of hk).2.2
        refine ctor Val.seq
          (((ih _ (compat_sameTy e)).lex.pull Vals.toList fun _ h => h).congr fun xs ys _ _ => cmpVals_eq_lex nm xs ys)
          (fun x h => by cases x <;> simp [shapeIdx] at h; exact ⟨(_, _), rfl⟩) (fun t' xs hp v hv => ?_)
          fun _ _ _ _ => rfl
        obtain ⟨e', he', hall⟩ := seq_ok (hS _ hp.1.1).1
        have : e' = e := by
          have := inner_of_under ((vk_ty_of hp.2).2.2.trans ua.symm)
          simp only [Val.ty] at this
          rw [he, he'] at this; exact Option.some.inj this
        subst this
        have hs := xs.sizeOf_toList v hv
        have := hp.1.2
        simp only [Val.seq.sizeOf_spec] at this
        exact ⟨xs.okAll_mem e' hall v hv, by omega⟩

theorem cmpVal_STr (nm : Bool) (a b c : Val) (oka : a.ok = true) (okb : b.ok = true) (okc : c.ok = true)
    (p1 : PairOK a b) (p2 : PairOK b c) (p3 : PairOK a c) : STr (cmpVal nm a b) (cmpVal nm b c) (cmpVal nm a c) :=
  (valPre nm (compat_triple oka okb okc p1 p2 p3)).tr a b c (.inl rfl) (.inr (.inl rfl)) (.inr (.inr rfl))

theorem cmpVals_STr (nm : Bool) : (xs ys zs : Vals) → (e : Ty) → xs.okAll e = true → ys.okAll e = true →
    zs.okAll e = true → STr (cmpVals nm xs ys) (cmpVals nm ys zs) (cmpVals nm xs zs) :=
  fun xs ys zs e hx hy hz => by
  rw [cmpVals_eq_lex, cmpVals_eq_lex, cmpVals_eq_lex]
  exact (valPre nm (compat_sameTy e)).lex.tr _ _ _ (xs.okAll_mem e hx) (ys.okAll_mem e hy) (zs.okAll_mem e hz)

end Zed

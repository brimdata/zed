import Zed.Proofs.ZsonPlainLeaves
import Zed.Proofs.ZsonUnique
/-!
  C02 — value round trip, plain fragment: records, `normalizeElems` on containers
  (uniform element type; fully populated union), arrays, sets, maps, unions, errors, and the mutual
  induction over values (`goodP_all`).
-/
namespace Zed.Zson
open Generated

theorem mkFields_self : (fs : Fields) → mkFields fs.names (fieldTypes fs) = fs
  | .nil => rfl
  | .cons n t r => by simp [Fields.names, fieldTypes, mkFields, mkFields_self r]

theorem tvsOf_spec : (fs : Fields) → (vs : Vals) → wfVals fs vs = true →
    (tvsOf fs vs).map (·.1) = fieldTypes fs ∧ Vals.ofList ((tvsOf fs vs).map (·.2)) = stripVals vs
  | .nil, .nil, _ => ⟨rfl, rfl⟩
  | .cons _ t fr, .cons v vr, h => by
    simp only [wfVals, Bool.and_eq_true] at h
    obtain ⟨h1, h2⟩ := tvsOf_spec fr vr h.2
    simp only [tvsOf, fieldTypes, List.map_cons, Vals.ofList, stripVals, h1, h2, and_self]
  | .nil, .cons _ _, h => by cases h
  | .cons _ _ _, .nil, h => by cases h

theorem ofList_map_strip : (vs : Vals) → Vals.ofList (vs.toList.map strip) = stripVals vs
  | .nil => rfl
  | .cons v r => by simp [Vals.toList, Vals.ofList, stripVals, ofList_map_strip r]

theorem decoP_selfdesc (t : Ty) (h : selfDescribing t = true) : decoP t false = [] := by
  unfold decoP
  by_cases hi : implied t = true <;> simp [hi, h]

theorem goodP_record (fs : Fields) (vs : Vals) (hp : plainTy (.record fs) = true)
    (hw : wfTy (.record fs) = true) (hv : wfVal (.record fs) (.record vs) = true)
    (hF : GoodFields fs vs) (hK : noUnionElemsF fs = true → KGoodFields fs vs) :
    GoodP (.record fs) (.record vs) := by
  simp only [wfVal] at hv
  have hw' := hw
  simp only [wfTy, Bool.and_eq_true, Bool.not_eq_true'] at hw'
  refine goodP_of_any hp hw rfl (.record fs vs) fun pk hk pi fst a0 hpi => ?_
  obtain ⟨afs, hf, hl, hB, hA⟩ : ∃ afs, fmtFields fst fs vs (pk || fst.hasName (.record fs)) pi = (fst, afs) ∧
      afs.length = fs.length ∧ convertFields a0 afs (some (fieldTypes fs)) = .ok (a0, tvsOf fs vs) ∧
      (pk = false → afs.names = fs.names ∧ convertFields a0 afs none = .ok (a0, tvsOf fs vs)) := by
    cases pk with
    | false =>
      obtain ⟨afs, hf, hn, hl, hA, hB⟩ := hF pi fst a0
      exact ⟨afs, hf, hl, hB, fun _ => ⟨hn, hA⟩⟩
    | true =>
      obtain rfl := hpi rfl
      obtain ⟨afs, hf, hl, hB⟩ := hK (hk rfl) fst a0
      exact ⟨afs, hf, hl, hB, nofun⟩
  refine ⟨.record afs, [], .bare (by simp only [fmtValue, hf, finish, Bool.false_eq_true, if_false])
    (fun c hc => ?_) fun hpk _ => ?_⟩
  · simp [convertAny, hc.1, hl, hB, (tvsOf_spec fs vs hv).2, strip, bind, Except.bind, pure, Except.pure]
  · obtain ⟨hn, hA⟩ := hA hpk
    simp [convertAny, hA, hn, (tvsOf_spec fs vs hv).1, mkFields_self, hw'.2, (tvsOf_spec fs vs hv).2, strip, bind,
      Except.bind, pure, Except.pure]

theorem foldl_insertUniq_same (et : Ty) : (n : Nat) →
    (List.replicate n et).foldl (fun acc t => insertUniq t acc) [et] = [et]
  | 0 => rfl
  | n + 1 => by simp [List.replicate, insertUniq, foldl_insertUniq_same et n]

theorem uniqueTypes_const {α} (et : Ty) (l : List α) (hne : l ≠ []) :
    uniqueTypes (l.map (fun _ => et)) = if et = tyNull then [] else [et] := by
  unfold uniqueTypes
  rw [List.map_const']
  by_cases hn : et = tyNull
  · subst hn; simp
  · have : (List.replicate l.length et).filter (· != tyNull) = List.replicate l.length et := by
      apply List.filter_eq_self.mpr
      intro x hx
      have := List.eq_of_mem_replicate hx
      simp [this, hn]
    rw [this]
    cases l with
    | nil => exact absurd rfl hne
    | cons a r =>
      simp only [List.length_cons, List.replicate, List.foldl, insertUniq, hn, if_false]
      exact foldl_insertUniq_same et r.length

theorem norm_nonunion {α} (et : Ty) (l : List α) (f : α → Val) (hne : l ≠ []) :
    normalizeElems (l.map (fun v => (et, f v))) = .ok (l.map f, et) := by
  unfold normalizeElems
  have h1 : (l.map (fun v => (et, f v))).map (·.1) = l.map (fun _ => et) := by simp [List.map_map, Function.comp_def]
  have h2 : (l.map (fun v => (et, f v))).map (·.2) = l.map f := by simp [List.map_map, Function.comp_def]
  rw [h1, h2, uniqueTypes_const et l hne]
  by_cases hn : et = tyNull
  · subst hn; simp
  · simp [hn]

theorem wf_tyNull (v : Val) (h : wfVal tyNull v = true) : v = .null := by
  cases v <;> simp_all [wfVal, tyNull, primOK]
  all_goals (exact absurd h.1.1 (by decide))

theorem get?_mem : (ts : Tys) → (n : Nat) → (m : Ty) → ts.get? n = some m → m ∈ ts.toList
  | .cons t r, 0, m, h => by simp [Tys.get?] at h; simp [Tys.toList, h]
  | .cons t r, n + 1, m, h => by
    simp only [Tys.get?] at h
    simp [Tys.toList, get?_mem r n m h]
  | .nil, _, _, h => by simp [Tys.get?] at h

theorem indexOf_get? : (ts : Tys) → (n : Nat) → (m : Ty) → chain ts.toList = true → ts.get? n = some m →
    ts.indexOf m = some n
  | .cons t r, 0, m, _, h => by simp [Tys.get?] at h; simp [Tys.indexOf, h]
  | .cons t r, n + 1, m, hc, h => by
    simp only [Tys.get?] at h
    simp only [Tys.toList, chain, Bool.and_eq_true] at hc
    have hm := get?_mem r n m h
    have hne := (chainFrom_mem t r.toList hc.1 m hm).2.2
    simp [Tys.indexOf, hne, indexOf_get? r n m hc.2 h]
  | .nil, _, _, _, h => by simp [Tys.get?] at h

/-- the member type an element of a union container is analysed to. -/
def elemTy (ts : Tys) : Val → Ty
  | .union tag _ => (ts.get? tag).getD tyNull
  | _ => tyNull

theorem expA_union_fst (ts : Tys) (v : Val) : (expA (.union ts) v true).1 = elemTy ts v := by
  cases v <;> simp [expA, Ty.isUnion, elemTy]

theorem seen_props (ts : Tys) : (vs : Vals) → (acc : List Ty) → acc.Nodup →
    (seenTypes (.union ts) vs acc).Nodup ∧
    ∀ x ∈ seenTypes (.union ts) vs acc, x ∈ acc ∨ ∃ v ∈ vs.toList, elemMember (.union ts) v = some x
  | .nil, acc, h => by
    simp only [seenTypes]
    exact ⟨h, fun x hx => Or.inl hx⟩
  | .cons v r, acc, h => by
    simp only [seenTypes]
    have hn : (seenAdd acc (elemMember (.union ts) v)).Nodup := by
      unfold seenAdd
      cases hm : elemMember (.union ts) v with
      | none => exact h
      | some t =>
        simp only
        split
        · exact h
        · rename_i hc
          exact List.nodup_cons.mpr ⟨by simpa using hc, h⟩
    obtain ⟨h1, h2⟩ := seen_props ts r _ hn
    refine ⟨h1, fun x hx => ?_⟩
    rcases h2 x hx with h3 | ⟨w, hw, he⟩
    · unfold seenAdd at h3
      cases hm : elemMember (.union ts) v with
      | none => rw [hm] at h3; exact Or.inl h3
      | some t =>
        rw [hm] at h3
        simp only at h3
        split at h3
        · exact Or.inl h3
        · rcases List.mem_cons.mp h3 with h4 | h4
          · exact Or.inr ⟨v, by simp [Vals.toList], by rw [hm, h4]⟩
          · exact Or.inl h4
    · exact Or.inr ⟨w, by simp [Vals.toList, hw], he⟩

theorem Tys.toList_length : (ts : Tys) → ts.toList.length = ts.length
  | .nil => rfl
  | .cons _ r => by simp [Tys.toList, Tys.length, Tys.toList_length r]

theorem wfElems_mem (et : Ty) : (vs : Vals) → wfElems et vs = true → ∀ v ∈ vs.toList, wfVal et v = true
  | .nil, _, v, hv => by simp [Vals.toList] at hv
  | .cons x r, h, v, hv => by
    simp only [wfElems, Bool.and_eq_true] at h
    rcases List.mem_cons.mp (by simpa [Vals.toList] using hv) with rfl | h2
    · exact h.1
    · exact wfElems_mem et r h.2 v h2

theorem norm_union (ts : Tys) (vs : Vals) (hw : wfTy (.union ts) = true)
    (hv : wfElems (.union ts) vs = true)
    (hseen : needsDecoration (.union ts) (seenTypes (.union ts) vs []) = false) :
    normalizeElems (vs.toList.map (fun v => expA (.union ts) v true)) =
      .ok (vs.toList.map strip, .union ts) := by
  simp only [wfTy, Bool.and_eq_true, decide_eq_true_eq] at hw
  obtain ⟨⟨_, hlen⟩, hchain⟩ := hw
  -- elements are nulls or tagged members
  have helems : ∀ v ∈ vs.toList, v = .null ∨ ∃ tag inner m, v = .union tag inner ∧ ts.get? tag = some m ∧ m ≠ tyNull := by
    intro v hvm
    have hwv := wfElems_mem _ vs hv v hvm
    cases hnv : v.isNull
    · cases shaped_of_wf hwv hnv with
      | union _ tag inner =>
        simp only [wfVal, Bool.and_eq_true, bne_iff_ne, ne_eq] at hwv
        cases hg : ts.get? tag with
        | none => simp [hg] at hwv
        | some m =>
          simp only [hg] at hwv
          refine Or.inr ⟨tag, inner, m, rfl, hg, ?_⟩
          intro hm; subst hm
          exact hwv.1 (wf_tyNull inner hwv.2)
    · exact Or.inl (by cases v <;> first | rfl | cases hnv)
  -- the seen set covers every member
  have hsp := seen_props ts vs [] List.nodup_nil
  have hcov : ∀ m ∈ ts.toList, m ∈ seenTypes (.union ts) vs [] := by
    apply covers_of_length _ _ hsp.1
    · intro x hx
      rcases hsp.2 x hx with h | ⟨v, hvm, he⟩
      · simp at h
      · rcases helems v hvm with rfl | ⟨tag, inner, m, rfl, hg, _⟩
        · simp [elemMember] at he
        · simp only [elemMember, hg, Option.some.injEq] at he
          subst he; exact get?_mem ts tag m hg
    · simp only [needsDecoration, Ty.under, unionLen, Ty.isNamed, Bool.false_or, decide_eq_false_iff_not,
        Nat.not_lt] at hseen
      have := Tys.toList_length ts
      omega
  -- types of the analysed elements
  let L := vs.toList.map (elemTy ts)
  have hL : (vs.toList.map (fun v => expA (.union ts) v true)).map (·.1) = L := by
    simp [L, List.map_map, Function.comp_def, expA_union_fst]
  have h1 : ∀ x ∈ L.filter (· != tyNull), x ∈ ts.toList := by
    intro x hx
    obtain ⟨hxL, hxn⟩ := List.mem_filter.mp hx
    obtain ⟨v, hvm, rfl⟩ := List.mem_map.mp hxL
    rcases helems v hvm with rfl | ⟨tag, inner, m, rfl, hg, _⟩
    · simp [elemTy] at hxn
    · simp only [elemTy, hg, Option.getD_some]; exact get?_mem ts tag m hg
  have h2 : ∀ m ∈ ts.toList, m ∈ L.filter (· != tyNull) := by
    intro m hm
    rcases hsp.2 m (hcov m hm) with h | ⟨v, hvm, he⟩
    · simp at h
    · rcases helems v hvm with rfl | ⟨tag, inner, m', rfl, hg, hne⟩
      · simp [elemMember] at he
      · simp only [elemMember, hg, Option.some.injEq] at he
        subst he
        apply List.mem_filter.mpr
        refine ⟨List.mem_map.mpr ⟨_, hvm, by simp [elemTy, hg]⟩, by simpa using hne⟩
  have huniq : uniqueTypes L = ts.toList := by
    unfold uniqueTypes
    exact foldl_insertUniq_eq ts.toList hchain _ h1 h2
  -- at least two members
  have hlen2 : 2 ≤ ts.toList.length := by
    have := Tys.toList_length ts
    omega
  match hts : ts.toList, hlen2 with
  | a :: b :: rest, _ =>
    rw [normalizeElems_many _ (by rw [hL, huniq, hts]) (by rw [← hts]; exact lookupUnion_chain ts hchain),
      mapM_convertUnion ts _ (by
        intro tv htv
        obtain ⟨v, hvm, rfl⟩ := List.mem_map.mp htv
        rcases helems v hvm with rfl | ⟨tag, inner, m, rfl, hg, hne⟩
        · exact .inl (by simp [expA, Ty.isUnion])
        · exact .inr ⟨tag, by simp [expA, Ty.isUnion, hg, indexOf_get? ts tag m hchain hg]⟩)]
    simp only [Except.map, List.map_map]
    congr 2
    apply List.map_congr_left
    intro v hvm
    rcases helems v hvm with rfl | ⟨tag, inner, m, rfl, hg, hne⟩
    · simp [expA, Ty.isUnion, strip]
    · simp [expA, Ty.isUnion, strip, hg, hne, indexOf_get? ts tag m hchain hg]

theorem tyNull_ne_map (k v : Ty) : Ty.map k v ≠ tyNull := by simp [tyNull]

theorem needsDecoration_notUnion (et : Ty) (seen : List Ty) (hp : plainTy et = true) (h : et.isUnion = false) :
    needsDecoration et seen = false :=
  needsDecoration_underNotUnion et seen (by rw [under_plain et hp]; exact h)

/-- `normalizeElems` on the analysed elements of a container that needs no decorator. -/
theorem norm_elems (et : Ty) (vs : Vals) (hne : vs.toList ≠ []) (hwe : wfTy et = true)
    (hv : wfElems et vs = true) (hnd : needsDecoration et (seenTypes et vs []) = false) :
    normalizeElems (vs.toList.map (fun v => expA et v true)) = .ok (vs.toList.map strip, et) := by
  by_cases hun : et.isUnion = true
  · obtain ⟨ts, rfl⟩ : ∃ ts, et = .union ts := by
      cases et <;> simp_all [Ty.isUnion]
    exact norm_union ts vs hwe hv hnd
  · have hun' : et.isUnion = false := by simpa using hun
    simp only [expA_notUnion et _ true hun']
    exact norm_nonunion et _ strip hne

theorem goodP_vec (s : Bool) (et : Ty) (vs : Vals) (hp : plainTy et = true)
    (hw : wfTy et = true) (hv : wfElems et vs = true)
    (hE : GoodElems et vs) (hK : noUnionElems et = true → et.isUnion = false → KGoodElems et vs) :
    GoodP (vecTy s et) (vecVal s vs) := by
  have hpt : plainTy (vecTy s et) = true := by cases s <;> exact hp
  have hwt : wfTy (vecTy s et) = true := by cases s <;> exact hw
  have hnn : vecTy s et ≠ tyNull := by cases s <;> simp [vecTy, tyNull]
  have hst : strip (vecVal s vs) = vecVal s (stripVals vs) := by cases s <;> simp [vecVal, strip]
  have hod : noOwnDeco (vecTy s et) (vecVal s vs) = !needsDecoration et (seenTypes et vs []) := by cases s <;> rfl
  refine goodP_of_any hpt hwt (by cases s <;> rfl) (by cases s <;> constructor) fun pk hk pi fst a0 hpi => ?_
  obtain ⟨asts, hf, hB, hA, hnd⟩ : ∃ asts, fmtElems fst et vs (pk || fst.hasName (vecTy s et)) pi = (fst, asts) ∧
      convertElems a0 asts (some et) = .ok (a0, vs.toList.map (fun v => (et, strip v))) ∧
      (pk = false → convertElems a0 asts none = .ok (a0, vs.toList.map (fun v => expA et v true))) ∧
      (pk = true → needsDecoration et (seenTypes et vs []) = false) := by
    cases pk with
    | false =>
      obtain ⟨asts, hf, hA, hB⟩ := hE pi fst a0
      exact ⟨asts, by rw [hasName_plain fst _ hpt]; exact hf, hB, fun _ => hA, nofun⟩
    | true =>
      obtain rfl := hpi rfl
      have hk' : et.isUnion = false ∧ noUnionElems et = true := by
        have := hk rfl
        cases s <;> simpa [vecTy, noUnionElems] using this
      obtain ⟨asts, hf, hB⟩ := hK hk'.2 hk'.1 fst a0
      exact ⟨asts, hf, hB, nofun, fun _ => needsDecoration_notUnion et _ hp hk'.1⟩
  refine ⟨vecAny s asts,
    if (!emptyC (vecVal s vs) && needsDecoration et (seenTypes et vs [])) = true then [.cast (tyAst (vecTy s et))] else [],
    { fmt := ?_, own := ?_, none_if := ?_, under := fun c hc => ?_, infer := fun hpk h0 hd => ?_ }⟩
  · rw [fmtValue_vec, hf]
    simp only [finish, Bool.false_eq_true, if_false]
    split
    · rw [decorateM_plain fst _ true hpt, decoP_null_eq, if_neg hnn]
    · rfl
  · intro d hd
    split at hd
    · exact List.mem_singleton.mp hd
    · cases hd
  · rintro (h | h)
    · simp [hnd h]
    · simp [show needsDecoration et (seenTypes et vs []) = false by simpa [hod] using h]
  · rw [convertAny_vec_some s a0 asts _ et hc.1, hB, hst]
    simp [Except.bind, List.map_map, Function.comp_def, ofList_map_strip]
  · -- no decorator at all: not empty, element types fully populated
    cases vs with
    | nil => simp [show emptyC (vecVal s .nil) = true by cases s <;> rfl, decoP_null_eq, hnn] at hd
    | cons x r =>
      have hnd' : needsDecoration et (seenTypes et (.cons x r) []) = false := by
        simpa [show emptyC (vecVal s (.cons x r)) = false by cases s <;> rfl] using h0
      have hne : ((Vals.cons x r).toList.map (fun v => expA et v true)).isEmpty = false := by
        simp [Vals.toList]
      rw [convertAny_vec_none, hA hpk]
      simp only [Except.bind, hne, norm_elems et (.cons x r) (by simp [Vals.toList]) hw hv hnd', hst]
      simp [ofList_map_strip]

theorem seenKeys_eq (kt : Ty) : (es : Entries) → (acc : List Ty) →
    seenKeys kt es acc = seenTypes kt (Vals.ofList (entryKeys es)) acc
  | .nil, _ => rfl
  | .cons k _ r, acc => by simp [seenKeys, entryKeys, Vals.ofList, seenTypes, seenKeys_eq kt r]

theorem seenVals_eq (vt : Ty) : (es : Entries) → (acc : List Ty) →
    seenVals vt es acc = seenTypes vt (Vals.ofList (entryVals es)) acc
  | .nil, _ => rfl
  | .cons _ v r, acc => by simp [seenVals, entryVals, Vals.ofList, seenTypes, seenVals_eq vt r]

theorem Vals.toList_ofList : (l : List Val) → (Vals.ofList l).toList = l
  | [] => rfl
  | v :: r => by simp [Vals.ofList, Vals.toList, Vals.toList_ofList r]

theorem wfEntries_keys (kt vt : Ty) : (es : Entries) → wfEntries kt vt es = true →
    wfElems kt (Vals.ofList (entryKeys es)) = true ∧ wfElems vt (Vals.ofList (entryVals es)) = true
  | .nil, _ => by simp [entryKeys, entryVals, Vals.ofList, wfElems]
  | .cons k v r, h => by
    simp only [wfEntries, Bool.and_eq_true] at h
    have := wfEntries_keys kt vt r h.2
    simp [entryKeys, entryVals, Vals.ofList, wfElems, h.1.1, h.1.2, this.1, this.2]

theorem entriesOf_strip : (es : Entries) →
    entriesOf ((entryKeys es).map strip) ((entryVals es).map strip) = stripEntries es
  | .nil => rfl
  | .cons k v r => by simp [entryKeys, entryVals, entriesOf, stripEntries, entriesOf_strip r]

theorem goodP_map (kt vt : Ty) (es : Entries) (hp : plainTy (.map kt vt) = true)
    (hw : wfTy (.map kt vt) = true) (hv : wfVal (.map kt vt) (.map es) = true)
    (hE : GoodEntries kt vt es)
    (hK : noUnionElems (.map kt vt) = true → KGoodEntries kt vt es) : GoodP (.map kt vt) (.map es) := by
  simp only [wfVal] at hv
  have hwk : wfTy kt = true ∧ wfTy vt = true := by simpa [wfTy] using hw
  have hpk : plainTy kt = true ∧ plainTy vt = true := by simpa [plainTy] using hp
  refine goodP_of_any hp hw rfl (.map kt vt es) fun pk hk pi fst a0 hpi => ?_
  obtain ⟨aes, hf, hB, hA, hnd⟩ : ∃ aes, fmtEntries fst kt vt es (pk || fst.hasName (.map kt vt)) pi = (fst, aes) ∧
      convertEntries a0 aes (some (kt, vt)) =
        .ok (a0, (entryKeys es).map (fun v => (kt, strip v)), (entryVals es).map (fun v => (vt, strip v))) ∧
      (pk = false → convertEntries a0 aes none =
        .ok (a0, (entryKeys es).map (fun v => expA kt v true), (entryVals es).map (fun v => expA vt v true))) ∧
      (pk = true → noOwnDeco (.map kt vt) (.map es) = true) := by
    cases pk with
    | false =>
      obtain ⟨aes, hf, hA, hB⟩ := hE pi fst a0
      exact ⟨aes, hf, hB, fun _ => hA, nofun⟩
    | true =>
      obtain rfl := hpi rfl
      have hk' := hk rfl
      obtain ⟨aes, hf, hB⟩ := hK hk' fst a0
      simp only [noUnionElems, Bool.and_eq_true, Bool.not_eq_true'] at hk'
      exact ⟨aes, hf, hB, nofun, fun _ => by
        simp [noOwnDeco, needsDecoration_notUnion kt _ hpk.1 hk'.1.1.1, needsDecoration_notUnion vt _ hpk.2 hk'.1.1.2]⟩
  refine ⟨.map aes,
    if (needsDecoration kt (seenKeys kt es []) || needsDecoration vt (seenVals vt es [])) = true
      then [.cast (tyAst (.map kt vt))] else [],
    { fmt := ?_, own := ?_, none_if := ?_, under := fun c hc => ?_, infer := fun hpk h0 hd => ?_ }⟩
  · simp only [fmtValue, hf, finish, Bool.false_eq_true, if_false]
    split
    · rw [decorateM_plain fst _ true hp, decoP_null_eq, if_neg (tyNull_ne_map kt vt)]
    · rfl
  · intro d hd
    split at hd
    · exact List.mem_singleton.mp hd
    · cases hd
  · intro h
    have : noOwnDeco (.map kt vt) (.map es) = true := h.elim hnd id
    rw [if_neg (by simpa [noOwnDeco] using this)]
  · simp [convertAny, hc.1, hB, strip, bind, Except.bind, pure, Except.pure, List.map_map, Function.comp_def,
      entriesOf_strip]
  · -- no decorator at all: not empty, key and value types fully populated
    cases es with
    | nil => simp [emptyC, decoP_null_eq, tyNull_ne_map] at hd
    | cons k v r =>
      have hnd' : needsDecoration kt (seenKeys kt (.cons k v r) []) = false ∧
          needsDecoration vt (seenVals vt (.cons k v r) []) = false := by
        split at h0
        · cases h0
        · rename_i h
          exact Bool.or_eq_false_iff.mp (Bool.eq_false_iff.mpr h)
      have hwe := wfEntries_keys kt vt _ hv
      have hk := norm_elems kt (Vals.ofList (entryKeys (.cons k v r))) (by simp [entryKeys, Vals.ofList, Vals.toList])
        hwk.1 hwe.1 (by rw [← seenKeys_eq]; exact hnd'.1)
      have hvv := norm_elems vt (Vals.ofList (entryVals (.cons k v r))) (by simp [entryVals, Vals.ofList, Vals.toList])
        hwk.2 hwe.2 (by rw [← seenVals_eq]; exact hnd'.2)
      rw [Vals.toList_ofList] at hk hvv
      have hne : ((entryKeys (Entries.cons k v r)).map (fun v => expA kt v true)).isEmpty = false := by
        simp [entryKeys]
      simp only [convertAny, hA hpk, bind, Except.bind, pure, Except.pure, hne, hk, hvv]
      simp [entriesOf_strip, strip]

theorem plainTys_get : (ts : Tys) → (n : Nat) → (m : Ty) → plainTys ts = true → ts.get? n = some m → plainTy m = true
  | .cons t r, 0, m, h, hg => by
    simp only [plainTys, Bool.and_eq_true] at h
    simp [Tys.get?] at hg; subst hg; exact h.1
  | .cons t r, n + 1, m, h, hg => by
    simp only [plainTys, Bool.and_eq_true] at h
    simp only [Tys.get?] at hg
    exact plainTys_get r n m h.2 hg
  | .nil, _, _, _, hg => by simp [Tys.get?] at hg

theorem wfTys_get : (ts : Tys) → (n : Nat) → (m : Ty) → wfTys ts = true → ts.get? n = some m → wfTy m = true
  | .cons t r, 0, m, h, hg => by
    simp only [wfTys, Bool.and_eq_true] at h
    simp [Tys.get?] at hg; subst hg; exact h.1
  | .cons t r, n + 1, m, h, hg => by
    simp only [wfTys, Bool.and_eq_true] at h
    simp only [Tys.get?] at hg
    exact wfTys_get r n m h.2 hg
  | .nil, _, _, _, hg => by simp [Tys.get?] at hg

theorem noUnionElemsT_get : (ts : Tys) → (n : Nat) → (m : Ty) → noUnionElemsT ts = true → ts.get? n = some m →
    noUnionElems m = true
  | .cons t r, 0, m, h, hg => by
    simp only [noUnionElemsT, Bool.and_eq_true] at h
    simp [Tys.get?] at hg; subst hg; exact h.1
  | .cons t r, n + 1, m, h, hg => by
    simp only [noUnionElemsT, Bool.and_eq_true] at h
    simp only [Tys.get?] at hg
    exact noUnionElemsT_get r n m h.2 hg
  | .nil, _, _, _, hg => by simp [Tys.get?] at hg

/-- a non-null value of the member `tag` is taken into the union (under any names `c`) with that tag. -/
theorem convertUnion_member (ts : Tys) (tag : Nat) (m : Ty) (inner : Val) (c : Ty)
    (hchain : chain ts.toList = true) (hg : ts.get? tag = some m) (hnn : inner ≠ .null)
    (hvi : wfVal m inner = true) :
    convertUnion (m, strip inner) ts c = .ok (c, .union tag (strip inner)) := by
  have hmn : m ≠ tyNull := fun h => by subst h; exact hnn (wf_tyNull inner hvi)
  simp [convertUnion, hmn, indexOf_get? ts tag m hchain hg]

theorem union_reads (a0 : AState) (ts : Tys) (tag : Nat) (inner : Val) (m c : Ty) (any : AAny) (ds : List Deco)
    (hw : wfTy (.union ts) = true) (hc : unionMembers c.under = some ts)
    (hg : ts.get? tag = some m) (hnn : inner ≠ .null) (hvi : wfVal m inner = true)
    (hd : ∀ d ∈ ds, GoodDeco d) (hA : convertValue a0 (mkVal any ds) none = .ok (a0, expA m inner false)) :
    convertValue a0 (mkVal any ds) (some c) = .ok (a0, (c, .union tag (strip inner))) := by
  simp only [wfTy, Bool.and_eq_true, decide_eq_true_eq] at hw
  rw [convertValue_union_parent a0 c ts hc _ (mkVal_not_def any ds hd), hA]
  simp [expA, Except.bind, convertUnion_member ts tag m inner c hw.2 hg hnn hvi, Except.map]

theorem good_union (ts : Tys) (tag : Nat) (inner : Val) (m : Ty) (e : Bool)
    (hp : plainTy (.union ts) = true) (hw : wfTy (.union ts) = true)
    (hg : ts.get? tag = some m) (hnn : inner ≠ .null) (hvi : wfVal m inner = true)
    (hI : GoodV m inner false) : GoodV (.union ts) (.union tag inner) e := by
  intro pi fst a0
  have hun {any ds} (hd : ∀ d ∈ ds, GoodDeco d)
      (hA : convertValue a0 (mkVal any ds) none = .ok (a0, expA m inner false)) :=
    union_reads a0 ts tag inner m (.union ts) any ds hw rfl hg hnn hvi hd hA
  cases e with
  | true =>
    obtain ⟨any, ds, hf, hd, hA, _⟩ := hI pi fst a0
    refine ⟨any, ds, by simp [fmtValue, hg, hf], hd, ?_, fun _ => hun hd hA⟩
    rw [hA]; simp [expA, Ty.isUnion, hg]
  | false =>
    obtain ⟨any, ds, hf, hd, hA, _⟩ := hI true fst a0
    have hfmt : fmtValue fst (.union ts) (.union tag inner) false pi true false =
        (fst, any, ds ++ [.cast (tyAst (.union ts))]) := by
      simp [fmtValue, hg, hf, finish, decorateM_plain fst _ false hp, decoP, implied, selfDescribing]
    refine ⟨any, _, hfmt, ?_, ?_, fun h => by simp [Ty.isUnion] at h⟩
    · intro d hdm
      rcases List.mem_append.mp hdm with h | h
      · exact hd d h
      · simp at h; subst h; exact ⟨_, hp, hw, rfl⟩
    · rw [mkVal_append_cast any _ ds (fun x hx => (hd x hx).isCast),
        conv_cast_none a0 a0 _ _ _ (preDefs_mkVal a0 any ds hd) (convertType_plain a0 _ hp hw) (mkVal_not_def any ds hd),
        hun hd hA]
      simp [expA, Ty.isUnion, strip]

/-- a union-typed value before `decorate`, in either mode: the member is written the ordinary way
    (`formatUnion` resets `known` and sets `parentImplied`), and whatever encloses it supplies the union. -/
theorem und_union (pk : Bool) (ts : Tys) (tag : Nat) (inner : Val) (m : Ty)
    (hw : wfTy (.union ts) = true) (hg : ts.get? tag = some m) (hnn : inner ≠ .null)
    (hvi : wfVal m inner = true) (hI : GoodV m inner false) : Und pk (.union ts) (.union tag inner) := by
  intro pi fst a0 _
  obtain ⟨any, ds, hf, hd, hA, _⟩ := hI true fst a0
  exact ⟨any, ds, by cases pk <;> simp [fmtValue, hg, hf, finish], hd, fun c hc _ =>
    union_reads a0 ts tag inner m c any ds hw (by rw [hc.1]; rfl) hg hnn hvi hd hA⟩

theorem goodP_union (ts : Tys) (tag : Nat) (inner : Val) (m : Ty)
    (hp : plainTy (.union ts) = true) (hw : wfTy (.union ts) = true)
    (hg : ts.get? tag = some m) (hnn : inner ≠ .null) (hvi : wfVal m inner = true)
    (hI : GoodV m inner false) : GoodP (.union ts) (.union tag inner) :=
  ⟨fun e => good_union ts tag inner m e hp hw hg hnn hvi hI, und_union false ts tag inner m hw hg hnn hvi hI,
    fun _ => und_union true ts tag inner m hw hg hnn hvi hI⟩

theorem goodP_error (u : Ty) (v' : Val) (hp : plainTy (.error u) = true) (hw : wfTy (.error u) = true)
    (hnn : v'.isNull = false) (hvi : wfVal u v' = true) (hbe : bareEmpty v' = false)
    (hI : GoodP u v') : GoodP (.error u) (.error v') := by
  refine goodP_of_any hp hw rfl (.error u v') fun pk hk pi fst a0 hpi => ?_
  obtain ⟨any, ds0, hf, hB⟩ : ∃ any ds0, fmtValue fst u v' (pk || fst.hasName (.error u)) pi false false = (fst, any, ds0) ∧
      convertValue a0 (mkVal any ds0) (some u) = .ok (a0, (u, strip v')) := by
    cases pk with
    | false =>
      obtain ⟨any, ds0, hf, _, hB0⟩ := hI.und pi fst a0 nofun
      exact ⟨any, ds0, hf, hB0 u (CastOf.refl u hp) (.inr (.inl rfl))⟩
    | true =>
      obtain ⟨any, ds0, hf, _, hB0⟩ := hI.known (hk rfl) pi fst a0 hpi
      exact ⟨any, ds0, hf, hB0 u (CastOf.refl u hp) (.inl rfl)⟩
  refine ⟨.error (mkVal any ds0), [], .bare (by simp only [fmtValue, hf, finish, Bool.false_eq_true, if_false])
    (fun c hc => ?_) fun hpk hdp => ?_⟩
  · simp [convertAny, hc.1, hB, strip, bind, Except.bind, pure, Except.pure]
  · -- no decorator on `error(u)`: `u` is implied, the inner value was read by inference
    subst hpk
    have hi : implied u = true := by
      by_contra hi
      simp [decoP, emptyC, implied, selfDescribing, hi] at hdp
    obtain ⟨any', ds, hf', _, hA, _⟩ := hI.dec false pi fst a0
    have hsplit := fmt_deco_split fst u v' pi hp hvi hnn hbe
    have hf0 : fmtValue fst u v' false pi false false = (fst, any, ds0) := by
      simpa [hasName_plain fst _ hp] using hf
    rw [hf', hf0, show decoP u false = [] by simp [decoP, hi], List.append_nil] at hsplit
    simp only [Prod.mk.injEq] at hsplit
    obtain ⟨_, rfl, rfl⟩ := hsplit
    simp [convertAny, hA, expA, strip, bind, Except.bind, pure, Except.pure]

mutual
/-- every well-formed value of a plain type formats to syntax that analyses back to it, in each of `GoodP`'s readings. -/
theorem goodP_all : (v : Val) → ∀ (t : Ty), plainTy t = true → wfTy t = true → wfVal t v = true →
    errOK v = true → GoodP t v
  | .null, t, hp, hw, _, _ => goodP_null t hp hw
  | .prim text, _, _, _, hv, _ => by
    cases shaped_of_wf hv rfl with
    | prim id _ => exact goodP_prim id text hv
  | .typeval ty, _, _, _, hv, _ => by
    cases shaped_of_wf hv rfl with
    | typeval id _ => exact goodP_typeval id ty hv
  | .enum sel, _, _, hw, hv, _ => by
    cases shaped_of_wf hv rfl with
    | enum syms _ => exact goodP_enum syms sel hw hv
  | .record vs, _, hp, hw, hv, he => by
    cases shaped_of_wf hv rfl with
    | record fs _ =>
      have hw' : wfFields fs = true := by
        simp only [wfTy, Bool.and_eq_true] at hw; exact hw.1
      exact goodP_record fs vs hp hw hv (goodFields_all vs fs hp hw' hv he)
        (fun hk => kgoodFields_all vs fs hp hw' hk hv he)
  | .array vs, _, hp, hw, hv, he => by
    cases shaped_of_wf hv rfl with
    | array et _ =>
      exact goodP_vec false et vs hp hw hv (goodElems_all vs et hp hw hv he)
        (fun hk hu => kgoodElems_all vs et hp hw hk hu hv he)
  | .set vs, _, hp, hw, hv, he => by
    cases shaped_of_wf hv rfl with
    | set et _ =>
      exact goodP_vec true et vs hp hw hv (goodElems_all vs et hp hw hv he)
        (fun hk hu => kgoodElems_all vs et hp hw hk hu hv he)
  | .map es, _, hp, hw, hv, he => by
    cases shaped_of_wf hv rfl with
    | map kt vt _ =>
      have hp' : plainTy kt = true ∧ plainTy vt = true := by simpa [plainTy] using hp
      have hw' : wfTy kt = true ∧ wfTy vt = true := by simpa [wfTy] using hw
      refine goodP_map kt vt es hp hw hv (goodEntries_all es kt vt hp'.1 hp'.2 hw'.1 hw'.2 hv he) fun hk => ?_
      simp only [noUnionElems, Bool.and_eq_true, Bool.not_eq_true'] at hk
      exact kgoodEntries_all es kt vt hp'.1 hp'.2 hw'.1 hw'.2 hk.1.2 hk.2 hk.1.1.1 hk.1.1.2 hv he
  | .union tag inner, _, hp, hw, hv, he => by
    cases shaped_of_wf hv rfl with
    | union ts _ _ =>
      simp only [wfVal, Bool.and_eq_true, bne_iff_ne, ne_eq] at hv
      cases hg : ts.get? tag with
      | none => simp [hg] at hv
      | some m =>
        simp only [hg] at hv
        have hpm := plainTys_get ts tag m hp hg
        have hwm := wfTys_get ts tag m (by simp only [wfTy, Bool.and_eq_true] at hw; exact hw.1.1) hg
        exact goodP_union ts tag inner m hp hw hg hv.1 hv.2 ((goodP_all inner m hpm hwm hv.2 he).dec false)
  | .error v, _, hp, hw, hv, he => by
    cases shaped_of_wf hv rfl with
    | error u _ =>
      simp only [wfVal, Bool.and_eq_true, bne_iff_ne, ne_eq] at hv
      simp only [errOK, Bool.and_eq_true, Bool.not_eq_true'] at he
      exact goodP_error u v hp hw (isNull_of_ne_null hv.1) hv.2 he.1 (goodP_all v u hp hw hv.2 he.2)
  | .named v, _, hp, _, hv, _ => by
    cases shaped_of_wf hv rfl with
    | named n u _ => cases hp
theorem goodFields_all : (vs : Vals) → ∀ (fs : Fields), plainFields fs = true → wfFields fs = true →
    wfVals fs vs = true → errOKs vs = true → GoodFields fs vs
  | .nil, fs, _, _, hv, _ => by
    cases fs with
    | nil => exact goodFields_nil
    | cons _ _ _ => simp [wfVals] at hv
  | .cons v vr, fs, hp, hw, hv, he => by
    simp only [errOKs, Bool.and_eq_true] at he
    cases fs with
    | nil => simp [wfVals] at hv
    | cons n t fr =>
      simp only [plainFields, Bool.and_eq_true, Bool.not_eq_true'] at hp
      simp only [wfFields, Bool.and_eq_true] at hw
      simp only [wfVals, Bool.and_eq_true] at hv
      exact goodFields_cons n t fr v vr hp.1.2 ((goodP_all v t hp.1.1 hw.1 hv.1 he.1).dec false)
        (goodFields_all vr fr hp.2 hw.2 hv.2 he.2)
theorem goodElems_all : (vs : Vals) → ∀ (et : Ty), plainTy et = true → wfTy et = true →
    wfElems et vs = true → errOKs vs = true → GoodElems et vs
  | .nil, et, _, _, _, _ => goodElems_nil et
  | .cons v vr, et, hp, hw, hv, he => by
    simp only [wfElems, Bool.and_eq_true] at hv
    simp only [errOKs, Bool.and_eq_true] at he
    exact goodElems_cons et v vr ((goodP_all v et hp hw hv.1 he.1).dec true) (goodElems_all vr et hp hw hv.2 he.2)
theorem goodEntries_all : (es : Entries) → ∀ (kt vt : Ty), plainTy kt = true → plainTy vt = true →
    wfTy kt = true → wfTy vt = true → wfEntries kt vt es = true → errOKe es = true → GoodEntries kt vt es
  | .nil, kt, vt, _, _, _, _, _, _ => goodEntries_nil kt vt
  | .cons k v r, kt, vt, hpk, hpv, hwk, hwv, hv, he => by
    simp only [wfEntries, Bool.and_eq_true] at hv
    simp only [errOKe, Bool.and_eq_true] at he
    exact goodEntries_cons kt vt k v r ((goodP_all k kt hpk hwk hv.1.1 he.1.1).dec true)
      ((goodP_all v vt hpv hwv hv.1.2 he.1.2).dec true) (goodEntries_all r kt vt hpk hpv hwk hwv hv.2 he.2)
theorem kgoodFields_all : (vs : Vals) → ∀ (fs : Fields), plainFields fs = true → wfFields fs = true →
    noUnionElemsF fs = true → wfVals fs vs = true → errOKs vs = true → KGoodFields fs vs
  | .nil, fs, _, _, _, hv, _ => by
    cases fs with
    | nil => exact kgoodFields_nil
    | cons _ _ _ => simp [wfVals] at hv
  | .cons v vr, fs, hp, hw, hk, hv, he => by
    simp only [errOKs, Bool.and_eq_true] at he
    cases fs with
    | nil => simp [wfVals] at hv
    | cons n t fr =>
      simp only [plainFields, Bool.and_eq_true, Bool.not_eq_true'] at hp
      simp only [wfFields, Bool.and_eq_true] at hw
      simp only [noUnionElemsF, Bool.and_eq_true] at hk
      simp only [wfVals, Bool.and_eq_true] at hv
      exact kgoodFields_cons n t fr v vr hp.1.1 hv.1 ((goodP_all v t hp.1.1 hw.1 hv.1 he.1).known hk.1)
        (kgoodFields_all vr fr hp.2 hw.2 hk.2 hv.2 he.2)
theorem kgoodElems_all : (vs : Vals) → ∀ (et : Ty), plainTy et = true → wfTy et = true →
    noUnionElems et = true → et.isUnion = false → wfElems et vs = true → errOKs vs = true → KGoodElems et vs
  | .nil, et, _, _, _, _, _, _ => kgoodElems_nil et
  | .cons v vr, et, hp, hw, hk, hu, hv, he => by
    simp only [wfElems, Bool.and_eq_true] at hv
    simp only [errOKs, Bool.and_eq_true] at he
    exact kgoodElems_cons et v vr hp hu hv.1 ((goodP_all v et hp hw hv.1 he.1).known hk)
      (kgoodElems_all vr et hp hw hk hu hv.2 he.2)
theorem kgoodEntries_all : (es : Entries) → ∀ (kt vt : Ty), plainTy kt = true → plainTy vt = true →
    wfTy kt = true → wfTy vt = true → noUnionElems kt = true → noUnionElems vt = true →
    kt.isUnion = false → vt.isUnion = false → wfEntries kt vt es = true → errOKe es = true →
    KGoodEntries kt vt es
  | .nil, kt, vt, _, _, _, _, _, _, _, _, _, _ => kgoodEntries_nil kt vt
  | .cons k v r, kt, vt, hpk, hpv, hwk, hwv, hkk, hkv, huk, huv, hv, he => by
    simp only [wfEntries, Bool.and_eq_true] at hv
    simp only [errOKe, Bool.and_eq_true] at he
    exact kgoodEntries_cons kt vt k v r hpk hpv huk huv hv.1.1 hv.1.2
      ((goodP_all k kt hpk hwk hv.1.1 he.1.1).known hkk) ((goodP_all v vt hpv hwv hv.1.2 he.1.2).known hkv)
      (kgoodEntries_all r kt vt hpk hpv hwk hwv hkk hkv huk huv hv.2 he.2)
end

theorem goodV_all (v : Val) (t : Ty) (e : Bool) (hp : plainTy t = true) (hw : wfTy t = true)
    (hv : wfVal t v = true) (he : errOK v = true) : GoodV t v e :=
  (goodP_all v t hp hw hv he).dec e

end Zed.Zson

import Zed.Proofs.FuseFuser
/-!
  C20: `fits a T` implies that the shaper plans a good step from `a` into `T`
  (`fits_planOK`), hence lossless, uniform shaping of every input whose type fits the fused
  type (`evalGuard_of_fits`).
-/
namespace Zed.Fuse

theorem findIdx_spec (p : Ty → Bool) (ms : Tys) (i : Nat) (h : ms.findIdx p = some i) :
    ∃ m, ms.get? i = some m ∧ p m = true := by
  fun_induction Tys.findIdx p ms generalizing i with
  | case1 => nomatch h
  | case2 t r hp => obtain rfl := Option.some.inj h; exact ⟨t, rfl, hp⟩
  | case3 t r hp ih =>
    obtain ⟨j, hj, rfl⟩ := Option.map_eq_some_iff.1 h
    exact ih j hj

theorem bestUnionTag_spec {a T : Ty} {tag : Nat} (h : bestUnionTag a T = some tag) :
    (∃ ms, T.under = .union ms) ∧ ∃ m, T.members.get? tag = some m ∧ m.under = a.under := by
  unfold bestUnionTag at h
  split at h
  next ms hu =>
    refine ⟨⟨ms, hu⟩, ?_⟩
    simp only [Ty.members, hu]
    split at h
    next i h1 =>
      obtain rfl := Option.some.inj h
      obtain ⟨m, g1, g2⟩ := findIdx_spec _ ms i h1
      exact ⟨m, g1, by rw [beq_iff_eq.1 g2]⟩
    next =>
      split at h
      next i h2 =>
        obtain rfl := Option.some.inj h
        obtain ⟨m, g1, g2⟩ := findIdx_spec _ ms i h2
        exact ⟨m, g1, by rw [beq_iff_eq.1 g2, under_idem]⟩
      next =>
        obtain ⟨m, g1, g2⟩ := findIdx_spec _ ms tag h
        exact ⟨m, g1, beq_iff_eq.1 g2⟩
  next => exact absurd h (by simp)

theorem bestUnionTag_under (a T : Ty) : bestUnionTag a T.under = bestUnionTag a T := by
  unfold bestUnionTag; rw [under_idem]

theorem toUnion_ok {orig T : Ty} (h : (bestUnionTag orig T).isSome = true) :
    ∃ s, toUnionOrFail orig T = .ok s ∧ s.toType = T ∧ goodStep orig s = true ∧ ∃ ms, T.under = .union ms := by
  cases hb : bestUnionTag orig T with
  | none => simp [hb] at h
  | some tag =>
    obtain ⟨hu, m, h1, h2⟩ := bestUnionTag_spec hb
    exact ⟨.toUnion tag T, by simp [toUnionOrFail, hb], rfl, by simp [goodStep, h1, h2], hu⟩

/-- `shaperType` answers `T` and `newStep` a good step landing in `T` -/
def PlanOK (a T : Ty) : Prop :=
  shaperType a T = .ok T ∧ ∃ s, newStep a T = .ok s ∧ s.toType = T ∧ goodStep a s = true

/-- `PlanOK` for the kind-specific parts; `cur` is `orig` with some of its names stripped
    (`s.toType = T` holds of every plan; it is stated because `PlanOK` states it) -/
def UOK (orig cur T : Ty) : Prop :=
  shaperTypeU orig cur T = .ok T ∧ ∃ s, newStepU orig cur T = .ok s ∧ s.toType = T ∧ goodStep orig s = true

theorem planOK_of_head {a T : Ty} {deep : Bool} (h : fitsHead a T deep = true)
    (hd : deep = true → UOK a a T) : PlanOK a T := by
  unfold fitsHead at h
  unfold PlanOK shaperType newStep shaperHead newStepHead
  by_cases hn : a.under = tyNull
  · simp [hn, goodStep, Step.toType]
  · by_cases hu : a.under = T.under
    · have hT : ¬ T.under = tyNull := by rw [← hu]; exact hn
      refine ⟨?_, .copy T, ?_, rfl, ?_⟩
      · simp [hu]
      · simp [hu, hT]
      · show goodStep a (.copy T) = true
        unfold goodStep
        simp [hu]
    · have h1 : (a.under == tyNull) = false := by simpa using hn
      have h2 : (a.under == T.under) = false := by simpa using hu
      simp only [h1, h2, Bool.false_or, Bool.and_eq_true, Bool.not_eq_true', Bool.and_eq_false_iff] at h
      obtain ⟨⟨hm, hp⟩, hdeep⟩ := h
      obtain ⟨u1, s, u2, u3, u4⟩ := hd hdeep
      have hpp : (a.isPrim && T.isPrim) = false := by
        rcases hp with hp | hp <;> simp [hp]
      refine ⟨?_, s, ?_, u3, u4⟩
      · simp [hu, hn, hm, hpp, u1]
      · simp [hu, hn, u2]

theorem shaperTypeField_eq : (fa : Fields) → (n : Name) → (t : Ty) →
    shaperTypeField fa n t = (fa.lookup n).map fun ti => shaperType ti t
  | .nil, n, t => by simp [shaperTypeField, Fields.lookup]
  | .cons m u r, n, t => by
    simp only [shaperTypeField, Fields.lookup]
    by_cases hm : m = n
    · simp [hm, shaperType]
    · simp [hm, shaperTypeField_eq r n t]

theorem newStepField_eq : (fa : Fields) → (k : Nat) → (n : Name) → (t : Ty) →
    newStepField fa k n t =
      match fa.indexOf n, fa.lookup n with
      | some i, some ti => some ((newStep ti t).map fun s => (k + i, s))
      | _, _ => none
  | .nil, k, n, t => by simp [newStepField, Fields.indexOf, Fields.lookup]
  | .cons m u r, k, n, t => by
    simp only [newStepField, Fields.indexOf, Fields.lookup]
    by_cases hm : m = n
    · simp [hm, newStep]
    · simp only [hm, if_false, newStepField_eq r (k + 1) n t]
      cases r.indexOf n <;> cases r.lookup n <;> simp [Nat.add_assoc, Nat.add_comm 1]

/-- every input field is a target field and plans well into it -/
def FieldsOK (fa fo : Fields) : Prop :=
  ∀ i n ti, fa.get? i = some (n, ti) → ∃ u, fo.lookup n = some u ∧ PlanOK ti u

/-- `fo'` is a part of `fo` in which names resolve as in `fo` -/
def Resolves (fo fo' : Fields) : Prop := ∀ j n t, fo'.get? j = some (n, t) → fo.lookup n = some t

theorem shapeOutFields_ok (fa fo : Fields) (H : FieldsOK fa fo) : (fo' : Fields) → Resolves fo fo' →
    shapeOutFields (fun n t => shaperTypeField fa n t) fo' = .ok fo'.toList
  | .nil, _ => by simp [shapeOutFields, Fields.toList]
  | .cons n t r, hp => by
    have ih := shapeOutFields_ok fa fo H r (forall_get?_cons.1 hp).2
    have h0 : fo.lookup n = some t := hp 0 n t rfl
    simp only [shapeOutFields, ih, Fields.toList]
    rw [shaperTypeField_eq fa n t]
    cases hl : fa.lookup n with
    | none => simp [Except.map]
    | some ti =>
      obtain ⟨i, hi, _⟩ := lookup_some_get? hl
      obtain ⟨u, hu, hpl, _⟩ := H i n ti hi
      rw [h0] at hu
      simp only [Option.some.injEq] at hu
      subst hu
      simp [hpl, Except.map]

theorem extra_nil (fo : Fields) : (fa' : Fields) →
    (∀ i n ti, fa'.get? i = some (n, ti) → (fo.lookup n).isSome = true) →
    (fa'.toList.filter fun f => (fo.lookup f.1).isNone) = []
  | .nil, _ => rfl
  | .cons n t r, h => by
    obtain ⟨h0, hr⟩ := forall_get?_cons.1 h
    rw [Fields.toList, List.filter_cons_of_neg (by simpa [Option.isSome_iff_ne_none] using h0), extra_nil fo r hr]

theorem recordChildren_ok (fa fo : Fields) (H : FieldsOK fa fo) : (fo' : Fields) → Resolves fo fo' →
    ∃ cs, recordChildren (fun n t => newStepField fa 0 n t) fo' = .ok cs ∧ goodFields fa fo' cs = true ∧
      ∀ i n, fa.indexOf n = some i → n ∈ fo'.names → i ∈ cs.indices
  | .nil, _ => ⟨.nil, rfl, rfl, fun _ _ _ hn => nomatch hn⟩
  | .cons n t r, hp => by
    obtain ⟨h0, hr⟩ := forall_get?_cons.1 hp
    obtain ⟨cs, ih1, ih2, ih3⟩ := recordChildren_ok fa fo H r hr
    simp only [recordChildren, ih1]
    rw [newStepField_eq fa 0 n t]
    cases hl : fa.lookup n with
    | none =>
      refine ⟨.cons none (.null t) cs, by cases fa.indexOf n <;> simp [Except.map],
        by simp [goodFields, Step.isNull, ih2], ?_⟩
      intro i n' hi hn
      rcases List.mem_cons.1 hn with rfl | hn
      · obtain ⟨u, hu⟩ := indexOf_some_lookup hi
        rw [hl] at hu; cases hu
      · exact ih3 i n' hi hn
    | some ti =>
      obtain ⟨i, hi, hidx⟩ := lookup_some_get? hl
      obtain ⟨u, hu, _, s, hs1, hs2, hs3⟩ := H i n ti hi
      obtain rfl : t = u := Option.some.inj (h0.symm.trans hu)
      simp only [hidx, hs1, Except.map, Nat.zero_add]
      refine ⟨.cons (some i) s cs, rfl, by simp [goodFields, hi, hs3, hs2, ih2], ?_⟩
      intro i' n' hi' hn
      rcases List.mem_cons.1 hn with rfl | hn
      · exact List.mem_cons.2 (.inl (Option.some.inj (hi'.symm.trans hidx)))
      · exact List.mem_cons_of_mem _ (ih3 i' n' hi' hn)

theorem record_ok (orig T : Ty) (fa fo : Fields) (ho : orig.under = .record fa) (hT : T.under = .record fo)
    (hna : fa.names.Nodup) (hno : fo.names.Nodup) (H : FieldsOK fa fo) : UOK orig (.record fa) T := by
  have hres : Resolves fo fo := fun _ _ _ hj => (nodup_get?_lookup hno hj).1
  refine ⟨?_, ?_⟩
  · simp only [shaperTypeU, hT, shapeOutFields_ok fa fo H fo hres]
    have hx : (fa.toList.filter fun f => (fo.lookup f.1).isNone) = [] :=
      extra_nil fo fa (fun i n ti hi => by
        obtain ⟨u, hu, _⟩ := H i n ti hi
        simp [hu])
    simp [hx, sortFieldsByName]
  · obtain ⟨cs, h1, h2, h3⟩ := recordChildren_ok fa fo H fo hres
    refine ⟨.record T cs, by simp [newStepU, hT, h1, Except.map], rfl, ?_⟩
    simp only [goodStep, Ty.isRecord, ho, hT, Ty.fields, h2, Bool.true_and, List.all_eq_true, List.mem_range]
    intro i hi
    obtain ⟨⟨n, ti⟩, hg⟩ := get?_isSome_iff.2 hi
    obtain ⟨u, hu, _⟩ := H i n ti hg
    obtain ⟨j, hj, _⟩ := lookup_some_get? hu
    have := h3 i n (nodup_get?_lookup hna hg).2 (get?_mem_names hj)
    simpa using this

/-- anything but a union goes as it is into a union member found by `bestUnionTag` -/
theorem uOK_of_tag {orig T : Ty} (hb : (bestUnionTag orig T).isSome = true) (cur : Ty)
    (hc : cur.isUnion = false) : UOK orig cur T := by
  obtain ⟨s, h1, h2, h3, ms, hms⟩ := toUnion_ok hb
  fun_induction Ty.under cur with
  | case1 n t ih => simpa only [UOK, shaperTypeU, newStepU] using ih hc
  | case2 t hnot =>
    refine ⟨?_, s, ?_, h2, h3⟩
    · cases t with
      | named n u => exact absurd rfl (hnot n u)
      | union ms => exact absurd hc (by simp [Ty.isUnion, Ty.under])
      | _ => simp only [shaperTypeU, shaperInner, bestUnionTag_under, hb, if_true]
    · cases t with
      | named n u => exact absurd rfl (hnot n u)
      | union ms => exact absurd hc (by simp [Ty.isUnion, Ty.under])
      | _ => simp only [newStepU, newStepInner, Ty.isPrim, hms, h1, Bool.false_eq_true, if_false]

theorem inner_ok {orig T i oi cur : Ty} (hcur : cur = .array i ∨ cur = .set i) (ho : orig.under = cur)
    (hT : T.inner? = some oi) (hb : bestUnionTag orig T = none) (hp : PlanOK i oi) : UOK orig cur T := by
  obtain ⟨p1, c, p2, p3, p4⟩ := hp
  have ho : orig.inner? = some i := inner?_eq_some.2 (by rcases hcur with rfl | rfl <;> simp [ho])
  have hs : shaperInner orig T (fun oi => shaperType i oi) = .ok T := by
    simp [shaperInner, bestUnionTag_under, hb, hT, p1]
  have hn : ∃ s, newStepInner orig T (fun oi => newStep i oi) = .ok s ∧ s.toType = T ∧ goodStep orig s = true := by
    unfold newStepInner
    rcases inner?_eq_some.1 hT with hu | hu
    · exact ⟨.array T c, by simp [hu, p2, Except.map], rfl, by simp [goodStep, ho, hT, p4, p3]⟩
    · exact ⟨.set T c, by simp [hu, p2, Except.map], rfl, by simp [goodStep, ho, hT, p4, p3]⟩
  rcases hcur with rfl | rfl <;> exact ⟨hs, hn⟩

/-- along the definition of `fitsU` / `fitsMembers` / `fitsFields` -/
theorem fits_ok :
    (∀ orig cur T, cur.under = orig.under → fitsU orig cur T = true → UOK orig cur T) ∧
    (∀ ms T, fitsMembers ms T = true →
      shaperTypeMembers ms T = true ∧ ∃ ss, newStepMembers ms T = some ss ∧ goodMembers ms ss T = true) ∧
    (∀ fa fo, fitsFields fa fo = true → FieldsOK fa fo) := by
  apply fitsU.mutual_induct
  case case1 =>  -- named
    intro orig n t T ih hc hf
    have := ih (by simpa [Ty.under] using hc) (by simpa [fitsU] using hf)
    simpa [UOK, shaperTypeU, newStepU] using this
  case case2 | case3 | case8 | case9 =>  -- prim, map, enum, error
    intros; rename_i hf
    exact uOK_of_tag (by simpa only [fitsU] using hf) _ rfl
  case case4 =>  -- record
    intro orig fa T ihf hc hf
    by_cases hb : (bestUnionTag orig T).isSome = true
    · exact uOK_of_tag hb _ rfl
    · simp only [fitsU, hb, Bool.false_or] at hf
      split at hf
      next fo hT =>
        simp only [Bool.and_eq_true, decide_eq_true_eq] at hf
        obtain ⟨⟨hna, hno⟩, hff⟩ := hf
        exact record_ok orig T fa fo hc.symm hT hna hno (ihf fo hff)
      next => exact absurd hf (by decide)
  case case5 | case6 =>  -- array, set
    intro orig i T ih hc hf
    by_cases hb : (bestUnionTag orig T).isSome = true
    · exact uOK_of_tag hb _ rfl
    · simp only [fitsU, hb, Bool.false_or] at hf
      split at hf
      next oi hT =>
        exact inner_ok (by simp) hc.symm hT (by simpa using hb)
          (planOK_of_head hf (fun hd => ih oi rfl hd))
      next => exact absurd hf (by decide)
  case case7 =>  -- union
    intro orig ms T ihm hc hf
    simp only [fitsU] at hf
    obtain ⟨h1, ss, h2, h3⟩ := ihm hf
    refine ⟨by simp [shaperTypeU, h1], .fromUnion T ss, by simp [newStepU, h2], rfl, ?_⟩
    simp [goodStep, Ty.isUnion, Ty.members, ← hc, Ty.under, h3]
  case case10 => intro fo _ i n ti h; simp [Fields.get?] at h  -- fields
  case case11 =>
    intro n t r fo iht ihr hf
    simp only [fitsFields, Bool.and_eq_true] at hf
    refine forall_get?_cons.2 ⟨?_, ihr hf.2⟩
    cases hl : fo.lookup n with
    | none => simp [hl] at hf
    | some u =>
      simp only [hl] at hf
      exact ⟨u, rfl, planOK_of_head hf.1 (fun hd => iht u rfl hd)⟩
  -- members
  case case12 => exact fun T _ => ⟨by simp [shaperTypeMembers], .nil, by simp [newStepMembers], by simp [goodMembers]⟩
  case case13 =>
    intro m r T ihm ihr hf
    simp only [fitsMembers, Bool.and_eq_true] at hf
    obtain ⟨i1, ss, i2, i3⟩ := ihr hf.2
    obtain ⟨p1, s, p2, p3, p4⟩ : PlanOK m T := planOK_of_head hf.1 (fun hd => ihm rfl hd)
    unfold shaperType at p1
    unfold newStep at p2
    exact ⟨by simp [shaperTypeMembers, p1, i1], .cons s ss, by simp [newStepMembers, p2, i2],
      by simp [goodMembers, p4, p3, i3]⟩

theorem fitsFields_ok : (fa fo : Fields) → fitsFields fa fo = true → FieldsOK fa fo :=
  fits_ok.2.2

theorem fitsMembers_ok : (ms : Tys) → (T : Ty) → fitsMembers ms T = true →
    shaperTypeMembers ms T = true ∧ ∃ ss, newStepMembers ms T = some ss ∧ goodMembers ms ss T = true :=
  fits_ok.2.1

theorem fits_planOK {a T : Ty} (h : fits a T = true) : PlanOK a T := by
  simp only [fits, fitsN, Bool.and_eq_true] at h
  exact planOK_of_head h.2 (fits_ok.1 a a T rfl)

theorem newShaper_of_fits {a T : Ty} (h : fits a T = true) :
    ∃ s, newShaper a T = .ok (T, s) ∧ s.toType = T ∧ goodStep a s = true := by
  obtain ⟨p1, s, p2, p3, p4⟩ := fits_planOK h
  exact ⟨s, by simp [newShaper, p1, p2], p3, p4⟩

theorem evalGuard_of_fits {T : Ty} {c : Cache} {a : Ty} (v : Val) (hc : CacheOK T c) (h : fits a T = true) :
    evalGuard T c a v = true ∧ CacheOK T (evalShaper T c a v).2 := by
  refine evalGuard_of_plan v hc ?_ (newShaper_of_fits h)
  simp only [fits, Bool.and_eq_true, Bool.or_eq_true, Bool.not_eq_true', beq_iff_eq] at h
  exact h.1

theorem guardsFrom_of_fits (T : Ty) (xs : List Input) (c : Cache) (hc : CacheOK T c)
    (hf : ∀ x ∈ xs, fits x.ty T = true) : ∀ g ∈ guardsFrom T c xs, g = true := by
  fun_induction guardsFrom T c xs with
  | case1 => simp
  | case2 c x xs ih =>
    obtain ⟨g1, g2⟩ := evalGuard_of_fits x.val hc (hf x List.mem_cons_self)
    intro g hg
    rcases List.mem_cons.1 hg with rfl | hg
    · exact g1
    · exact ih g2 (fun y hy => hf y (List.mem_cons_of_mem _ hy)) g hg

end Zed.Fuse

/-
  Lemmas for the lifting rewrites of C07 (liftIntoParPaths) at the level of the parallel
  legs' output lists.
-/
import Zed.Model.OptSem
import Zed.Proofs.ListLift
import Zed.Proofs.Merge
namespace Zed.Opt
open Zed.Proofs.ListLift
variable {V : Type}

/-- a per-value operator below a combine: the plan with the operator copied into every leg
    yields the same multiset, whatever the two schedulers do. -/
theorem flatMap_legs_perm (f : V → List V) (legs : List (List V)) (p q : List V)
    (hp : p.Perm legs.flatten) (hq : q.Perm (legs.map (fun l => l.flatMap f)).flatten) :
    (p.flatMap f).Perm q := by
  have h1 : (p.flatMap f).Perm (legs.flatten.flatMap f) := List.Perm.flatMap_right f hp
  rw [List.flatten_eq_flatMap, List.flatMap_assoc] at h1
  exact h1.trans hq.symm

/-- `head n` below a combine, copied into the legs and kept: every output of the optimized
    plan is an output of the original plan under some schedule (some rearrangement `p` of the
    legs). -/
theorem head_legs_refines (n : Nat) (legs : List (List V)) (q : List V)
    (hq : q.Perm (legs.map (List.take n)).flatten) :
    ∃ p : List V, p.Perm legs.flatten ∧ p.take n = q.take n := by
  obtain ⟨r, hr, hnil⟩ := (Cut.head n).lift hq
  refine ⟨q ++ r, hr, ?_⟩
  by_cases hlen : n ≤ q.length
  · exact List.take_append_of_le_length hlen
  · rw [hnil (Nat.lt_of_not_le hlen), List.append_nil]

theorem lastN_append_of_le (n : Nat) (a q : List V) (h : n ≤ q.length) : lastN n (a ++ q) = lastN n q := by
  unfold lastN
  rw [List.length_append, Nat.add_sub_assoc h, List.drop_length_add_append]

theorem tail_legs_refines (n : Nat) (legs : List (List V)) (q : List V)
    (hq : q.Perm (legs.map (lastN n)).flatten) :
    ∃ p : List V, p.Perm legs.flatten ∧ lastN n p = lastN n q := by
  obtain ⟨r, hr, hnil⟩ := (Cut.tail n).lift hq
  refine ⟨r ++ q, List.perm_append_comm.trans hr, ?_⟩
  by_cases hlen : n ≤ q.length
  · exact lastN_append_of_le n r q hlen
  · rw [hnil (Nat.lt_of_not_le hlen), List.nil_append]

theorem leOf_trans {c : V → V → Ordering} (h : LawfulCmp c) :
    ∀ a b d, leOf c a b = true → leOf c b d = true → leOf c a d = true := by
  intro a b d h1 h2
  simp only [leOf, bne_iff_ne, ne_eq] at *
  exact h.trans a b d h1 h2

theorem leOf_total {c : V → V → Ordering} (h : LawfulCmp c) :
    ∀ a b, (leOf c a b || leOf c b a) = true := by
  intro a b
  simp only [leOf, Bool.or_eq_true, bne_iff_ne, ne_eq]
  rw [h.swap a b]
  cases c a b <;> simp [Ordering.swap]

theorem sortedBy_iff (c : V → V → Ordering) (xs : List V) :
    SortedBy c xs ↔ xs.Pairwise (fun a b => leOf c a b = true) := by
  simp [SortedBy, leOf]

theorem mergeLegs_eq_foldr (le : V → V → Bool) (legs : List (List V)) :
    mergeLegs le legs = legs.foldr (fun l acc => List.merge l acc le) [] := by
  induction legs with
  | nil => rfl
  | cons l ls ih => rw [mergeLegs, ih]; rfl

theorem mergeLegs_perm (le : V → V → Bool) (legs : List (List V)) : (mergeLegs le legs).Perm legs.flatten :=
  mergeLegs_eq_foldr le legs ▸ (foldr_merge_spec le legs).1

theorem mergeLegs_sorted {c : V → V → Ordering} (h : LawfulCmp c) (legs : List (List V))
    (hs : ∀ l ∈ legs, SortedBy c l) : SortedBy c (mergeLegs (leOf c) legs) := by
  rw [mergeLegs_eq_foldr, sortedBy_iff]
  exact (foldr_merge_spec _ legs).2 (leOf_trans h) (fun _ _ e => e)
    (fun a b e => by have := leOf_total h a b; simpa [e] using this)
    (fun l hl => (sortedBy_iff c l).1 (hs l hl))

theorem mergeSort_sorted {c : V → V → Ordering} (h : LawfulCmp c) (xs : List V) :
    SortedBy c (xs.mergeSort (leOf c)) := by
  rw [sortedBy_iff]
  exact List.pairwise_mergeSort (leOf_trans h) (leOf_total h) xs

/-- `sort` below a fan-in, copied into the legs and replaced by a merge with the *same*
    comparator: both plans emit the same multiset, in sort order. -/
theorem sort_legs_sound {c : V → V → Ordering} (h : LawfulCmp c) (legs : List (List V)) (p : List V)
    (hp : p.Perm legs.flatten) :
    let orig := p.mergeSort (leOf c)
    let opt := mergeLegs (leOf c) (legs.map fun l => l.mergeSort (leOf c))
    orig.Perm opt ∧ SortedBy c orig ∧ SortedBy c opt := by
  refine ⟨?_, mergeSort_sorted h p, ?_⟩
  · have h1 : (p.mergeSort (leOf c)).Perm legs.flatten := (List.mergeSort_perm p _).trans hp
    have h2 : (mergeLegs (leOf c) (legs.map fun l => l.mergeSort (leOf c))).Perm legs.flatten :=
      (mergeLegs_perm _ _).trans (flatten_map_perm _ legs fun l _ => List.mergeSort_perm l _)
    exact h1.trans h2.symm
  · apply mergeLegs_sorted h
    intro l hl
    obtain ⟨l', _, rfl⟩ := List.mem_map.1 hl
    exact mergeSort_sorted h l'

end Zed.Opt

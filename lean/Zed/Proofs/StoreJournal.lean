/-
  The journal invariant behind C12 / C17.
  For one journal j: entries are contiguous 1..e, HEAD ∈ {e-1, e}, the only client that may
  write HEAD is the creator of entry e while HEAD = e-1, and every position a client knows
  was read from HEAD (≤ HEAD).
-/
import Zed.Model.BranchCommit
namespace Zed.Store

def JOut.store : JOut → Store
  | .cont s _ _ _ _ => s
  | .done s _ _ _ => s
def JOut.cache : JOut → JCache
  | .cont _ c _ _ _ => c
  | .done _ c _ _ => c
def JOut.pc? : JOut → Option JPc
  | .cont _ _ _ pc _ => some pc
  | .done _ _ _ _ => none
def JOut.kind (k : JKind) : JOut → JKind
  | .cont _ _ k' _ _ => k'
  | .done _ _ _ _ => k
def JOut.ev : JOut → Ev
  | .cont _ _ _ _ ev => ev
  | .done _ _ _ ev => ev
@[simp] theorem JOut.store_cont (s c k pc ev) : (JOut.cont s c k pc ev).store = s := rfl
@[simp] theorem JOut.store_done (s c r ev) : (JOut.done s c r ev).store = s := rfl
@[simp] theorem JOut.cache_cont (s c k pc ev) : (JOut.cont s c k pc ev).cache = c := rfl
@[simp] theorem JOut.cache_done (s c r ev) : (JOut.done s c r ev).cache = c := rfl
@[simp] theorem JOut.pc_cont (s c k pc ev) : (JOut.cont s c k pc ev).pc? = some pc := rfl
@[simp] theorem JOut.pc_done (s c r ev) : (JOut.done s c r ev).pc? = none := rfl
@[simp] theorem JOut.ev_cont (s c k pc ev) : (JOut.cont s c k pc ev).ev = ev := rfl
@[simp] theorem JOut.ev_done (s c r ev) : (JOut.done s c r ev).ev = ev := rfl

/-- Journal positions a program counter carries (all were read from HEAD). -/
def JPc.known : JPc → List Nat
  | .rdHead => []
  | .rdSnap h => [h]
  | .rdTail h => [h]
  | .rdEnt h _ _ _ => [h]
  | .putSnap h _ => [h]
  | .putx p => [p]
  | .putHead _ => []

def JPc.isPutHead : JPc → Bool
  | .putHead _ => true
  | _ => false

/-- Entries of journal j are exactly the positions 1..e. -/
def EntRange (s : Store) (j e : Nat) : Prop :=
  ∀ n, (s (.ent j n)).isSome ↔ (1 ≤ n ∧ n ≤ e)

theorem EntRange.none_succ {s : Store} {j e : Nat} (h : EntRange s j e) : s (.ent j (e + 1)) = none := by
  cases hx : s (.ent j (e + 1)) with
  | none => rfl
  | some v => have := (h (e + 1)).mp (by simp [hx]); omega

theorem EntRange.end_of_none {s : Store} {j e pos H : Nat} (h : EntRange s j e)
    (hnone : s (.ent j (pos + 1)) = none) (hpos : pos ≤ H) (he : H ≤ e) : pos = e ∧ H = e := by
  have h1 := h (pos + 1)
  rw [hnone] at h1
  simp at h1
  omega

theorem EntRange.put_succ {s : Store} {j e : Nat} (h : EntRange s j e) (v : SVal) :
    EntRange (s.put (.ent j (e + 1)) v) j (e + 1) := by
  intro m
  by_cases hm : m = e + 1
  · subst hm; simp
  · rw [Store.put_other _ _ _ _ (by simp [hm]), h m]; omega

theorem EntRange.unique {s : Store} {j e e' : Nat} (h : EntRange s j e) (h' : EntRange s j e') : e = e' := by
  have a := (h (e + 1)).symm.trans (h' (e + 1))
  have b := (h (e' + 1)).symm.trans (h' (e' + 1))
  omega

theorem headOf_congr (s s' : Store) (j) (h : s' (.head j) = s (.head j)) : headOf s' j = headOf s j := by
  simp only [headOf, h]

theorem headOf_eq_of {s : Store} {j h : Nat} (hx : s (.head j) = some (.num h)) : headOf s j = h := by
  simp [headOf, hx]

theorem headOf_put_head (s : Store) (j n) : headOf (s.put (.head j) (.num n)) j = n := by
  simp only [headOf, Store.put_same]

theorem headOf_put_other (s : Store) (j p v) (h : p ≠ .head j) : headOf (s.put p v) j = headOf s j :=
  headOf_congr _ _ _ (Store.put_other _ _ _ _ (Ne.symm h))

/-- Facts about positions ≤ e survive any store change that keeps entries 1..e and does not
    move HEAD backwards. -/
structure Ext (s s' : Store) (j e : Nat) : Prop where
  ents : ∀ m, 1 ≤ m → m ≤ e → s' (.ent j m) = s (.ent j m)
  head : headOf s j ≤ headOf s' j

theorem Ext.refl (s : Store) (j e : Nat) : Ext s s j e := ⟨fun _ _ _ => rfl, Nat.le_refl _⟩

theorem Ext.trans {s s' s'' : Store} {j e e' : Nat} (x : Ext s s' j e) (y : Ext s' s'' j e') (h : e ≤ e') :
    Ext s s'' j e :=
  ⟨fun m h1 h2 => (y.ents m h1 (Nat.le_trans h2 h)).trans (x.ents m h1 h2), Nat.le_trans x.head y.head⟩

theorem Ext.kept {s s' : Store} {j e : Nat} (x : Ext s s' j e) (hr : EntRange s j e) {n : Nat} {v : SVal}
    (hv : s (.ent j n) = some v) : s' (.ent j n) = some v := by
  have := (hr n).mp (by rw [hv]; rfl)
  rw [x.ents n this.1 this.2]; exact hv

theorem Ext.put_ent {s : Store} {j e : Nat} (hrange : EntRange s j e) (v : SVal) :
    Ext s (s.put (.ent j (e + 1)) v) j e ∧ EntRange (s.put (.ent j (e + 1)) v) j (e + 1) := by
  exact ⟨⟨fun m _ hm => Store.put_other _ _ _ _ (by simp; omega),
    Nat.le_of_eq (headOf_put_other _ _ _ _ (by simp)).symm⟩, hrange.put_succ v⟩

@[simp] theorem afterLoad_store (s c k ev) : (afterLoad s c k ev).store = s := by
  unfold afterLoad; split <;> try split
  all_goals rfl
@[simp] theorem afterLoad_cache (s c k ev) : (afterLoad s c k ev).cache = c := by
  unfold afterLoad; split <;> try split
  all_goals rfl

theorem afterLoad_pc (s c k ev) (pc) (h : (afterLoad s c k ev).pc? = some pc) : pc = .putx c.pos := by
  unfold afterLoad at h; split at h <;> try split at h
  all_goals simp_all

@[simp] theorem afterLoad_kind (s c k ev) : (afterLoad s c k ev).kind k = k := by
  unfold afterLoad; split <;> try split
  all_goals rfl

@[simp] theorem afterLoad_ev (s c k ev) : (afterLoad s c k ev).ev = ev := by
  unfold afterLoad; split <;> try split
  all_goals rfl

def JPc.file (j : Nat) : JPc → Path
  | .rdHead => .head j
  | .rdSnap _ => .snap j
  | .rdTail _ => .tail j
  | .rdEnt _ n _ _ => .ent j n
  | .putSnap _ _ => .snap j
  | .putx pos => .ent j (pos + 1)
  | .putHead _ => .head j

def JPc.evOp : JPc → EvOp
  | .putSnap _ _ => .put
  | .putx _ => .putx
  | .putHead _ => .put
  | _ => .get

/-- The event of a step that writes no entry: operation and file are the program counter's; a put-if-absent among
    them found its entry taken (the one that does not is `JNF.newEnt`). -/
structure QuietEv (j : Nat) (pc : JPc) (ev : Ev) : Prop where
  op : ev.op = pc.evOp
  path : ev.path = pc.file j
  taken : ev.op = .putx → ev.res = .exists

/-- What a journal step that writes neither an entry nor HEAD leaves of the store. -/
def SnapOnly (s : Store) (j : Nat) (s0 : Store) : Prop := s0 = s ∨ ∃ v, s0 = s.put (.snap j) v

theorem SnapOnly.refl (s : Store) (j : Nat) : SnapOnly s j s := Or.inl rfl

theorem SnapOnly.get {s s0 : Store} {j : Nat} (h : SnapOnly s j s0) (q : Path) (hq : q ≠ .snap j) : s0 q = s q := by
  rcases h with rfl | ⟨v, rfl⟩
  · rfl
  · exact Store.put_other _ _ _ _ hq

theorem SnapOnly.keeps {s s0 : Store} {j : Nat} (h : SnapOnly s j s0) :
    (∀ n, s0 (.ent j n) = s (.ent j n)) ∧ headOf s0 j = headOf s j ∧ ∀ p c, s0 (.cobj p c) = s (.cobj p c) :=
  ⟨fun _ => h.get _ (by simp), headOf_congr _ _ _ (h.get _ (by simp)), fun _ _ => h.get _ (by simp)⟩

/-- `jstep` in normal form, the outcome written out: a step reads or writes the snapshot and goes on or ends (`cont`,
    `stop`), appends the entry after its position (`newEnt`), or publishes it by the HEAD write (`newHead`). -/
inductive JNF (s : Store) (j : Nat) (jc : JCache) (k : JKind) (pc : JPc) (out : JOut) : Prop
  | cont (s0 : Store) (c' : JCache) (k' : JKind) (pc' : JPc) (ev : Ev) (hout : out = .cont s0 c' k' pc' ev)
      (hs0 : SnapOnly s j s0)
      (hk : k' = k ∨ ∃ op a, k = .commit op a ∧ k' = .commit op (a + 1))
      (hpc' : pc'.isPutHead = false) (hknown : ∀ p ∈ pc'.known, p = headOf s j ∨ p ∈ pc.known ∨ p = jc.pos)
      (hc : c'.pos = jc.pos ∨ c'.pos ∈ pc.known)
      (hnot : pc.isPutHead = false) (hev : QuietEv j pc ev)
  | stop (s0 : Store) (c' : JCache) (r : Res) (ev : Ev) (hout : out = .done s0 c' r ev)
      (hs0 : SnapOnly s j s0)
      (hr : ∀ op a, k = .commit op a → r ≠ .ok) (hc : c'.pos = jc.pos ∨ c'.pos ∈ pc.known)
      (hnot : pc.isPutHead = false) (hev : QuietEv j pc ev)
  | newEnt (pos : Nat) (op : JOp) (a : Nat) (hk : k = .commit op a) (hpc : pc = .putx pos)
      (hnone : s (.ent j (pos + 1)) = none)
      (hout : out = .cont (s.put (.ent j (pos + 1)) (.entry op.acts)) jc k (.putHead (pos + 1))
        ⟨.putx, .ent j (pos + 1), .ok, some (.entry op.acts)⟩)
  | newHead (n : Nat) (hpc : pc = .putHead n)
      (hout : out = .done (s.put (.head j) (.num n)) ⟨0, jc.table⟩ .ok ⟨.put, .head j, .ok, some (.num n)⟩)

theorem check_ne_ok (op : JOp) (t : Table) : op.check t ≠ some .ok := by
  cases op <;> simp only [JOp.check]
  all_goals (repeat' split)
  all_goals simp

theorem JNF.of_afterLoad {s j jc k pc} (s0 : Store) (c' : JCache) (ev : Ev)
    (hs0 : SnapOnly s j s0) (hc : c'.pos = jc.pos ∨ c'.pos ∈ pc.known)
    (hnot : pc.isPutHead = false) (hev : QuietEv j pc ev) : JNF s j jc k pc (afterLoad s0 c' k ev) := by
  unfold afterLoad
  split
  · exact .stop s0 c' .ok ev rfl hs0 (fun _ _ h => nomatch h) hc hnot hev
  · rename_i op a
    split
    · rename_i err herr
      exact .stop s0 c' err ev rfl hs0 (fun _ _ _ h => check_ne_ok op c'.table (h ▸ herr)) hc hnot hev
    · refine .cont s0 c' _ _ ev rfl hs0 (Or.inl rfl) rfl (fun p hp => ?_) hc hnot hev
      obtain rfl : p = c'.pos := by simpa [JPc.known] using hp
      exact hc.elim (fun h => Or.inr (Or.inr h)) (fun h => Or.inr (Or.inl h))

@[simp] theorem getEv_op (s : Store) (p : Path) : (getEv s p).op = .get := by
  unfold getEv; split <;> rfl

@[simp] theorem getEv_path (s : Store) (p : Path) : (getEv s p).path = p := by
  unfold getEv; split <;> rfl

theorem QuietEv.get {j : Nat} {pc : JPc} (s : Store) (h : pc.evOp = .get) : QuietEv j pc (getEv s (pc.file j)) :=
  ⟨(getEv_op _ _).trans h.symm, getEv_path _ _, fun h' => by rw [getEv_op] at h'; cases h'⟩

theorem jstep_nf (s : Store) (j : Nat) (jc : JCache) (k : JKind) (pc : JPc) : JNF s j jc k pc (jstep s j jc k pc) := by
  cases pc with
  | rdHead =>
    have hev : QuietEv j .rdHead (getEv s (.head j)) := .get s rfl
    simp only [jstep]
    split
    · rename_i h heq
      have hh : headOf s j = h := headOf_eq_of heq
      split
      · exact .of_afterLoad s jc _ (.refl _ _) (Or.inl rfl) rfl hev
      · split
        · exact .stop s jc .io _ rfl (.refl _ _) (fun _ _ _ h => nomatch h) (Or.inl rfl) rfl hev
        · exact .cont s jc k _ _ rfl (.refl _ _) (Or.inl rfl) rfl (by simp [JPc.known, hh]) (Or.inl rfl) rfl hev
    · exact .stop s jc .io _ rfl (.refl _ _) (fun _ _ _ h => nomatch h) (Or.inl rfl) rfl hev
  | rdSnap h =>
    have hev : QuietEv j (.rdSnap h) (getEv s (.snap j)) := .get s rfl
    simp only [jstep]
    split
    · split
      · exact .cont s jc k _ _ rfl (.refl _ _) (Or.inl rfl) rfl (by simp [JPc.known]) (Or.inl rfl) rfl hev
      · exact .of_afterLoad s _ _ (.refl _ _) (Or.inr (by simp [JPc.known])) rfl hev
    · exact .cont s jc k _ _ rfl (.refl _ _) (Or.inl rfl) rfl (by simp [JPc.known]) (Or.inl rfl) rfl hev
    · exact .stop s jc .io _ rfl (.refl _ _) (fun _ _ _ h => nomatch h) (Or.inl rfl) rfl hev
  | rdTail h =>
    have hev : QuietEv j (.rdTail h) (getEv s (.tail j)) := .get s rfl
    simp only [jstep]
    split
    · exact .cont s jc k _ _ rfl (.refl _ _) (Or.inl rfl) rfl (by simp [JPc.known]) (Or.inl rfl) rfl hev
    · exact .stop s jc .io _ rfl (.refl _ _) (fun _ _ _ h => nomatch h) (Or.inl rfl) rfl hev
  | rdEnt h n t a =>
    have hev : QuietEv j (.rdEnt h n t a) (getEv s (.ent j n)) := .get s rfl
    simp only [jstep]
    split
    · split
      · exact .stop s jc .io _ rfl (.refl _ _) (fun _ _ _ h => nomatch h) (Or.inl rfl) rfl hev
      · split
        · exact .cont s jc k _ _ rfl (.refl _ _) (Or.inl rfl) rfl (by simp [JPc.known]) (Or.inl rfl) rfl hev
        · split
          · exact .cont s _ k _ _ rfl (.refl _ _) (Or.inl rfl) rfl (by simp [JPc.known]) (Or.inr (by simp [JPc.known]))
              rfl hev
          · exact .of_afterLoad s _ _ (.refl _ _) (Or.inr (by simp [JPc.known])) rfl hev
    · exact .stop s jc .io _ rfl (.refl _ _) (fun _ _ _ h => nomatch h) (Or.inl rfl) rfl hev
  | putSnap h t =>
    exact .of_afterLoad _ jc _ (Or.inr ⟨_, rfl⟩) (Or.inl rfl) rfl ⟨rfl, rfl, fun h => nomatch h⟩
  | putx pos =>
    simp only [jstep]
    split
    · exact .stop s jc .io _ rfl (.refl _ _) (fun _ _ h => nomatch h) (Or.inl rfl) rfl ⟨rfl, rfl, fun _ => rfl⟩
    · split
      · split
        · exact .cont s jc _ _ _ rfl (.refl _ _) (Or.inr ⟨_, _, rfl, rfl⟩) rfl (by simp [JPc.known]) (Or.inl rfl) rfl
            ⟨rfl, rfl, fun _ => rfl⟩
        · exact .stop s jc .retries _ rfl (.refl _ _) (fun _ _ _ h => nomatch h) (Or.inl rfl) rfl
            ⟨rfl, rfl, fun _ => rfl⟩
      · rename_i op attempt _ hnone
        exact .newEnt pos op attempt rfl rfl hnone rfl
  | putHead n => exact .newHead n rfl rfl

/-- A journal step never touches commit objects. -/
theorem jstep_cobj (s : Store) (j : Nat) (jc k pc) (p c : Nat) :
    (jstep s j jc k pc).store (.cobj p c) = s (.cobj p c) := by
  cases jstep_nf s j jc k pc with
  | cont _ _ _ _ _ hout hs0 => rw [hout]; exact hs0.keeps.2.2 p c
  | stop _ _ _ _ hout hs0 => rw [hout]; exact hs0.keeps.2.2 p c
  | newEnt _ _ _ _ _ _ hout => rw [hout]; exact Store.put_other _ _ _ _ (by simp)
  | newHead _ _ hout => rw [hout]; exact Store.put_other _ _ _ _ (by simp)

/-- A commit procedure ends with `ok` only from its HEAD write. -/
theorem jstep_commit_ok (s : Store) (j : Nat) (jc : JCache) (op : JOp) (a : Nat) (pc : JPc) (st jc' ev)
    (h : jstep s j jc (.commit op a) pc = .done st jc' .ok ev) : ∃ n, pc = .putHead n := by
  have nf := jstep_nf s j jc (.commit op a) pc
  rw [h] at nf
  cases nf with
  | cont _ _ _ _ _ hout => cases hout
  | stop _ _ _ _ hout _ hr => cases hout; exact absurd rfl (hr op a rfl)
  | newEnt _ _ _ _ _ _ hout => cases hout
  | newHead n hpc => exact ⟨n, hpc⟩

theorem jstep_frame (s : Store) (j : Nat) (jc k pc) (q : Path) (hq : q.pool ≠ j) :
    (jstep s j jc k pc).store q = s q := by
  cases jstep_nf s j jc k pc with
  | cont _ _ _ _ _ hout hs0 => rw [hout]; exact hs0.get q (by rintro rfl; exact hq rfl)
  | stop _ _ _ _ hout hs0 => rw [hout]; exact hs0.get q (by rintro rfl; exact hq rfl)
  | newEnt _ _ _ _ _ _ hout => rw [hout]; exact Store.put_other _ _ _ _ (by rintro rfl; exact hq rfl)
  | newHead _ _ hout => rw [hout]; exact Store.put_other _ _ _ _ (by rintro rfl; exact hq rfl)

/-- Only a put-if-absent that finds the entry taken changes the kind: to the commit's next attempt. -/
theorem jstep_kind (s j jc k pc st jc' k' pc' ev)
    (h : jstep s j jc k pc = .cont st jc' k' pc' ev) :
    k' = k ∨ ∃ op a, k = .commit op a ∧ k' = .commit op (a + 1) := by
  have nf := jstep_nf s j jc k pc
  rw [h] at nf
  cases nf with
  | cont _ _ _ _ _ hout _ hk => cases hout; exact hk
  | stop _ _ _ _ hout => cases hout
  | newEnt _ _ _ _ _ _ hout => cases hout; exact Or.inl rfl
  | newHead _ _ hout => cases hout

theorem jstep_fail_quiet (s : Store) (j : Nat) (jc k pc st jc' r ev)
    (h : jstep s j jc k pc = .done st jc' r ev) (hr : r ≠ .ok) :
    (∀ n, st (.ent j n) = s (.ent j n)) ∧ st (.head j) = s (.head j) := by
  have nf := jstep_nf s j jc k pc
  rw [h] at nf
  cases nf with
  | cont _ _ _ _ _ hout => cases hout
  | stop _ _ _ _ hout hs0 => cases hout; exact ⟨hs0.keeps.1, hs0.get _ (by simp)⟩
  | newEnt _ _ _ _ _ _ hout => cases hout
  | newHead _ _ hout => cases hout; exact absurd rfl hr

theorem jstep_ev (s : Store) (j : Nat) (jc : JCache) (k : JKind) (pc : JPc) :
    ((jstep s j jc k pc).ev.op, (jstep s j jc k pc).ev.path) = (pc.evOp, pc.file j) := by
  cases jstep_nf s j jc k pc with
  | cont _ _ _ _ _ hout _ _ _ _ _ _ hev => rw [hout]; exact Prod.ext hev.op hev.path
  | stop _ _ _ _ hout _ _ _ _ hev => rw [hout]; exact Prod.ext hev.op hev.path
  | newEnt _ _ _ _ hpc _ hout => rw [hout, hpc]; rfl
  | newHead _ hpc hout => rw [hout, hpc]; rfl

/-- The only journal step that reads an entry file is the reader at `rdEnt`. -/
theorem jstep_get_ent (s : Store) (j' : Nat) (jc : JCache) (k : JKind) (pc : JPc) (j n : Nat)
    (hop : (jstep s j' jc k pc).ev.op = .get) (hpath : (jstep s j' jc k pc).ev.path = .ent j n) :
    j' = j ∧ ∃ h t a0, pc = .rdEnt h n t a0 := by
  have h := jstep_ev s j' jc k pc
  rw [hop, hpath] at h
  cases pc with
  | rdEnt h' n' t a0 => cases h; exact ⟨rfl, _, _, _, rfl⟩
  | _ => cases h

/-- A successful put-if-absent is the step from `putx n-1` to `putHead n`. -/
theorem jstep_putx_ok (s : Store) (j' : Nat) (jc : JCache) (k : JKind) (pc : JPc) (j n : Nat)
    (hop : (jstep s j' jc k pc).ev.op = .putx) (hres : (jstep s j' jc k pc).ev.res = .ok)
    (hpath : (jstep s j' jc k pc).ev.path = .ent j n) :
    j' = j ∧ (jstep s j' jc k pc).pc? = some (.putHead n) := by
  cases jstep_nf s j' jc k pc with
  | cont _ _ _ _ _ hout _ _ _ _ _ _ hev => rw [hout] at hop hres; exact nomatch (hev.taken hop).symm.trans hres
  | stop _ _ _ _ hout _ _ _ _ hev => rw [hout] at hop hres; exact nomatch (hev.taken hop).symm.trans hres
  | newEnt pos _ _ _ _ _ hout => rw [hout] at hpath ⊢; cases hpath; exact ⟨rfl, rfl⟩
  | newHead _ _ hout => rw [hout] at hop; cases hop

/-- A journal step that `put`s writes a snapshot or HEAD, never an entry. -/
theorem jstep_put_not_ent (s : Store) (j' : Nat) (jc : JCache) (k : JKind) (pc : JPc)
    (hop : (jstep s j' jc k pc).ev.op = .put) (j n : Nat) : (jstep s j' jc k pc).ev.path ≠ .ent j n := by
  intro hpath
  have h := jstep_ev s j' jc k pc
  rw [hop, hpath] at h
  cases pc <;> cases h

def Proc.onJ (j : Nat) : Proc → Option (Nat × JPc)
  | .jp j' slot _ pc => if j' = j then some (slot, pc) else none
  | .bc b (.lookup pc) => if b.pool = j then some (b.slot, pc) else none
  | .bc b (.update _ _ _ pc) => if b.pool = j then some (b.slot, pc) else none
  | _ => none

/-- The journal procedure kind (load / commit op attempt) a procedure is running on journal j. -/
def Proc.kindOn (j : Nat) : Proc → Option JKind
  | .jp j' _ k _ => if j' = j then some k else none
  | .bc b (.lookup _) => if b.pool = j then some .load else none
  | .bc b (.update tip id attempt _) =>
    if b.pool = j then some (.commit (.update b.branch tip id) attempt) else none
  | _ => none

def Proc.resets (j : Nat) : Proc → Bool
  | .create j' _ => j' == j
  | .delPool p => p == j
  | _ => false

def Client.onJ (x : Client) (j : Nat) : Option (Nat × JPc) :=
  match x.proc with
  | some p => p.onJ j
  | none => none

def Client.pcOn (x : Client) (j : Nat) : Option JPc := (x.onJ j).map (·.2)

def Client.kindOn (x : Client) (j : Nat) : Option JKind :=
  match x.proc with
  | some p => p.kindOn j
  | none => none

@[simp] theorem setClient_same (s : Sys) (c x) : (s.setClient c x).cl c = x := by simp [Sys.setClient]
theorem setClient_other (s : Sys) (c c' x) (h : c' ≠ c) : (s.setClient c x).cl c' = s.cl c' := by
  simp [Sys.setClient, h]
@[simp] theorem setClient_store (s : Sys) (c x) : (s.setClient c x).store = s.store := rfl
@[simp] theorem setClient_next (s : Sys) (c x) : (s.setClient c x).next = s.next := rfl
@[simp] theorem setClient_acks (s : Sys) (c x) : (s.setClient c x).acks = s.acks := rfl

/-- Stated over the anonymous constructor so that `rw [step_jp s c hp, hout]` (or `step_lookup`, `step_update`) on
    `s' = ?` fixes store, clients, `next`, acknowledgements and the new client by unification. -/
theorem setClient_proj {s' : Sys} {st : Store} {cl : Nat → Client} {nx : Nat} {ak : List Ack} {fl : List (Nat × Nat)}
    {c : Nat} {x : Client} (h : s' = (⟨st, cl, nx, ak, fl⟩ : Sys).setClient c x) :
    s'.store = st ∧ s'.next = nx ∧ s'.acks = ak ∧ s'.cl c = x ∧ ∀ c', c' ≠ c → s'.cl c' = cl c' := by
  subst h; exact ⟨rfl, rfl, rfl, setClient_same _ _ _, fun c' h => setClient_other _ _ _ _ h⟩

@[simp] theorem setCache_proc (x : Client) (j slot jc) : (x.setCache j slot jc).proc = x.proc := rfl
@[simp] theorem setCache_res (x : Client) (j slot jc) : (x.setCache j slot jc).res = x.res := rfl
theorem Client.setCache_get (x : Client) (j slot jc j' sl) :
    (x.setCache j slot jc).cache j' sl = if j' = j ∧ sl = slot then jc else x.cache j' sl := by
  simp [Client.setCache]

/-- Does the procedure work on pool / journal j at all? -/
def Proc.touches (j : Nat) : Proc → Bool
  | .jp j' _ _ _ => j' == j
  | .bc b _ => b.pool == j
  | .create j' _ => j' == j
  | .openJ _ => false
  | .delPool p => p == j

theorem untouched_journal {j : Nat} {p : Proc} (h : p.touches j = false) :
    p.onJ j = none ∧ p.kindOn j = none ∧ p.resets j = false := by
  cases p with
  | bc b ph => cases ph <;> simp_all [Proc.touches, Proc.onJ, Proc.kindOn, Proc.resets]
  | _ => simp_all [Proc.touches, Proc.onJ, Proc.kindOn, Proc.resets]

section step
variable (s : Sys) (c : Nat)

theorem step_idle (hp : (s.cl c).proc = none) : s.step c = (s, none) := by
  simp only [Sys.step, hp]

theorem step_jp {j slot k pc} (hp : (s.cl c).proc = some (.jp j slot k pc)) :
    s.step c = match jstep s.store j ((s.cl c).cache j slot) k pc with
    | .cont st jc k' pc' ev =>
      ({ s with store := st }.setClient c ({ s.cl c with proc := some (.jp j slot k' pc') }.setCache j slot jc), some ev)
    | .done st jc r ev =>
      ({ s with store := st }.setClient c ({ s.cl c with proc := none, res := some r }.setCache j slot jc), some ev) := by
  simp only [Sys.step, hp]; rfl

theorem step_lookup {b pc} (hp : (s.cl c).proc = some (.bc b (.lookup pc))) :
    s.step c = match jstep s.store b.pool ((s.cl c).cache b.pool b.slot) .load pc with
    | .cont st jc _ pc' ev =>
      ({ s with store := st }.setClient c ({ s.cl c with proc := some (.bc b (.lookup pc')) }.setCache b.pool b.slot jc), some ev)
    | .done st jc r ev =>
      (bcAfterLookup { s with store := st } c ((s.cl c).setCache b.pool b.slot jc) b r jc.table, some ev) := by
  simp only [Sys.step, hp]; rfl

theorem step_putObj {b tip id} (hp : (s.cl c).proc = some (.bc b (.putObj tip id))) :
    s.step c =
      ({ s with store := s.store.put (.cobj b.pool id) (.commit tip b.adds b.dels) }.setClient c
          { s.cl c with proc := some (.bc b (.update tip id 0 .rdHead)) },
       some ⟨.put, .cobj b.pool id, .ok, some (.commit tip b.adds b.dels)⟩) := by
  simp only [Sys.step, hp]

theorem step_update {b tip id att pc} (hp : (s.cl c).proc = some (.bc b (.update tip id att pc))) :
    s.step c =
      match jstep s.store b.pool ((s.cl c).cache b.pool b.slot) (.commit (.update b.branch tip id) att) pc with
      | .cont st jc k' pc' ev =>
        ({ s with store := st }.setClient c
            ({ s.cl c with proc := some (.bc b (.update tip id (match k' with | .commit _ a => a | .load => att) pc')) }.setCache
              b.pool b.slot jc), some ev)
      | .done st jc r ev =>
        match r with
        | .ok =>
          ({ s with store := st, acks := ⟨c, b.pool, b.branch, id⟩ :: s.acks }.setClient c
              { (s.cl c).setCache b.pool b.slot jc with proc := none, res := some (.committed id) }, some ev)
        | err =>
          ({ s with store := st }.setClient c
              { (s.cl c).setCache b.pool b.slot jc with proc := some (.bc b (.cleanup id err)) }, some ev) := by
  simp only [Sys.step, hp]; rfl

theorem step_cleanup {b id err} (hp : (s.cl c).proc = some (.bc b (.cleanup id err))) :
    ∃ proc res ev, ev.path = .cobj b.pool id ∧
      (proc = none ∨ ∃ b', b'.pool = b.pool ∧ proc = some (.bc b' (.lookup .rdHead))) ∧
      s.step c = ({ s with store := s.store.del (.cobj b.pool id), failed := (b.pool, id) :: s.failed }.setClient c
        { s.cl c with proc := proc, res := res }, some ev) := by
  simp only [Sys.step, hp]
  by_cases h1 : err = .constraint
  · by_cases h2 : (s.store (.cobj b.pool id)).isNone = true
    · -- the object is gone (its pool was removed): ends with `io`
      rw [if_pos h1, if_pos h2]
      refine ⟨none, _, _, ?_, Or.inl rfl, rfl⟩
      split <;> rfl
    · by_cases h3 : b.retries + 1 < maxCommitRetries
      · -- the parent check failed and retries are left: back to the tip lookup
        rw [if_pos h1, if_neg h2, if_pos h3]
        refine ⟨_, (s.cl c).res, _, ?_, Or.inr ⟨{ b with retries := b.retries + 1 }, rfl, rfl⟩, rfl⟩
        split <;> rfl
      · -- no retries left: ends with `commitFailed`
        rw [if_pos h1, if_neg h2, if_neg h3]
        refine ⟨none, _, _, ?_, Or.inl rfl, rfl⟩
        split <;> rfl
  · -- any other error is returned
    rw [if_neg h1]
    refine ⟨none, _, _, ?_, Or.inl rfl, rfl⟩
    split <;> rfl

theorem step_create {j stage} (hp : (s.cl c).proc = some (.create j stage)) :
    s.step c = if stage = 0 then
      ({ s with store := s.store.put (.head j) (.num 0) }.setClient c { s.cl c with proc := some (.create j 1) },
       some ⟨.put, .head j, .ok, some (.num 0)⟩)
    else
      ({ s with store := s.store.put (.tail j) (.tailv 1 0) }.setClient c
          { s.cl c with proc := none, res := some (.created j) },
       some ⟨.put, .tail j, .ok, some (.tailv 1 0)⟩) := by
  simp only [Sys.step, hp]

theorem step_openJ {j} (hp : (s.cl c).proc = some (.openJ j)) :
    s.step c = (s.setClient c { s.cl c with proc := none, res := some (match s.store (.head j) with
      | some (.num _) => .ok
      | _ => .io) }, some (getEv s.store (.head j))) := by
  simp only [Sys.step, hp]; rfl

theorem step_delPool {p} (hp : (s.cl c).proc = some (.delPool p)) :
    s.step c = ({ s with store := s.store.delPool p }.setClient c { s.cl c with proc := none, res := some .ok },
      some ⟨.delp, .head p, .ok, none⟩) := by
  simp only [Sys.step, hp]

end step

theorem step_update_err {s : Sys} {c : Nat} {b tip id att pc st jc r ev} (hp : (s.cl c).proc = some (.bc b (.update tip id att pc)))
    (h : jstep s.store b.pool ((s.cl c).cache b.pool b.slot) (.commit (.update b.branch tip id) att) pc =
      .done st jc r ev) (hr : r ≠ .ok) :
    (s.step c).1 = { s with store := st }.setClient c
      { (s.cl c).setCache b.pool b.slot jc with proc := some (.bc b (.cleanup id r)) } := by
  rw [step_update s c hp, h]
  cases r <;> first | rfl | exact absurd rfl hr

theorem bcAfterLookup_cases (s : Sys) (c : Nat) (x : Client) (b : BC) (r : Res) (t : Table) :
    (∃ res, bcAfterLookup s c x b r t = s.setClient c { x with proc := none, res := some res }) ∨
    (∃ tip, t.get b.branch = some tip ∧ bcAfterLookup s c x b r t =
      { s.setClient c { x with proc := some (.bc b (.putObj tip s.next)) } with next := s.next + 1 }) := by
  unfold bcAfterLookup
  split
  · split
    · rename_i tip ht _; exact Or.inr ⟨tip, ht, rfl⟩
    · exact Or.inl ⟨_, rfl⟩
  · exact Or.inl ⟨_, rfl⟩

theorem Client.machine_jp {x : Client} {j slot k pc} (hp : x.proc = some (.jp j slot k pc)) :
    x.onJ j = some (slot, pc) ∧ x.kindOn j = some k := by
  simp [Client.onJ, Client.kindOn, hp, Proc.onJ, Proc.kindOn]

theorem Client.machine_lookup {x : Client} {b pc} (hp : x.proc = some (.bc b (.lookup pc))) :
    x.onJ b.pool = some (b.slot, pc) ∧ x.kindOn b.pool = some .load := by
  simp [Client.onJ, Client.kindOn, hp, Proc.onJ, Proc.kindOn]

theorem Client.machine_update {x : Client} {b tip id att pc} (hp : x.proc = some (.bc b (.update tip id att pc))) :
    x.onJ b.pool = some (b.slot, pc) ∧ x.kindOn b.pool = some (.commit (.update b.branch tip id) att) := by
  simp [Client.onJ, Client.kindOn, hp, Proc.onJ, Proc.kindOn]

theorem Proc.machine_cases {p : Proc} {j slot : Nat} {pc : JPc} {k : JKind}
    (hon : p.onJ j = some (slot, pc)) (hk : p.kindOn j = some k) :
    p = .jp j slot k pc ∨
    (∃ b, b.pool = j ∧ b.slot = slot ∧ k = .load ∧ p = .bc b (.lookup pc)) ∨
    ∃ b tip id att, b.pool = j ∧ b.slot = slot ∧ k = .commit (.update b.branch tip id) att ∧
      p = .bc b (.update tip id att pc) := by
  rcases p with ⟨j', slot', k0, pc0⟩ | ⟨b, pc0 | ⟨tip, id⟩ | ⟨tip, id, att, pc0⟩ | ⟨id, err⟩⟩ | ⟨j', stage⟩ | j' | p'
  · simp only [Proc.onJ, Proc.kindOn] at hon hk
    split at hon
    · next h => subst h; rw [if_pos rfl] at hk; cases hon; cases hk; exact Or.inl rfl
    · cases hon
  · simp only [Proc.onJ, Proc.kindOn] at hon hk
    split at hon
    · next h => rw [if_pos h] at hk; cases hon; cases hk; exact Or.inr (Or.inl ⟨b, h, rfl, rfl, rfl⟩)
    · cases hon
  · cases hon
  · simp only [Proc.onJ, Proc.kindOn] at hon hk
    split at hon
    · next h => rw [if_pos h] at hk; cases hon; cases hk; exact Or.inr (Or.inr ⟨b, tip, id, att, h, rfl, rfl, rfl⟩)
    · cases hon
  all_goals cases hon

theorem touches_unique {p : Proc} {j j' : Nat} (h : p.touches j = true) (h' : p.touches j' = true) : j' = j := by
  cases p <;> simp_all [Proc.touches]

/-- A step of c's machine on j, given the outcome `out` of its `jstep`, for readers that need not know which of the three
    phases runs it; the Inv3 phase lemmas need the new procedure itself and rewrite with `step_jp`, `step_lookup`,
    `step_update`. -/
structure RunJ (j : Nat) (s : Sys) (c slot : Nat) (out : JOut) (s' : Sys) : Prop where
  store : s'.store = out.store
  pc : (s'.cl c).pcOn j = out.pc?
  cache : ∀ j' sl, (s'.cl c).cache j' sl = if j' = j ∧ sl = slot then out.cache else (s.cl c).cache j' sl
  cont : ∀ st jc k' pc' ev, out = .cont st jc k' pc' ev →
    (s'.cl c).kindOn j = some k' ∧ (s'.cl c).onJ j = some (slot, pc')
  proc : ∀ p', (s'.cl c).proc = some p' → p'.touches j = true ∧ ∀ j', p'.resets j' = false
  others : ∀ c', c' ≠ c → s'.cl c' = s.cl c'
  next : s.next ≤ s'.next
  acks : s'.acks = s.acks ∨ ∃ a, a.pool = j ∧ s'.acks = a :: s.acks

/-- The three phases that run a journal machine (`jp`, the tip lookup and the update of `bc`) all
    hand the store and their cache slot to `jstep` and go on as its outcome says. -/
theorem step_machine (s : Sys) (c j slot : Nat) (k : JKind) (pc : JPc)
    (hon : (s.cl c).onJ j = some (slot, pc)) (hk : (s.cl c).kindOn j = some k) :
    RunJ j s c slot (jstep s.store j ((s.cl c).cache j slot) k pc) (s.step c).1 ∧
      (s.step c).2 = some (jstep s.store j ((s.cl c).cache j slot) k pc).ev := by
  have base : ∀ (t : Sys) (x : Client) (out : JOut), t.cl = s.cl → t.store = out.store → x.pcOn j = out.pc? →
      x.cache = ((s.cl c).setCache j slot out.cache).cache →
      (∀ st jc k' pc' ev, out = .cont st jc k' pc' ev → x.kindOn j = some k' ∧ x.onJ j = some (slot, pc')) →
      (∀ p', x.proc = some p' → p'.touches j = true ∧ ∀ j', p'.resets j' = false) → s.next ≤ t.next →
      (t.acks = s.acks ∨ ∃ a, a.pool = j ∧ t.acks = a :: s.acks) → RunJ j s c slot out (t.setClient c x) := by
    intro t x out hcl hstore hpc hcache hcont hproc hnext hacks
    exact { store := hstore, pc := by rw [setClient_same]; exact hpc,
            cache := fun j' sl => by rw [setClient_same, hcache, Client.setCache_get],
            cont := by rw [setClient_same]; exact hcont, proc := by rw [setClient_same]; exact hproc,
            others := fun c' h => by rw [setClient_other _ _ _ _ h, hcl], next := hnext, acks := hacks }
  have goOn : ∀ p' : Proc, p'.touches j = true → (∀ j', p'.resets j' = false) →
      ∀ p'', some p' = some p'' → p''.touches j = true ∧ ∀ j', p''.resets j' = false := by
    rintro p' h1 h2 _ ⟨⟩; exact ⟨h1, h2⟩
  cases hp : (s.cl c).proc with
  | none => rw [Client.onJ, hp] at hon; cases hon
  | some p =>
    simp only [Client.onJ, Client.kindOn, hp] at hon hk
    rcases Proc.machine_cases hon hk with rfl | ⟨b, rfl, rfl, rfl, rfl⟩ | ⟨b, tip, id, att, rfl, rfl, rfl, rfl⟩
    · rw [step_jp s c hp]
      cases ho : jstep s.store j ((s.cl c).cache j slot) k pc with
      | cont st jc k' pc' ev =>
        exact ⟨base { s with store := st } _ (.cont st jc k' pc' ev) rfl rfl
          (by simp [Client.pcOn, Client.onJ, Proc.onJ]) rfl
          (by rintro _ _ _ _ _ ⟨⟩; simp [Client.kindOn, Client.onJ, Proc.kindOn, Proc.onJ])
          (goOn _ (by simp [Proc.touches]) fun _ => rfl) (Nat.le_refl _) (Or.inl rfl), rfl⟩
      | done st jc r ev =>
        exact ⟨base { s with store := st } _ (.done st jc r ev) rfl rfl (by simp [Client.pcOn, Client.onJ]) rfl
          (by rintro _ _ _ _ _ ⟨⟩) (by rintro _ ⟨⟩) (Nat.le_refl _) (Or.inl rfl), rfl⟩
    · rw [step_lookup s c hp]
      cases ho : jstep s.store b.pool ((s.cl c).cache b.pool b.slot) .load pc with
      | cont st jc k' pc' ev =>
        obtain rfl : k' = .load := (jstep_kind _ _ _ _ _ _ _ _ _ _ ho).elim id fun ⟨_, _, h, _⟩ => nomatch h
        exact ⟨base { s with store := st } _ (.cont st jc .load pc' ev) rfl rfl
          (by simp [Client.pcOn, Client.onJ, Proc.onJ]) rfl
          (by rintro _ _ _ _ _ ⟨⟩; simp [Client.kindOn, Client.onJ, Proc.kindOn, Proc.onJ])
          (goOn _ (by simp [Proc.touches]) fun _ => rfl) (Nat.le_refl _) (Or.inl rfl), rfl⟩
      | done st jc r ev =>
        rcases bcAfterLookup_cases { s with store := st } c ((s.cl c).setCache b.pool b.slot jc) b r jc.table
          with ⟨res, h⟩ | ⟨tip, _, h⟩ <;> simp only [h]
        · exact ⟨base { s with store := st } _ (.done st jc r ev) rfl rfl (by simp [Client.pcOn, Client.onJ]) rfl
            (by rintro _ _ _ _ _ ⟨⟩) (by rintro _ ⟨⟩) (Nat.le_refl _) (Or.inl rfl), rfl⟩
        · exact ⟨base { s with store := st, next := s.next + 1 } _ (.done st jc r ev) rfl rfl
            (by simp [Client.pcOn, Client.onJ, Proc.onJ]) rfl (by rintro _ _ _ _ _ ⟨⟩)
            (goOn _ (by simp [Proc.touches]) fun _ => rfl) (Nat.le_succ _) (Or.inl rfl), rfl⟩
    · rw [step_update s c hp]
      cases ho : jstep s.store b.pool ((s.cl c).cache b.pool b.slot) (.commit (.update b.branch tip id) att) pc with
      | cont st jc k' pc' ev =>
        obtain ⟨a', rfl⟩ : ∃ a', k' = .commit (.update b.branch tip id) a' :=
          (jstep_kind _ _ _ _ _ _ _ _ _ _ ho).elim (fun h => ⟨att, h⟩) fun ⟨_, _, h, h'⟩ => by cases h; exact ⟨_, h'⟩
        exact ⟨base { s with store := st } _ (.cont st jc _ pc' ev) rfl rfl
          (by simp [Client.pcOn, Client.onJ, Proc.onJ]) rfl
          (by rintro _ _ _ _ _ ⟨⟩; simp [Client.kindOn, Client.onJ, Proc.kindOn, Proc.onJ])
          (goOn _ (by simp [Proc.touches]) fun _ => rfl) (Nat.le_refl _) (Or.inl rfl), rfl⟩
      | done st jc r ev =>
        cases r with
        | ok =>
          exact ⟨base { s with store := st, acks := _ } _ (.done st jc .ok ev) rfl rfl (by simp [Client.pcOn, Client.onJ])
            rfl (by rintro _ _ _ _ _ ⟨⟩) (by rintro _ ⟨⟩) (Nat.le_refl _) (Or.inr ⟨_, rfl, rfl⟩), rfl⟩
        | _ =>
          exact ⟨base { s with store := st } _ (.done st jc _ ev) rfl rfl (by simp [Client.pcOn, Client.onJ, Proc.onJ])
            rfl (by rintro _ _ _ _ _ ⟨⟩) (goOn _ (by simp [Proc.touches]) fun _ => rfl) (Nat.le_refl _) (Or.inl rfl),
            rfl⟩

theorem step_jrun (s : Sys) (c j slot : Nat) (k : JKind) (pc : JPc)
    (hon : (s.cl c).onJ j = some (slot, pc)) (hk : (s.cl c).kindOn j = some k) :
    RunJ j s c slot (jstep s.store j ((s.cl c).cache j slot) k pc) (s.step c).1 :=
  (step_machine s c j slot k pc hon hk).1

theorem Store.put_ne {s : Store} {p q : Path} {v : SVal} (h : (s.put p v) q ≠ s q) : q = p :=
  Decidable.byContradiction fun hq => h (Store.put_other _ _ _ _ hq)

theorem Store.del_ne {s : Store} {p q : Path} (h : (s.del p) q ≠ s q) : q = p :=
  Decidable.byContradiction fun hq => h (Store.del_other _ _ _ hq)

/-- A step that runs no journal machine: one storage operation, not on an entry file, only under the pool worked on
    (a commit object, or files of a pool being created or deleted), caches kept. -/
structure PlainOp (s : Sys) (c : Nat) (p : Proc) (st : Store) (f : List (Nat × Nat)) (x : Client) (ev : Ev) : Prop where
  eq : s.step c = ({ s with store := st, failed := f }.setClient c x, some ev)
  noEnt : ∀ j n, ev.path ≠ .ent j n
  cache : x.cache = (s.cl c).cache
  noMachine : ∀ j, p.onJ j = none
  writes : ∀ q, st q ≠ s.store q → p.touches q.pool = true ∧ ((∃ a b, q = .cobj a b) ∨ p.resets q.pool = true)
  next : ∀ p', x.proc = some p' → (∀ j, p'.touches j = true → p.touches j = true) ∧
    (∀ j, p'.resets j = true → p.resets j = true) ∧ ∀ j slot pc, p'.onJ j = some (slot, pc) → pc = .rdHead

theorem step_cases (s : Sys) (c : Nat) (p : Proc) (hp : (s.cl c).proc = some p) :
    (∃ j slot k pc, (s.cl c).onJ j = some (slot, pc) ∧ (s.cl c).kindOn j = some k) ∨
    ∃ st f x ev, PlainOp s c p st f x ev := by
  rcases p with ⟨j, slot, k, pc⟩ | ⟨b, pc | ⟨tip, id⟩ | ⟨tip, id, att, pc⟩ | ⟨id, err⟩⟩ | ⟨j, stage⟩ | j | p
  · exact Or.inl ⟨_, _, _, _, Client.machine_jp hp⟩
  · exact Or.inl ⟨_, _, _, _, Client.machine_lookup hp⟩
  · refine Or.inr ⟨_, _, _, _, step_putObj s c hp, fun _ _ h => (nomatch h), rfl, fun _ => rfl, fun q hq => ?_, ?_⟩
    · obtain rfl := Store.put_ne hq
      exact ⟨by simp [Proc.touches, Path.pool], Or.inl ⟨_, _, rfl⟩⟩
    · rintro _ ⟨⟩
      refine ⟨fun _ h => h, fun _ h => h, fun j slot pc h => ?_⟩
      simp only [Proc.onJ] at h; split at h <;> cases h; rfl
  · exact Or.inl ⟨_, _, _, _, Client.machine_update hp⟩
  · obtain ⟨proc, res, ev, hpath, hpr, h⟩ := step_cleanup s c hp
    refine Or.inr ⟨_, _, _, _, h, fun _ _ h' => (by rw [hpath] at h'; cases h'), rfl, fun _ => rfl, fun q hq => ?_, ?_⟩
    · obtain rfl := Store.del_ne hq
      exact ⟨by simp [Proc.touches, Path.pool], Or.inl ⟨_, _, rfl⟩⟩
    · rintro p' hp'
      rcases hpr with rfl | ⟨b', hb', rfl⟩
      · cases hp'
      · cases hp'
        refine ⟨fun _ h => (by simpa [Proc.touches, hb'] using h), fun _ h => (by cases h), fun j slot pc h => ?_⟩
        simp only [Proc.onJ] at h; split at h <;> cases h; rfl
  · by_cases h0 : stage = 0
    · refine Or.inr ⟨_, _, _, _, (step_create s c hp).trans (if_pos h0), fun _ _ h => (nomatch h), rfl, fun _ => rfl,
        fun q hq => ?_, ?_⟩
      · obtain rfl := Store.put_ne hq
        exact ⟨by simp [Proc.touches, Path.pool], Or.inr (by simp [Proc.resets, Path.pool])⟩
      · rintro _ ⟨⟩; exact ⟨fun _ h => h, fun _ h => h, fun _ _ _ h => by cases h⟩
    · refine Or.inr ⟨_, _, _, _, (step_create s c hp).trans (if_neg h0), fun _ _ h => (nomatch h), rfl, fun _ => rfl,
        fun q hq => ?_, by rintro _ ⟨⟩⟩
      obtain rfl := Store.put_ne hq
      exact ⟨by simp [Proc.touches, Path.pool], Or.inr (by simp [Proc.resets, Path.pool])⟩
  · exact Or.inr ⟨_, s.failed, _, _, step_openJ s c hp, fun _ _ h => (by unfold getEv at h; split at h <;> cases h), rfl,
      fun _ => rfl, fun _ hq => absurd rfl hq, by rintro _ ⟨⟩⟩
  · refine Or.inr ⟨_, _, _, _, step_delPool s c hp, fun _ _ h => (nomatch h), rfl, fun _ => rfl, fun q hq => ?_,
      by rintro _ ⟨⟩⟩
    have : q.pool = p := Classical.byContradiction fun hne => hq (by simp [Store.delPool, hne])
    subst this
    exact ⟨by simp [Proc.touches], Or.inr (by simp [Proc.resets])⟩

theorem step_keeps (s : Sys) (c : Nat) :
    (∀ c', c' ≠ c → ((s.step c).1).cl c' = s.cl c') ∧ s.next ≤ ((s.step c).1).next ∧
      ∀ x ∈ s.acks, x ∈ ((s.step c).1).acks := by
  cases hp : (s.cl c).proc with
  | none => rw [step_idle s c hp]; exact ⟨fun _ _ => rfl, Nat.le_refl _, fun _ h => h⟩
  | some p =>
    rcases step_cases s c p hp with ⟨j, slot, k, pc, hon, hk⟩ | ⟨st, f, x, ev, o⟩
    · have m := step_jrun s c j slot k pc hon hk
      refine ⟨m.others, m.next, fun a ha => ?_⟩
      rcases m.acks with h | ⟨_, _, h⟩ <;> rw [h]
      · exact ha
      · exact List.mem_cons_of_mem _ ha
    · rw [o.eq]; exact ⟨fun c' h' => setClient_other _ _ _ _ h', Nat.le_refl _, fun _ h' => h'⟩

theorem step_others (s : Sys) (c c' : Nat) (h : c' ≠ c) : ((s.step c).1).cl c' = s.cl c' :=
  (step_keeps s c).1 c' h

theorem step_next (s : Sys) (c : Nat) : s.next ≤ ((s.step c).1).next := (step_keeps s c).2.1

structure StepFrame (j : Nat) (s : Sys) (c : Nat) (s' : Sys) : Prop where
  store : ∀ q, q.pool = j → s'.store q = s.store q
  cache : ∀ sl, (s'.cl c).cache j sl = (s.cl c).cache j sl
  acks : ∀ x ∈ s'.acks, x.pool = j → x ∈ s.acks
  proc : ∀ p', (s'.cl c).proc = some p' → p'.touches j = false

theorem touches_of_onJ {p : Proc} {j : Nat} {x : Nat × JPc} (h : p.onJ j = some x) : p.touches j = true := by
  cases ht : p.touches j with
  | true => rfl
  | false => rw [(untouched_journal ht).1] at h; cases h

theorem step_frame (s : Sys) (c j : Nat) (p : Proc) (hp : (s.cl c).proc = some p) (ht : p.touches j = false) :
    StepFrame j s c (s.step c).1 := by
  rcases step_cases s c p hp with ⟨j', slot, k, pc, hon, hk⟩ | ⟨st, f, x, ev, o⟩
  · have hj : j' ≠ j := by
      rintro rfl
      rw [Client.onJ, hp] at hon
      rw [touches_of_onJ hon] at ht; cases ht
    have m := step_jrun s c j' slot k pc hon hk
    refine ⟨fun q hq => by rw [m.store]; exact jstep_frame _ _ _ _ _ q (hq ▸ Ne.symm hj),
      fun sl => by rw [m.cache, if_neg fun h => hj h.1.symm], fun a ha haj => ?_, fun p' hp' => ?_⟩
    · rcases m.acks with h | ⟨a', ha', h⟩ <;> rw [h] at ha
      · exact ha
      · rcases List.mem_cons.mp ha with rfl | ha
        · exact absurd (ha'.symm.trans haj) hj
        · exact ha
    · cases h' : p'.touches j with
      | false => rfl
      | true => exact absurd (touches_unique (m.proc p' hp').1 h') (Ne.symm hj)
  · rw [o.eq]
    refine ⟨fun q hq => Classical.byContradiction fun hne => ?_, fun sl => by rw [setClient_same, o.cache],
      fun _ ha _ => ha, fun p' hp' => ?_⟩
    · have := (o.writes q hne).1; rw [hq, ht] at this; cases this
    · rw [setClient_same] at hp'
      cases h' : p'.touches j with
      | false => rfl
      | true => have := (o.next p' hp').1 j h'; rw [ht] at this; cases this

theorem RunJ.cache_all {j : Nat} {s s' : Sys} {c slot : Nat} {out : JOut} (r : RunJ j s c slot out s')
    {P : JCache → Prop} (hout : P out.cache) (hold : ∀ c' sl, P ((s.cl c').cache j sl)) (c' sl : Nat) :
    P ((s'.cl c').cache j sl) := by
  by_cases hcc : c' = c
  · subst hcc; rw [r.cache]; split
    · exact hout
    · exact hold _ _
  · rw [r.others c' hcc]; exact hold _ _

/-- Labels that destroy journal j: DeleteByPrefix of pool j (refused by `start` for j = 0). -/
def Start.resets (j : Nat) : Start → Bool
  | .delPool p => p == j && p != 0
  | _ => false

def Label.resets (j : Nat) : Label → Bool
  | .start _ st => st.resets j
  | .step _ => false
  | .truncSnap _ => false

structure Inv1 (j : Nat) (s : Sys) (e : Nat) : Prop where
  range : EntRange s.store j e
  he : headOf s.store j ≤ e
  eh : e ≤ headOf s.store j + 1
  ph : ∀ c n, (s.cl c).pcOn j = some (.putHead n) → n = e ∧ headOf s.store j + 1 = e
  uniq : ∀ c c' n n', (s.cl c).pcOn j = some (.putHead n) → (s.cl c').pcOn j = some (.putHead n') → c = c'
  known : ∀ c pc p, (s.cl c).pcOn j = some pc → p ∈ pc.known → p ≤ headOf s.store j
  cache : ∀ c slot, ((s.cl c).cache j slot).pos ≤ headOf s.store j
  alloc : j < s.next
  noreset : ∀ c p, (s.cl c).proc = some p → p.resets j = false
  typed : ∀ n v, s.store (.ent j n) = some v → ∃ acts, v = .entry acts
  pend : headOf s.store j + 1 = e → ∃ c, (s.cl c).pcOn j = some (.putHead e)

/-- The procedure a start label begins, with the value of `next` afterwards; `none`: refused (or `resetSlot`). -/
def Start.begin (s : Sys) : Start → Option (Proc × Nat)
  | .load j slot => some (.jp j slot .load .rdHead, s.next)
  | .commit j slot op => if startOK s j op then some (.jp j slot (.commit op 0) .rdHead, s.next) else none
  | .bcommit pool slot branch adds dels =>
    if pool = 0 then none else some (.bc ⟨pool, slot, branch, adds, dels, 0⟩ (.lookup .rdHead), s.next)
  | .create => some (.create s.next 0, s.next + 1)
  | .openJ j => some (.openJ j, s.next)
  | .delPool p => if p = 0 then none else some (.delPool p, s.next)
  | .resetSlot _ _ => none

theorem start_cases (s : Sys) (c : Nat) (st : Start) :
    s.start c st = s ∨
    ((s.cl c).proc = none ∧ ∃ j slot, s.start c st = s.setClient c ((s.cl c).setCache j slot JCache.empty)) ∨
    ((s.cl c).proc = none ∧ ∃ p nx, st.begin s = some (p, nx) ∧
      s.start c st = { s.setClient c { s.cl c with proc := some p, res := none } with next := nx }) := by
  simp only [Sys.start]
  split
  · exact Or.inl rfl
  · rename_i hnone
    cases st with
    | commit j slot op =>
      by_cases h : startOK s j op = true
      · exact Or.inr (Or.inr ⟨hnone, _, _, by simp only [Start.begin, if_pos h]; rfl, by simp only [if_pos h]; rfl⟩)
      · exact Or.inl (by simp only [if_neg h])
    | bcommit pool slot branch adds dels =>
      by_cases h : pool = 0
      · exact Or.inl (by simp only [if_pos h])
      · exact Or.inr (Or.inr ⟨hnone, _, _, by simp only [Start.begin, if_neg h]; rfl, by simp only [if_neg h]; rfl⟩)
    | delPool p =>
      by_cases h : p = 0
      · exact Or.inl (by simp only [if_pos h])
      · exact Or.inr (Or.inr ⟨hnone, _, _, by simp only [Start.begin, if_neg h]; rfl, by simp only [if_neg h]; rfl⟩)
    | resetSlot j slot => exact Or.inr (Or.inl ⟨hnone, j, slot, rfl⟩)
    | _ => exact Or.inr (Or.inr ⟨hnone, _, _, rfl, rfl⟩)

theorem Start.begin_journal {s : Sys} {st : Start} {p : Proc} {nx : Nat} (h : st.begin s = some (p, nx)) :
    s.next ≤ nx ∧ (∀ j x, p.onJ j = some x → x.2 = .rdHead) ∧
      ∀ j, p.resets j = true → st.resets j = true ∨ j = s.next := by
  have jp : ∀ j slot k j' x, (Proc.jp j slot k .rdHead).onJ j' = some x → x.2 = .rdHead := by
    intro j slot k j' x hx; simp only [Proc.onJ] at hx; split at hx <;> cases hx; rfl
  have lk : ∀ b j' x, (Proc.bc b (.lookup .rdHead)).onJ j' = some x → x.2 = .rdHead := by
    intro b j' x hx; simp only [Proc.onJ] at hx; split at hx <;> cases hx; rfl
  cases st with
  | load j slot => cases h; exact ⟨Nat.le_refl _, jp _ _ _, (fun _ h => by cases h)⟩
  | commit j slot op =>
    simp only [Start.begin] at h; split at h <;> cases h
    exact ⟨Nat.le_refl _, jp _ _ _, (fun _ h => by cases h)⟩
  | bcommit pool slot branch adds dels =>
    simp only [Start.begin] at h; split at h <;> cases h
    exact ⟨Nat.le_refl _, lk _, (fun _ h => by cases h)⟩
  | create =>
    cases h
    exact ⟨Nat.le_succ _, (fun _ _ h => by cases h), fun j hj => Or.inr (by simp only [Proc.resets, beq_iff_eq] at hj; exact hj.symm)⟩
  | openJ j => cases h; exact ⟨Nat.le_refl _, (fun _ _ h => by cases h), (fun _ h => by cases h)⟩
  | delPool q =>
    simp only [Start.begin] at h; split at h <;> cases h
    rename_i hq
    refine ⟨Nat.le_refl _, (fun _ _ h => by cases h), fun j hj => Or.inl ?_⟩
    obtain rfl : q = j := by simpa [Proc.resets] using hj
    simp [Start.resets, hq]
  | resetSlot j slot => cases h

theorem start_others (s : Sys) (c c' : Nat) (st : Start) (h : c' ≠ c) : (s.start c st).cl c' = s.cl c' := by
  rcases start_cases s c st with h' | ⟨-, _, _, h'⟩ | ⟨-, _, _, -, h'⟩ <;> rw [h']
  · exact setClient_other _ _ _ _ h
  · exact setClient_other _ _ _ _ h

theorem start_busy (s : Sys) (c c' : Nat) (st : Start) (h : (s.cl c').proc ≠ none) :
    (s.start c st).cl c' = s.cl c' := by
  by_cases hcc : c' = c
  · subst hcc
    rcases start_cases s c' st with h' | ⟨hn, -⟩ | ⟨hn, -⟩
    · rw [h']
    · exact absurd hn h
    · exact absurd hn h
  · exact start_others s c c' st hcc

theorem start_keeps (s : Sys) (c : Nat) (st : Start) :
    (s.start c st).store = s.store ∧ s.next ≤ (s.start c st).next ∧ (s.start c st).acks = s.acks := by
  rcases start_cases s c st with h' | ⟨-, _, _, h'⟩ | ⟨-, _, _, hb, h'⟩ <;> rw [h']
  · exact ⟨rfl, Nat.le_refl _, rfl⟩
  · exact ⟨rfl, Nat.le_refl _, rfl⟩
  · exact ⟨rfl, (Start.begin_journal hb).1, rfl⟩

theorem start_client (s : Sys) (c : Nat) (st : Start) (j : Nat) (hst : st.resets j = false) (hj : j < s.next) :
    let s' := s.start c st
    (s'.cl c = s.cl c) ∨
     ((s.cl c).proc = none ∧ ((s'.cl c).pcOn j = none ∨ (s'.cl c).pcOn j = some .rdHead) ∧
      (∀ sl, (s'.cl c).cache j sl = (s.cl c).cache j sl ∨ (s'.cl c).cache j sl = JCache.empty) ∧
      (∀ p, (s'.cl c).proc = some p → p.resets j = false)) := by
  intro s'
  rcases start_cases s c st with h' | ⟨hnone, j', slot, h'⟩ | ⟨hnone, p, nx, hb, h'⟩
  · exact Or.inl (by rw [show s' = s from h'])
  · have hcl : s'.cl c = (s.cl c).setCache j' slot JCache.empty := by rw [show s' = _ from h', setClient_same]
    refine Or.inr ⟨hnone, Or.inl ?_, fun sl => ?_, fun p hp => ?_⟩
    · simp [hcl, Client.pcOn, Client.onJ, hnone]
    · rw [hcl, Client.setCache_get]; split
      · exact Or.inr rfl
      · exact Or.inl rfl
    · rw [hcl, setCache_proc, hnone] at hp; cases hp
  · obtain ⟨-, hon, hres⟩ := Start.begin_journal hb
    have hcl : s'.cl c = { s.cl c with proc := some p, res := none } := by
      rw [show s' = _ from h']; exact setClient_same _ _ _
    refine Or.inr ⟨hnone, ?_, fun sl => Or.inl (by rw [hcl]), fun p' hp' => ?_⟩
    · cases ho : p.onJ j with
      | none => exact Or.inl (by simp [hcl, Client.pcOn, Client.onJ, ho])
      | some x => exact Or.inr (by simp [hcl, Client.pcOn, Client.onJ, ho, hon j x ho])
    · rw [hcl] at hp'; cases hp'
      cases hr : p.resets j with
      | false => rfl
      | true =>
        rcases hres j hr with h | h
        · rw [hst] at h; cases h
        · omega

/-- What a label means for journal j: no machine ran on j (`frame`; a client that changed had none on j
    and now has none or one at its first operation: started, a slot emptied, or turned to j as a retrying cleanup
    does), or it is a step of client c's machine on j (`run`). -/
inductive ExecJ (j : Nat) (s : Sys) (l : Label) (s' : Sys) : Prop
  | frame (hhead : s'.store (.head j) = s.store (.head j))
      (hent : ∀ n, s'.store (.ent j n) = s.store (.ent j n))
      (htail : s'.store (.tail j) = s.store (.tail j))
      (hsnap : s'.store (.snap j) = s.store (.snap j) ∨ s'.store (.snap j) = none)
      (hcl : ∀ c, s'.cl c = s.cl c ∨ ((s.cl c).onJ j = none ∧
        ((s'.cl c).pcOn j = none ∨ (s'.cl c).pcOn j = some .rdHead) ∧
        ∀ sl, (s'.cl c).cache j sl = (s.cl c).cache j sl ∨ (s'.cl c).cache j sl = JCache.empty))
  | run (c slot : Nat) (k : JKind) (pc : JPc) (hl : l = .step c) (hon : (s.cl c).onJ j = some (slot, pc))
      (hk : (s.cl c).kindOn j = some k)
      (r : RunJ j s c slot (jstep s.store j ((s.cl c).cache j slot) k pc) s')

theorem exec_summary (s : Sys) (l : Label) (j : Nat) (hl : l.resets j = false) (hj : j < s.next)
    (hnr : ∀ c p, (s.cl c).proc = some p → p.resets j = false) :
    ExecJ j s l (s.exec l) ∧ s.next ≤ (s.exec l).next ∧
      ∀ c p, ((s.exec l).cl c).proc = some p → p.resets j = false := by
  cases l with
  | truncSnap j' =>
    simp only [Sys.exec]
    refine ⟨.frame (Store.del_other _ (.snap j') (.head j) (by simp)) (fun n => Store.del_other _ (.snap j') (.ent j n) (by simp))
      (Store.del_other _ (.snap j') (.tail j) (by simp)) ?_ (fun c => Or.inl rfl), Nat.le_refl _, hnr⟩
    by_cases h : j' = j
    · subst h; exact Or.inr (Store.del_same _ _)
    · exact Or.inl (Store.del_other _ _ _ (by simpa using fun h' => h h'.symm))
  | start c st =>
    obtain ⟨hst, hnext, -⟩ := start_keeps s c st
    have hoth := fun c' h => start_others s c c' st h
    have hc := start_client s c st j (by simpa [Label.resets] using hl) hj
    simp only [Sys.exec]
    refine ⟨.frame (by rw [hst]) (fun n => by rw [hst]) (by rw [hst]) (Or.inl (by rw [hst])) ?_, hnext, ?_⟩
    · intro c'
      by_cases hcc : c' = c
      · subst hcc
        rcases hc with hc | ⟨hnone, hpc, hca, _⟩
        · exact Or.inl hc
        · exact Or.inr ⟨by simp [Client.onJ, hnone], hpc, hca⟩
      · exact Or.inl (hoth c' hcc)
    · intro c' p hp
      by_cases hcc : c' = c
      · subst hcc
        rcases hc with hc | ⟨_, _, _, hr⟩
        · rw [hc] at hp; exact hnr _ _ hp
        · exact hr p hp
      · rw [hoth c' hcc] at hp; exact hnr _ _ hp
  | step c =>
    simp only [Sys.exec]
    have hoth := step_others s c
    have frame : ∀ s' : Sys, (∀ c', c' ≠ c → s'.cl c' = s.cl c') → (s.cl c).onJ j = none →
        s'.store (.head j) = s.store (.head j) → (∀ n, s'.store (.ent j n) = s.store (.ent j n)) →
        s'.store (.tail j) = s.store (.tail j) → s'.store (.snap j) = s.store (.snap j) →
        ((s'.cl c).pcOn j = none ∨ (s'.cl c).pcOn j = some .rdHead) →
        (∀ sl, (s'.cl c).cache j sl = (s.cl c).cache j sl) → ExecJ j s (.step c) s' :=
      fun s' h0 h1 h2 h3 h4 h5 h6 h7 => .frame h2 h3 h4 (Or.inl h5) fun c' =>
        if hcc : c' = c then hcc ▸ Or.inr ⟨h1, h6, fun sl => Or.inl (h7 sl)⟩ else Or.inl (h0 c' hcc)
    have nores : (∀ p', (((s.step c).1).cl c).proc = some p' → p'.resets j = false) →
        ∀ c' p, (((s.step c).1).cl c').proc = some p → p.resets j = false := by
      intro h c' p hp
      by_cases hcc : c' = c
      · subst hcc; exact h p hp
      · rw [hoth c' hcc] at hp; exact hnr _ _ hp
    suffices h : ExecJ j s (.step c) (s.step c).1 ∧
        ∀ p', (((s.step c).1).cl c).proc = some p' → p'.resets j = false from ⟨h.1, step_next s c, nores h.2⟩
    cases hp : (s.cl c).proc with
    | none =>
      rw [step_idle s c hp]
      exact ⟨.frame rfl (fun _ => rfl) rfl (Or.inl rfl) (fun _ => Or.inl rfl), fun p' h => hnr c p' h⟩
    | some p =>
      by_cases ht : p.touches j = false
      · have f := step_frame s c j p hp ht
        have hnew : ∀ p', (((s.step c).1).cl c).proc = some p' → p'.onJ j = none ∧ p'.resets j = false :=
          fun p' h => ⟨(untouched_journal (f.proc p' h)).1, (untouched_journal (f.proc p' h)).2.2⟩
        refine ⟨frame _ hoth (by simp [Client.onJ, hp, (untouched_journal ht).1]) (f.store _ rfl)
          (fun n => f.store _ rfl) (f.store _ rfl) (f.store _ rfl) (Or.inl ?_) f.cache, fun p' h => (hnew p' h).2⟩
        cases hp' : (((s.step c).1).cl c).proc with
        | none => simp [Client.pcOn, Client.onJ, hp']
        | some p' => simp [Client.pcOn, Client.onJ, hp', (hnew p' hp').1]
      · have ht' : p.touches j = true := by simpa using ht
        rcases step_cases s c p hp with ⟨j', slot, k, pc, hon, hk⟩ | ⟨st, f, x, ev, o⟩
        · obtain rfl : j' = j := by
            have := hon; rw [Client.onJ, hp] at this
            exact touches_unique ht' (touches_of_onJ this)
          have r := step_jrun s c j' slot k pc hon hk
          exact ⟨.run c slot k pc rfl hon hk r, fun p' h => (r.proc p' h).2 _⟩
        · have keep : ∀ q, q.pool = j → (∀ a b, q ≠ .cobj a b) → st q = s.store q := by
            intro q hq hc
            refine Classical.byContradiction fun hne => ?_
            rcases (o.writes q hne).2 with ⟨a, b, h'⟩ | h'
            · exact hc a b h'
            · rw [hq, hnr c p hp] at h'; cases h'
          rw [o.eq]
          refine ⟨frame _ (fun c' h' => setClient_other _ _ _ _ h') (by rw [Client.onJ, hp]; exact o.noMachine j)
            (keep _ rfl fun _ _ h' => nomatch h') (fun n => keep _ rfl fun _ _ h' => nomatch h')
            (keep _ rfl fun _ _ h' => nomatch h') (keep _ rfl fun _ _ h' => nomatch h') ?_
            (fun _ => by rw [setClient_same, o.cache]), fun p' hp' => ?_⟩
          · rw [setClient_same]
            cases hx : x.proc with
            | none => exact Or.inl (by simp [Client.pcOn, Client.onJ, hx])
            | some p' =>
              cases ho : p'.onJ j with
              | none => exact Or.inl (by simp [Client.pcOn, Client.onJ, hx, ho])
              | some sp =>
                obtain ⟨slot, pc⟩ := sp
                obtain rfl := (o.next p' hx).2.2 j slot pc ho
                exact Or.inr (by simp [Client.pcOn, Client.onJ, hx, ho])
          · rw [setClient_same] at hp'
            cases hr : p'.resets j with
            | false => rfl
            | true => have := (o.next p' hp').2.1 j hr; rw [hnr c p hp] at this; cases this

theorem pcOn_of_onJ {x : Client} {j slot pc} (h : x.onJ j = some (slot, pc)) : x.pcOn j = some pc := by
  simp [Client.pcOn, h]

theorem isPutHead_false_of {pc : JPc} (h : pc.isPutHead = false) (n : Nat) : pc ≠ .putHead n := by
  intro hh; subst hh; simp [JPc.isPutHead] at h

theorem Inv1.putx_end {j : Nat} {s : Sys} {e c pos : Nat} (h : Inv1 j s e)
    (hpc : (s.cl c).pcOn j = some (.putx pos)) (hnone : s.store (.ent j (pos + 1)) = none) :
    pos = e ∧ headOf s.store j = e :=
  h.range.end_of_none hnone (h.known c _ pos hpc (by simp [JPc.known])) h.he

theorem Inv1.end_eq {j : Nat} {s s' : Sys} {e e' : Nat} (h1 : Inv1 j s e) (h1' : Inv1 j s' e')
    (hent : ∀ n, s'.store (.ent j n) = s.store (.ent j n)) : e = e' :=
  EntRange.unique h1.range (fun n => by rw [← hent n]; exact h1'.range n)

/-- No entry is written: HEAD stays (and whoever is at its HEAD write stays there) or reaches the journal
    end with nobody left at a HEAD write. -/
theorem inv1_quiet {j : Nat} {s s' : Sys} {e : Nat} (h : Inv1 j s e)
    (hent : ∀ n, s'.store (.ent j n) = s.store (.ent j n))
    (hH : headOf s.store j ≤ headOf s'.store j) (hnext : s.next ≤ s'.next)
    (hpc : ∀ c, (s'.cl c).pcOn j = (s.cl c).pcOn j ∨
      ∀ pc, (s'.cl c).pcOn j = some pc → pc.isPutHead = false ∧ ∀ p ∈ pc.known, p ≤ headOf s.store j)
    (hcache : ∀ c sl, ((s'.cl c).cache j sl).pos ≤ headOf s.store j)
    (hres : ∀ c p, (s'.cl c).proc = some p → p.resets j = false)
    (hkeep : (headOf s'.store j = headOf s.store j ∧
        ∀ c n, (s.cl c).pcOn j = some (.putHead n) → (s'.cl c).pcOn j = some (.putHead n)) ∨
      (headOf s'.store j = e ∧ ∀ c n, (s'.cl c).pcOn j ≠ some (.putHead n))) : Inv1 j s' e := by
  have hput : ∀ c n, (s'.cl c).pcOn j = some (.putHead n) → (s.cl c).pcOn j = some (.putHead n) := by
    intro c n hc
    rcases hpc c with h1 | h1
    · rw [← h1]; exact hc
    · have := (h1 _ hc).1; simp [JPc.isPutHead] at this
  have he := h.he
  have eh := h.eh
  constructor
  · intro n; rw [hent n]; exact h.range n
  · rcases hkeep with hk | hk <;> omega
  · omega
  · intro c n hc
    rcases hkeep with hk | hk
    · rw [hk.1]; exact h.ph c n (hput c n hc)
    · exact absurd hc (hk.2 c n)
  · intro c c' n n' hc hc'; exact h.uniq c c' n n' (hput c n hc) (hput c' n' hc')
  · intro c pc p hc hp
    refine Nat.le_trans ?_ hH
    rcases hpc c with h1 | h1
    · rw [h1] at hc; exact h.known c pc p hc hp
    · exact (h1 pc hc).2 p hp
  · intro c sl; exact Nat.le_trans (hcache c sl) hH
  · exact Nat.lt_of_lt_of_le h.alloc hnext
  · exact hres
  · intro n v hv; rw [hent n] at hv; exact h.typed n v hv
  · intro hp
    rcases hkeep with hk | hk
    · rw [hk.1] at hp
      obtain ⟨c, hc⟩ := h.pend hp
      exact ⟨c, hk.2 c e hc⟩
    · omega

theorem inv1_exec {j : Nat} {s : Sys} {e : Nat} (l : Label) (h : Inv1 j s e) (hl : l.resets j = false) :
    ∃ e', Inv1 j (s.exec l) e' ∧ e ≤ e' ∧ Ext s.store (s.exec l).store j e := by
  obtain ⟨hx, hnext, hres⟩ := exec_summary s l j hl h.alloc h.noreset
  generalize s.exec l = s' at hx hnext hres ⊢
  cases hx with
  | frame hhead hent htail hsnap hcl =>
    refine ⟨e, ?_, Nat.le_refl _, fun m _ _ => hent m, Nat.le_of_eq (headOf_congr _ _ _ hhead).symm⟩
    apply inv1_quiet h hent (Nat.le_of_eq (headOf_congr _ _ _ hhead).symm) hnext ?_ ?_ hres
      (Or.inl ⟨headOf_congr _ _ _ hhead, ?_⟩)
    · intro c
      rcases hcl c with hc | ⟨_, hpc, _⟩
      · left; rw [hc]
      · right; intro pc hpc'
        rcases hpc with hn | hn <;> rw [hn] at hpc'
        · cases hpc'
        · cases hpc'; simp [JPc.isPutHead, JPc.known]
    · intro c sl
      rcases hcl c with hc | ⟨_, _, hca⟩
      · rw [hc]; exact h.cache _ _
      · rcases hca sl with hca | hca <;> rw [hca]
        · exact h.cache _ _
        · exact Nat.zero_le _
    · intro c n hc'
      rcases hcl c with hc | ⟨hold, _, _⟩
      · rw [hc]; exact hc'
      · rw [Client.pcOn, hold] at hc'; cases hc'
  | run c slot k pc _ hon hk r =>
    have hoth := r.others
    have hpcOn := pcOn_of_onJ hon
    have nf := jstep_nf s.store j ((s.cl c).cache j slot) k pc
    generalize jstep s.store j ((s.cl c).cache j slot) k pc = out at r nf
    have hst := r.store
    have hpc := r.pc
    -- neither an entry nor HEAD is written; whatever c knows afterwards it read from HEAD or knew before
    have quiet : SnapOnly s.store j out.store → pc.isPutHead = false →
        (∀ pc', out.pc? = some pc' → pc'.isPutHead = false ∧
          ∀ p ∈ pc'.known, p = headOf s.store j ∨ p ∈ pc.known ∨ p = ((s.cl c).cache j slot).pos) →
        (out.cache.pos = ((s.cl c).cache j slot).pos ∨ out.cache.pos ∈ pc.known) →
        ∃ e', Inv1 j s' e' ∧ e ≤ e' ∧ Ext s.store s'.store j e := by
      intro hs0 qnot qpc qcache
      obtain ⟨qent, hh, -⟩ := hs0.keeps
      rw [← hst] at qent hh
      have old : ∀ p, p ∈ pc.known ∨ p = ((s.cl c).cache j slot).pos → p ≤ headOf s.store j := by
        rintro p (hp | rfl)
        · exact h.known c pc p hpcOn hp
        · exact h.cache c slot
      refine ⟨e, ?_, Nat.le_refl _, fun m _ _ => qent m, Nat.le_of_eq hh.symm⟩
      apply inv1_quiet h qent (Nat.le_of_eq hh.symm) hnext ?_ ?_ hres (Or.inl ⟨hh, ?_⟩)
      · intro c'
        by_cases hcc : c' = c
        · subst hcc; right; intro pc' hpc'; rw [hpc] at hpc'
          exact ⟨(qpc pc' hpc').1, fun p hp => ((qpc pc' hpc').2 p hp).elim (fun h => h ▸ Nat.le_refl _) (old p)⟩
        · left; rw [hoth c' hcc]
      · exact r.cache_all (P := fun jc => jc.pos ≤ _) (old _ (qcache.elim Or.inr Or.inl)) h.cache
      · intro c' n hc'
        by_cases hcc : c' = c
        · subst hcc; rw [hpcOn] at hc'; cases hc'; simp [JPc.isPutHead] at qnot
        · rw [hoth c' hcc]; exact hc'
    cases nf with
    | cont s0 c' k' pc' ev ho hs0 _ hpc' hkn hc hnot =>
      subst ho; exact quiet hs0 hnot (fun _ h => by cases h; exact ⟨hpc', hkn⟩) hc
    | stop s0 c' r' ev ho hs0 _ hc hnot => subst ho; exact quiet hs0 hnot (fun _ h => nomatch h) hc
    | newEnt pos op attempt hk hpc0 hnone ho =>
      subst hpc0
      have hpc' : out.pc? = some (.putHead (pos + 1)) := by rw [ho]; rfl
      have hcache' : out.cache = (s.cl c).cache j slot := by rw [ho]; rfl
      obtain ⟨hpose, hHe⟩ := h.putx_end hpcOn hnone
      have hstore : s'.store = s.store.put (.ent j (pos + 1)) (.entry op.acts) := by rw [hst, ho]; rfl
      have hH' : headOf s'.store j = headOf s.store j := by
        rw [hstore]; exact headOf_put_other _ _ _ _ (by simp)
      have hnoput : ∀ c' n, (s.cl c').pcOn j ≠ some (.putHead n) := by
        intro c' n hc'; have := (h.ph c' n hc').2; omega
      refine ⟨e + 1, ?_, by omega, by rw [hstore, hpose]; exact (Ext.put_ent h.range _).1⟩
      · constructor
        · rw [hstore, hpose]; exact h.range.put_succ _
        · rw [hH']; omega
        · rw [hH']; omega
        · intro c' n hc'
          by_cases hcc : c' = c
          · subst hcc; rw [hpc, hpc'] at hc'; cases hc'; rw [hH']; omega
          · rw [hoth c' hcc] at hc'; exact absurd hc' (hnoput c' n)
        · intro c1 c2 n1 n2 h1 h2
          by_cases hc1 : c1 = c
          · by_cases hc2 : c2 = c
            · rw [hc1, hc2]
            · rw [hoth c2 hc2] at h2; exact absurd h2 (hnoput c2 n2)
          · rw [hoth c1 hc1] at h1; exact absurd h1 (hnoput c1 n1)
        · intro c' pc' p hc' hp
          rw [hH']
          by_cases hcc : c' = c
          · subst hcc; rw [hpc, hpc'] at hc'; cases hc'; simp [JPc.known] at hp
          · rw [hoth c' hcc] at hc'; exact h.known c' pc' p hc' hp
        · rw [hH']; exact r.cache_all (P := fun jc => jc.pos ≤ _) (by rw [hcache']; exact h.cache _ _) h.cache
        · exact Nat.lt_of_lt_of_le h.alloc hnext
        · exact hres
        · intro n v hv
          rw [hstore] at hv
          by_cases hn : n = pos + 1
          · subst hn; simp at hv; exact ⟨_, hv.symm⟩
          · rw [Store.put_other _ _ _ _ (by simp [hn])] at hv; exact h.typed n v hv
        · intro _; exact ⟨c, by rw [hpc, hpc', hpose]⟩
    | newHead n hpc0 ho =>
      subst hpc0
      have hpc' : out.pc? = none := by rw [ho]; rfl
      have hcache' : out.cache.pos = 0 := by rw [ho]; rfl
      obtain ⟨hne, hHe⟩ := h.ph c n hpcOn
      have hstore : s'.store = s.store.put (.head j) (.num n) := by rw [hst, ho]; rfl
      have hH' : headOf s'.store j = n := by rw [hstore]; exact headOf_put_head _ _ _
      have hent : ∀ m, s'.store (.ent j m) = s.store (.ent j m) := by
        intro m; rw [hstore]; exact Store.put_other _ _ _ _ (by simp)
      refine ⟨e, ?_, Nat.le_refl _, fun m _ _ => hent m, by rw [hH']; omega⟩
      apply inv1_quiet h hent (by rw [hH']; omega) hnext ?_ ?_ hres (Or.inr ⟨by rw [hH', hne], ?_⟩)
      · intro c'
        by_cases hcc : c' = c
        · subst hcc; right; intro pc' h'; rw [hpc, hpc'] at h'; cases h'
        · left; rw [hoth c' hcc]
      · exact r.cache_all (P := fun jc => jc.pos ≤ _) (by rw [hcache']; exact Nat.zero_le _) h.cache
      · intro c' m hc'
        by_cases hcc : c' = c
        · subst hcc; rw [hpc, hpc'] at hc'; cases hc'
        · rw [hoth c' hcc] at hc'; exact hcc (h.uniq c' c m n hc' hpcOn)

/-- The run contains no DeleteByPrefix of pool j. -/
def NoReset (j : Nat) (ls : List Label) : Prop := ∀ l ∈ ls, l.resets j = false

theorem noReset_zero (ls : List Label) : NoReset 0 ls := by
  intro l _
  cases l with
  | start c st => cases st <;> simp [Label.resets, Start.resets]
  | step c => rfl
  | truncSnap j' => rfl

theorem Sys.run_inv {P : Sys → Prop} : ∀ (ls : List Label) {s : Sys}, P s →
    (∀ s, P s → ∀ l ∈ ls, P (s.exec l)) → P (s.run ls)
  | [], _, h, _ => h
  | l :: ls, _, h, hstep =>
    Sys.run_inv ls (hstep _ h l (by simp)) fun s hs l' hl' => hstep s hs l' (by simp [hl'])

theorem inv1_run {j : Nat} (ls : List Label) {s : Sys} {e : Nat} (h : Inv1 j s e) (hn : NoReset j ls) :
    ∃ e', Inv1 j (s.run ls) e' ∧ e ≤ e' ∧ Ext s.store (s.run ls).store j e := by
  refine Sys.run_inv ls (P := fun s' => ∃ e', Inv1 j s' e' ∧ e ≤ e' ∧ Ext s.store s'.store j e)
    ⟨e, h, Nat.le_refl _, .refl _ _ _⟩ ?_
  rintro s1 ⟨e1, h1, he1, x1⟩ l hl
  obtain ⟨e2, h2, he2, x2⟩ := inv1_exec l h1 (hn l hl)
  exact ⟨e2, h2, Nat.le_trans he1 he2, x1.trans x2 he1⟩

/-- Journal j exists, is empty, and no client has started anything on it (the state right after
    `journal.Create`; for j = 0 the state right after `lake.Create`). -/
structure JFresh (j : Nat) (s : Sys) : Prop where
  head : s.store (.head j) = some (.num 0)
  noent : ∀ n, s.store (.ent j n) = none
  idle : ∀ c, (s.cl c).pcOn j = none
  cache : ∀ c sl, (s.cl c).cache j sl = JCache.empty
  tail : s.store (.tail j) = some (.tailv 1 0)
  nosnap : s.store (.snap j) = none
  alloc : j < s.next
  noreset : ∀ c p, (s.cl c).proc = some p → p.resets j = false

theorem JFresh.inv1 {j s} (h : JFresh j s) : Inv1 j s 0 := by
  have hH : headOf s.store j = 0 := headOf_eq_of h.head
  constructor
  · intro n; simp [h.noent n]; omega
  · omega
  · omega
  · intro c n hc; rw [h.idle c] at hc; cases hc
  · intro c c' n n' hc; rw [h.idle c] at hc; cases hc
  · intro c pc p hc; rw [h.idle c] at hc; cases hc
  · intro c sl; rw [h.cache c sl]; simp [JCache.empty]
  · exact h.alloc
  · exact h.noreset
  · intro n v hv; rw [h.noent n] at hv; cases hv
  · intro hp; omega

theorem init_fresh : JFresh 0 Sys.init := by
  constructor <;> simp [Sys.init, Store.put, Store.empty, Client.idle, Client.pcOn, Client.onJ, JCache.empty]

/-- States reachable from a fresh journal j by any labels that do not delete pool j. -/
def Reach (j : Nat) (s : Sys) : Prop := ∃ s0 ls, JFresh j s0 ∧ NoReset j ls ∧ s = s0.run ls

theorem Sys.run_append (s : Sys) (l1 l2 : List Label) : s.run (l1 ++ l2) = (s.run l1).run l2 := by
  induction l1 generalizing s with
  | nil => rfl
  | cons l ls ih => simp [Sys.run, ih]

theorem Reach.run {j s} (h : Reach j s) (ls : List Label) (hn : NoReset j ls) : Reach j (s.run ls) := by
  obtain ⟨s0, l0, hf, hn0, rfl⟩ := h
  exact ⟨s0, l0 ++ ls, hf, List.forall_mem_append.2 ⟨hn0, hn⟩, (Sys.run_append _ _ _).symm⟩

theorem Reach.inv1 {j s} (h : Reach j s) : ∃ e, Inv1 j s e := by
  obtain ⟨s0, l0, hf, hn0, rfl⟩ := h
  obtain ⟨e, he, _⟩ := inv1_run l0 hf.inv1 hn0
  exact ⟨e, he⟩

/-- journal j is wedged on client c0: entry e exists, HEAD = e-1, and c0 — the creator of
    entry e — is stopped just before its HEAD write. -/
structure Wedged (j : Nat) (s : Sys) (e c0 : Nat) : Prop where
  inv : Inv1 j s e
  behind : headOf s.store j + 1 = e
  who : (s.cl c0).pcOn j = some (.putHead e)

theorem wedged_exec {j : Nat} {s : Sys} {e c0 : Nat} (l : Label) (h : Wedged j s e c0)
    (hl : l.resets j = false) (hc0 : l ≠ .step c0) :
    Wedged j (s.exec l) e c0 ∧ headOf (s.exec l).store j = headOf s.store j := by
  obtain ⟨e', hinv', -⟩ := inv1_exec l h.inv hl
  -- c0 is not stepped and is busy, so it is still at its HEAD write: Inv1 then pins the end and HEAD
  have hwho : ((s.exec l).cl c0).pcOn j = some (.putHead e) := by
    have hbusy : (s.cl c0).proc ≠ none := fun hn => by
      have := h.who; simp [Client.pcOn, Client.onJ, hn] at this
    cases l with
    | truncSnap j' => exact h.who
    | start c st => simp only [Sys.exec]; rw [start_busy s c c0 st hbusy]; exact h.who
    | step c =>
      simp only [Sys.exec]
      rw [step_others s c c0 fun hh => hc0 (by rw [hh])]; exact h.who
  obtain ⟨rfl, hb⟩ := hinv'.ph c0 e hwho
  exact ⟨⟨hinv', hb, hwho⟩, by have := h.behind; omega⟩

theorem wedged_run {j : Nat} {e c0 : Nat} (ls : List Label) {s : Sys} (h : Wedged j s e c0)
    (hn : NoReset j ls) (hc : ∀ l ∈ ls, l ≠ .step c0) :
    Wedged j (s.run ls) e c0 ∧ headOf (s.run ls).store j = headOf s.store j := by
  refine Sys.run_inv ls (P := fun s' => Wedged j s' e c0 ∧ headOf s'.store j = headOf s.store j) ⟨h, rfl⟩ ?_
  rintro s1 ⟨h1, hH1⟩ l hl
  obtain ⟨h2, hH2⟩ := wedged_exec l h1 (hn l hl) (hc l hl)
  exact ⟨h2, hH2.trans hH1⟩

/-- `CommitAt(HEAD)` at the journal end, run alone, succeeds in two storage operations. -/
theorem commit_at_end_succeeds {j : Nat} {s : Sys} (c slot pos : Nat) (op : JOp) (a : Nat)
    (hon : (s.cl c).onJ j = some (slot, .putx pos)) (hk : (s.cl c).kindOn j = some (.commit op a))
    (hend : s.store (.ent j (pos + 1)) = none) :
    let s2 := ((s.step c).1.step c).1
    headOf s2.store j = pos + 1 ∧ s2.store (.ent j (pos + 1)) = some (.entry op.acts) ∧ (s2.cl c).pcOn j = none := by
  intro s2
  -- first step: the entry is created
  have hstep1 : jstep s.store j ((s.cl c).cache j slot) (.commit op a) (.putx pos) =
      .cont (s.store.put (.ent j (pos + 1)) (.entry op.acts)) ((s.cl c).cache j slot) (.commit op a)
        (.putHead (pos + 1)) ⟨.putx, .ent j (pos + 1), .ok, some (.entry op.acts)⟩ := by
    simp only [jstep, hend]
  have r1 := step_jrun s c j slot _ _ hon hk
  obtain ⟨hk1, hon1⟩ := r1.cont _ _ _ _ _ hstep1
  have hst1 : ((s.step c).1).store = s.store.put (.ent j (pos + 1)) (.entry op.acts) := by
    rw [r1.store, hstep1]; rfl
  -- second step: HEAD is written
  have r2 := step_jrun (s.step c).1 c j slot _ _ hon1 hk1
  refine ⟨?_, ?_, ?_⟩
  · show headOf (((s.step c).1.step c).1).store j = pos + 1
    rw [r2.store]; exact headOf_put_head _ _ _
  · show (((s.step c).1.step c).1).store (.ent j (pos + 1)) = _
    rw [r2.store]; show (((s.step c).1).store.put _ _) _ = _
    rw [Store.put_other _ _ _ _ (by simp), hst1, Store.put_same]
  · show ((((s.step c).1.step c).1).cl c).pcOn j = none
    rw [r2.pc]; rfl

end Zed.Store

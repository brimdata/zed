import Zed.Model.TyContext
import Zed.Proofs.Law
/-! Insertion sort (`insRev` / `insertionSort` of Model/CompareTypes) yields the unique sorted
    permutation when `less` is a strict total order on the elements. -/
namespace Zed
open List

section
variable {α : Type} (less : α → α → Bool) (P : α → Prop)

structure StrictTotalOn : Prop where
  asymm : ∀ a b, P a → P b → less a b = true → less b a = false
  trans_ge : ∀ a b c, P a → P b → P c → less a b = false → less b c = false → less a c = false
  antisymm : ∀ a b, P a → P b → less a b = false → less b a = false → a = b

theorem Ord.Law.strictTotalOn {S : α → Prop} {c : α → α → Ordering} (h : Ord.Lin S c) :
    StrictTotalOn (fun a b => c a b == .lt) S where
  asymm a b ha hb hab := by
    rw [beq_iff_eq] at hab
    rw [h.swap ha hb, hab]; rfl
  trans_ge a b d ha hb hd h1 h2 := by
    rw [beq_eq_false_iff_ne] at *
    exact (h.tr a b d ha hb hd).ge h1 h2
  antisymm a b ha hb h1 h2 := by
    rw [beq_eq_false_iff_ne] at h1 h2
    rw [h.swap ha hb] at h2
    refine h.sep trivial a b ha hb ?_
    revert h1 h2; cases c a b <;> simp [Ordering.swap]

theorem insRev_perm (x : α) : (acc : List α) → (insRev less x acc).Perm (x :: acc)
  | [] => by simp [insRev]
  | y :: ys => by
    simp only [insRev]
    split
    · exact ((insRev_perm x ys).cons y).trans (Perm.swap x y ys)
    · exact Perm.refl _

theorem insRev_sorted (h : StrictTotalOn less P) (x : α) (hx : P x) :
    (acc : List α) → (∀ y ∈ acc, P y) → acc.Pairwise (fun a b => less a b = false) →
    (insRev less x acc).Pairwise (fun a b => less a b = false)
  | [], _, _ => by simp [insRev]
  | y :: ys, hP, hs => by
    have hy : P y := hP y (by simp)
    have hys : ∀ z ∈ ys, P z := fun z hz => hP z (by simp [hz])
    rw [pairwise_cons] at hs
    simp only [insRev]
    split
    · rename_i hlt
      rw [pairwise_cons]
      refine ⟨?_, insRev_sorted h x hx ys hys hs.2⟩
      intro z hz
      have hz' := (insRev_perm less x ys).mem_iff.mp hz
      simp only [mem_cons] at hz'
      rcases hz' with rfl | hz'
      · exact h.asymm _ _ hx hy hlt
      · exact hs.1 z hz'
    · rename_i hge
      have hge' : less x y = false := by simpa using hge
      rw [pairwise_cons]
      refine ⟨?_, pairwise_cons.mpr hs⟩
      intro z hz
      simp only [mem_cons] at hz
      rcases hz with rfl | hz
      · exact hge'
      · exact h.trans_ge x y z hx hy (hys z hz) hge' (hs.1 z hz)

theorem foldl_insRev_perm : (l acc : List α) →
    (l.foldl (fun acc x => insRev less x acc) acc).Perm (l ++ acc)
  | [], _ => Perm.refl _
  | x :: xs, acc =>
    (foldl_insRev_perm xs _).trans ((Perm.append_left xs (insRev_perm less x acc)).trans perm_middle)

theorem insertionSort_perm (l : List α) : (insertionSort less l).Perm l := by
  have := foldl_insRev_perm less l []
  rw [append_nil] at this
  exact (reverse_perm _).trans this

theorem foldl_insRev_sorted (h : StrictTotalOn less P) :
    (l acc : List α) → (∀ y ∈ l, P y) → (∀ y ∈ acc, P y) → acc.Pairwise (fun a b => less a b = false) →
    (l.foldl (fun acc x => insRev less x acc) acc).Pairwise (fun a b => less a b = false)
  | [], _, _, _, hs => hs
  | x :: xs, acc, hl, ha, hs => by
    have hx : P x := hl x mem_cons_self
    refine foldl_insRev_sorted h xs _ (fun y hy => hl y (mem_cons_of_mem _ hy)) (fun y hy => ?_)
      (insRev_sorted less P h x hx acc ha hs)
    rcases mem_cons.mp ((insRev_perm less x acc).mem_iff.mp hy) with rfl | hy
    · exact hx
    · exact ha y hy

theorem insertionSort_sorted (h : StrictTotalOn less P) (l : List α) (hl : ∀ y ∈ l, P y) :
    (insertionSort less l).Pairwise (fun a b => less b a = false) := by
  unfold insertionSort
  rw [pairwise_reverse]
  exact foldl_insRev_sorted less P h l [] hl (by simp) Pairwise.nil

theorem insertionSort_eq_of_perm (h : StrictTotalOn less P) (l l' : List α) (hp : l'.Perm l)
    (hl : ∀ y ∈ l, P y) : insertionSort less l' = insertionSort less l := by
  have hl' : ∀ y ∈ l', P y := fun y hy => hl y (hp.mem_iff.mp hy)
  have p1 := insertionSort_perm less l
  have p2 := insertionSort_perm less l'
  refine Perm.eq_of_pairwise (le := fun a b => less b a = false) ?_
    (insertionSort_sorted less P h l' hl') (insertionSort_sorted less P h l hl) (p2.trans (hp.trans p1.symm))
  intro a b ha hb hab hba
  exact h.antisymm a b (hl' a (p2.mem_iff.mp ha)) (hl b (p1.mem_iff.mp hb)) hba hab

/-! `Ty.wf` asks of union members that none is less than its predecessor (`adjSorted`,
    Model/TyContext).  A sorted list is such a list; and on such a list every insertion stops at the
    head of the reversed prefix, whatever `less` is, so sorting leaves it as it is. -/

theorem adjSorted_of_pairwise : (l : List α) → l.Pairwise (fun a b => less b a = false) →
    Ctx.adjSorted less l = true
  | [], _ => rfl
  | [_], _ => rfl
  | x :: y :: rest, h => by
    rw [pairwise_cons] at h
    simp only [Ctx.adjSorted, Bool.and_eq_true, Bool.not_eq_true']
    exact ⟨h.1 y mem_cons_self, adjSorted_of_pairwise (y :: rest) h.2⟩

theorem foldl_insRev_adjSorted : ∀ (l : List α) (y : α) (acc : List α), Ctx.adjSorted less (y :: l) = true →
    l.foldl (fun acc x => insRev less x acc) (y :: acc) = l.reverse ++ y :: acc
  | [], _, _, _ => rfl
  | x :: xs, y, acc, h => by
    simp only [Ctx.adjSorted, Bool.and_eq_true, Bool.not_eq_true'] at h
    rw [foldl_cons, insRev, h.1, if_neg Bool.false_ne_true, foldl_insRev_adjSorted xs x (y :: acc) h.2,
      reverse_cons, append_assoc, singleton_append]

theorem insertionSort_of_adjSorted : ∀ (l : List α), Ctx.adjSorted less l = true → insertionSort less l = l
  | [], _ => rfl
  | y :: l, h => by
    rw [insertionSort, foldl_cons, insRev, foldl_insRev_adjSorted less l y [] h, reverse_append,
      reverse_reverse, reverse_cons, reverse_nil, nil_append, singleton_append]

theorem insertionSort_of_sorted (h : StrictTotalOn less P) (l : List α) (hl : ∀ y ∈ l, P y)
    (hs : l.Pairwise (fun a b => less b a = false)) : insertionSort less l = l :=
  -- a sorted list is `adjSorted`; neither the order nor `P` is needed for that
  have _ := h; have _ := hl
  insertionSort_of_adjSorted less l (adjSorted_of_pairwise less l hs)

/-! The output is such a list as soon as `less` is asymmetric: no transitivity is assumed. -/

theorem adjSorted_cons_cons (x y : α) (rest : List α) :
    Ctx.adjSorted less (x :: y :: rest) = (!less y x && Ctx.adjSorted less (y :: rest)) := rfl

/-- reversed form: in `acc` no element is less than its *successor* -/
def adjRev : List α → Bool
  | [] => true
  | [_] => true
  | x :: y :: rest => !less x y && adjRev (y :: rest)

theorem adjRev_cons_cons (x y : α) (rest : List α) :
    adjRev less (x :: y :: rest) = (!less x y && adjRev less (y :: rest)) := rfl

theorem adjRev_insRev (hasym : ∀ a b, less a b = true → less b a = false) (x : α) :
    (acc : List α) → adjRev less acc = true → adjRev less (insRev less x acc) = true
  | [], _ => rfl
  | [y], _ => by
    simp only [insRev]
    split
    · rename_i h; simp [adjRev, hasym x y h]
    · rename_i h; simp only [adjRev, Bool.and_true, Bool.not_eq_true']; simpa using h
  | y :: z :: rest, h => by
    rw [adjRev_cons_cons, Bool.and_eq_true, Bool.not_eq_true'] at h
    have ih := adjRev_insRev hasym x (z :: rest) h.2
    rw [insRev]
    split
    · rename_i hxy
      rw [insRev] at ih ⊢
      split
      · rename_i hxz
        rw [if_pos hxz] at ih
        rw [adjRev_cons_cons, Bool.and_eq_true, Bool.not_eq_true']
        exact ⟨h.1, ih⟩
      · rename_i hxz
        rw [if_neg hxz] at ih
        rw [adjRev_cons_cons, Bool.and_eq_true, Bool.not_eq_true']
        exact ⟨hasym x y hxy, ih⟩
    · rename_i hxy
      rw [adjRev_cons_cons, adjRev_cons_cons, Bool.and_eq_true, Bool.and_eq_true, Bool.not_eq_true', Bool.not_eq_true']
      exact ⟨by simpa using hxy, h.1, h.2⟩

theorem adjSorted_append_singleton : (l : List α) → (a : α) →
    Ctx.adjSorted less (l ++ [a]) = (Ctx.adjSorted less l && match l.getLast? with | none => true | some z => !less a z)
  | [], a => rfl
  | [x], a => by simp [Ctx.adjSorted]
  | x :: y :: rest, a => by
    have ih := adjSorted_append_singleton (y :: rest) a
    simp only [cons_append] at ih ⊢
    rw [adjSorted_cons_cons, ih, adjSorted_cons_cons]
    simp [Bool.and_assoc, getLast?_cons_cons]

theorem adjSorted_reverse : (acc : List α) → Ctx.adjSorted less acc.reverse = adjRev less acc
  | [] => rfl
  | [x] => rfl
  | x :: y :: rest => by
    rw [reverse_cons, adjSorted_append_singleton, adjSorted_reverse (y :: rest)]
    simp only [adjRev, reverse_cons, getLast?_append, getLast?_singleton, Option.some_or]
    rw [Bool.and_comm]

theorem adjSorted_insertionSort (hasym : ∀ a b, less a b = true → less b a = false) (l : List α) :
    Ctx.adjSorted less (insertionSort less l) = true := by
  unfold insertionSort
  rw [adjSorted_reverse]
  have : ∀ (l acc : List α), adjRev less acc = true →
      adjRev less (l.foldl (fun acc x => insRev less x acc) acc) = true := by
    intro l
    induction l with
    | nil => intro acc h; exact h
    | cons x xs ih => intro acc h; exact ih _ (adjRev_insRev less hasym x acc h)
  exact this l [] rfl

end
end Zed

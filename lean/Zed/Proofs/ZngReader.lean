import Zed.Model.ZngReader
/-! Over a whole stream the modelled ZNG reader reaches no panic site and asks for no buffer above
    the configured read limit: `step_safe`, frame by frame. -/
namespace Zed.Zng

theorem readStream_safe (o : ROpts) (decomp : Bytes → Nat → Option Bytes) (ctx : Ctx) (bs : Bytes) :
    (∀ s, (readStream o decomp ctx bs).out ≠ .panic s) ∧
    ∀ a ∈ (readStream o decomp ctx bs).allocs, a ≤ o.maxSize := by
  fun_induction readStream o decomp ctx bs with
  | case1 => exact ⟨nofun, nofun⟩
  | case2 ctx code tl e al hs =>
    have := @step_safe o decomp ctx code tl
    rwa [hs] at this
  | case3 ctx code tl ctx' vs al rest hs _ r ih =>
    have := @step_safe o decomp ctx code tl
    rw [hs] at this
    exact ⟨ih.1, List.forall_mem_append.mpr ⟨this.2, ih.2⟩⟩

end Zed.Zng

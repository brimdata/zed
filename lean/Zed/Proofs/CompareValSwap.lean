import Zed.Proofs.CompareValClass
/-! `compareValues` is reflexive and antisymmetric on ALL values; `Law.swap` needs the triple law, which `cmpVal` has on
    well-formed values only, so this is a recursion of its own, by the same route. -/
namespace Zed
open Zed.Ord

theorem cmpNum_swap (a b : Num) : cmpNum b a = (cmpNum a b).swap := by
  by_cases hf : a.isFloat = true ∨ b.isFloat = true
  · rw [cmpNum_float hf, cmpNum_float hf.symm]; exact fLin.swap trivial trivial
  · simp only [not_or, Bool.not_eq_true] at hf
    rw [cmpNum_ints a b hf.1 hf.2, cmpNum_ints b a hf.2 hf.1]; exact intLin.swap trivial trivial

theorem cmpLeaf_swap (a b : Val) : cmpLeaf b a = (cmpLeaf a b).swap := by
  cases a <;> cases b <;>
    first
    | exact bytesLin.swap trivial trivial
    | exact tyLin.swap trivial trivial
    | (rename_i x _ y; cases x <;> cases y <;> rfl)
    | (simp only [cmpLeaf]
       rw [Ordering.swap_then, ← Nat.compare_swap, bytesLin.swap (a := _) (b := _) trivial trivial])

/-- `n` bounds the size of the first argument -/
theorem cmpVal_swap_lt (nm : Bool) : (n : Nat) → (a b : Val) → sizeOf a < n → cmpVal nm b a = (cmpVal nm a b).swap
  | 0, _, _, ha => absurd ha (Nat.not_lt_zero _)
  | n+1, a, b, ha => by
    rw [cmpVal_classified nm a b, cmpVal_classified nm b a, Ordering.swap_then,
      (vkLin nm).swap (vk_ok a) (vk_ok b)]
    cases hk : cmpVK nm (vk a) (vk b) <;> try rfl
    have h := ((vkLin nm).eq_iff (vk_ok a) (vk_ok b)).mp hk
    show within nm b a = (within nm a b).swap
    unfold within
    rw [← h]
    cases vk a with
    | nullv => rfl
    | num => cases a.num? <;> cases b.num? <;> first | rfl | exact cmpNum_swap _ _
    | ty u =>
      cases a <;> cases b <;> simp only [cmpSameOf] <;> first | exact cmpLeaf_swap _ _ | skip
      rename_i t xs t' ys
      simp only [Val.seq.sizeOf_spec] at ha
      rw [cmpVals_eq_lex, cmpVals_eq_lex]
      exact lexCmp_swap _ _ fun v hv y => cmpVal_swap_lt nm n v y (by have := xs.sizeOf_toList v hv; omega)

theorem cmpVal_swap (nm : Bool) (a b : Val) : cmpVal nm b a = (cmpVal nm a b).swap :=
  cmpVal_swap_lt nm _ a b (Nat.lt_succ_self _)

theorem cmpVals_swap (nm : Bool) : (xs ys : Vals) → cmpVals nm ys xs = (cmpVals nm xs ys).swap := fun xs ys => by
  rw [cmpVals_eq_lex, cmpVals_eq_lex]; exact lexCmp_swap _ _ fun x _ y => cmpVal_swap nm x y

theorem cmpVal_refl (nm : Bool) (a : Val) : cmpVal nm a a = .eq := eq_of_eq_swap (cmpVal_swap nm a a)

theorem cmpVals_refl (nm : Bool) : (xs : Vals) → cmpVals nm xs xs = .eq :=
  fun xs => eq_of_eq_swap (cmpVals_swap nm xs xs)

end Zed

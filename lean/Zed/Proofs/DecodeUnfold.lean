import Zed.Model.CtxSteps
import Zed.Proofs.ContextOps
/-! The equations of `decodeTV` and `compileTV`, one per value of the first byte, written with the `bind` the
    model spells out as nested matches. -/
namespace Zed
open Zcode List Generated.C05
namespace Ctx

/-- the decoder's dispatch on the first byte, as a case analysis with the nine codes by name -/
@[elab_as_elim]
theorem code_elim {motive : UInt8 → Prop} (b : UInt8)
    (namedef : motive (byteOf tvNameDef)) (nameref : motive (byteOf tvNameRef))
    (record : motive (byteOf tvRecord)) (array : motive (byteOf tvArray)) (set : motive (byteOf tvSet))
    (map : motive (byteOf tvMap)) (union : motive (byteOf tvUnion)) (enum : motive (byteOf tvEnum))
    (error : motive (byteOf tvError)) (other : ∀ b, b.toNat ∉ codes → motive b) : motive b := by
  by_cases h : b.toNat ∈ codes
  · rw [show b = byteOf b.toNat by simp [byteOf]]
    simp only [codes, mem_cons, not_mem_nil, or_false] at h
    rcases h with h | h | h | h | h | h | h | h | h <;> rw [h] <;> assumption
  · exact other b h

/-- a decoder's answer: the context afterwards, and the value with the unread bytes unless it failed -/
abbrev Dec (α : Type) := Ctx × Option (α × Bytes)
/-- a compiler's answer: the instructions emitted so far, and the value unless the bytes were malformed -/
abbrev Prg (α : Type) := List Instr × Option α

def Dec.bind {α β : Type} (d : Dec α) (k : Ctx → α → Bytes → Dec β) : Dec β :=
  match d with
  | (c, none) => (c, none)
  | (c, some (a, tv)) => k c a tv

def Dec.ret (r : Option Ty × Ctx) (tv : Bytes) : Dec Ty :=
  match r with
  | (none, c) => (c, none)
  | (some t, c) => (c, some (t, tv))

theorem Dec.bind_eq_some {α β : Type} {d : Dec α} {k : Ctx → α → Bytes → Dec β} {c' : Ctx} {b : β} {rest : Bytes}
    (h : Dec.bind d k = (c', some (b, rest))) : ∃ c a tv, d = (c, some (a, tv)) ∧ k c a tv = (c', some (b, rest)) := by
  rcases d with ⟨c, _ | ⟨a, tv⟩⟩
  · cases h
  · exact ⟨c, a, tv, rfl, h⟩

def Prg.bind {α β : Type} (p : Prg α) (k : α → Prg β) : Prg β :=
  match p with
  | (is, none) => (is, none)
  | (is, some a) => (is ++ (k a).1, (k a).2)

/-! `rfl` does not see through a stuck `match`, except against a `match` of the same arity: so the polymorphic
    `bind` is unfolded once at each type the model matches on; used from left to right only. -/
theorem Dec.bind_ty {β : Type} (d : Dec Ty) (k : Ctx → Ty → Bytes → Dec β) :
    Dec.bind d k = match d with | (c, none) => (c, none) | (c, some (t, tv)) => k c t tv := by
  rcases d with ⟨c, _ | ⟨t, tv⟩⟩ <;> rfl
theorem Dec.bind_fields {β : Type} (d : Dec (List (Name × Ty))) (k : Ctx → List (Name × Ty) → Bytes → Dec β) :
    Dec.bind d k = match d with | (c, none) => (c, none) | (c, some (fs, tv)) => k c fs tv := by
  rcases d with ⟨c, _ | ⟨fs, tv⟩⟩ <;> rfl
theorem Dec.bind_tys {β : Type} (d : Dec (List Ty)) (k : Ctx → List Ty → Bytes → Dec β) :
    Dec.bind d k = match d with | (c, none) => (c, none) | (c, some (ts, tv)) => k c ts tv := by
  rcases d with ⟨c, _ | ⟨ts, tv⟩⟩ <;> rfl
theorem Dec.bind_len {β : Type} (c : Ctx) (x : Option (Nat × Bytes)) (k : Ctx → Nat → Bytes → Dec β) :
    Dec.bind (c, x) k = match x with | none => (c, none) | some (n, tv) => k c n tv := by
  rcases x with _ | ⟨n, tv⟩ <;> rfl
theorem Dec.bind_name {β : Type} (c : Ctx) (x : Option (Name × Bytes)) (k : Ctx → Name → Bytes → Dec β) :
    Dec.bind (c, x) k = match x with | none => (c, none) | some (n, tv) => k c n tv := by
  rcases x with _ | ⟨n, tv⟩ <;> rfl
theorem Dec.bind_syms {β : Type} (c : Ctx) (x : Option (List Name × Bytes)) (k : Ctx → List Name → Bytes → Dec β) :
    Dec.bind (c, x) k = match x with | none => (c, none) | some (ss, tv) => k c ss tv := by
  rcases x with _ | ⟨ss, tv⟩ <;> rfl
theorem Dec.ret_opt (x : Option Ty) (c : Ctx) (tv : Bytes) :
    Dec.ret (x, c) tv = match x with | none => (c, none) | some t => (c, some (t, tv)) := by
  cases x <;> rfl
theorem Prg.bind_rest {β : Type} (p : Prg Bytes) (k : Bytes → Prg β) :
    Prg.bind p k = match p with | (is, none) => (is, none) | (is, some tv) => (is ++ (k tv).1, (k tv).2) := by
  rcases p with ⟨is, _ | tv⟩ <;> rfl
theorem Prg.bind_names {β : Type} (p : Prg (List Name × Bytes)) (k : List Name × Bytes → Prg β) :
    Prg.bind p k =
      match p with | (is, none) => (is, none) | (is, some (ns, tv)) => (is ++ (k (ns, tv)).1, (k (ns, tv)).2) := by
  rcases p with ⟨is, _ | ⟨ns, tv⟩⟩ <;> rfl
theorem Prg.bind_len {β : Type} (x : Option (Nat × Bytes)) (k : Nat × Bytes → Prg β) :
    Prg.bind ([], x) k = match x with | none => ([], none) | some (n, tv) => k (n, tv) := by
  rcases x with _ | ⟨n, tv⟩ <;> rfl
theorem Prg.bind_name {β : Type} (x : Option (Name × Bytes)) (k : Name × Bytes → Prg β) :
    Prg.bind ([], x) k = match x with | none => ([], none) | some (n, tv) => k (n, tv) := by
  rcases x with _ | ⟨n, tv⟩ <;> rfl
theorem Prg.bind_syms {β : Type} (x : Option (List Name × Bytes)) (k : List Name × Bytes → Prg β) :
    Prg.bind ([], x) k = match x with | none => ([], none) | some (ss, tv) => k (ss, tv) := by
  rcases x with _ | ⟨ss, tv⟩ <;> rfl

theorem decodeTV_zero (c : Ctx) (tv : Bytes) : decodeTV 0 c tv = (c, none) := by rw [decodeTV]
theorem decodeTV_nil (f : Nat) (c : Ctx) : decodeTV (f + 1) c [] = (c, none) := rfl

theorem decodeTV_namedef (f : Nat) (c : Ctx) (tv : Bytes) :
    decodeTV (f + 1) c (byteOf tvNameDef :: tv) =
      Dec.bind (c, decodeName tv) fun c name tv => Dec.bind (decodeTV f c tv) fun c t tv =>
        .ret (c.lookupNamed name t) tv := by
  simp only [Dec.bind_ty, Dec.bind_name]; rfl

theorem decodeTV_nameref (f : Nat) (c : Ctx) (tv : Bytes) :
    decodeTV (f + 1) c (byteOf tvNameRef :: tv) =
      Dec.bind (c, decodeName tv) fun c name tv => .ret (c.lookupTypeDef name, c) tv := by
  simp only [Dec.bind_name, Dec.ret_opt]; rfl

theorem decodeTV_record (f : Nat) (c : Ctx) (tv : Bytes) :
    decodeTV (f + 1) c (byteOf tvRecord :: tv) =
      Dec.bind (c, decodeLength tv) fun c n tv =>
        if n > maxRecordFields then (c, none) else
        Dec.bind (decodeFields f n c tv) fun c fs tv => .ret (c.lookupRecord fs) tv := by
  simp only [Dec.bind_len, Dec.bind_fields]; rfl

theorem decodeTV_array (f : Nat) (c : Ctx) (tv : Bytes) :
    decodeTV (f + 1) c (byteOf tvArray :: tv) =
      Dec.bind (decodeTV f c tv) fun c t tv => .ret (some (c.lookupArray t).1, (c.lookupArray t).2) tv := by
  simp only [Dec.bind_ty]; rfl

theorem decodeTV_set (f : Nat) (c : Ctx) (tv : Bytes) :
    decodeTV (f + 1) c (byteOf tvSet :: tv) =
      Dec.bind (decodeTV f c tv) fun c t tv => .ret (some (c.lookupSet t).1, (c.lookupSet t).2) tv := by
  simp only [Dec.bind_ty]; rfl

theorem decodeTV_map (f : Nat) (c : Ctx) (tv : Bytes) :
    decodeTV (f + 1) c (byteOf tvMap :: tv) =
      Dec.bind (decodeTV f c tv) fun c k tv => Dec.bind (decodeTV f c tv) fun c v tv =>
        .ret (some (c.lookupMap k v).1, (c.lookupMap k v).2) tv := by
  simp only [Dec.bind_ty]; rfl

theorem decodeTV_union (f : Nat) (c : Ctx) (tv : Bytes) :
    decodeTV (f + 1) c (byteOf tvUnion :: tv) =
      Dec.bind (c, decodeLength tv) fun c n tv =>
        if n > maxUnionTypes then (c, none) else
        Dec.bind (decodeTys f n c tv) fun c ts tv => .ret (some (c.lookupUnion ts).1, (c.lookupUnion ts).2) tv := by
  simp only [Dec.bind_len, Dec.bind_tys]; rfl

theorem decodeTV_enum (f : Nat) (c : Ctx) (tv : Bytes) :
    decodeTV (f + 1) c (byteOf tvEnum :: tv) =
      Dec.bind (c, decodeLength tv) fun c n tv =>
        if n > maxEnumSymbols then (c, none) else
        Dec.bind (c, decodeSyms n tv) fun c syms tv =>
          .ret (some (c.lookupEnum syms).1, (c.lookupEnum syms).2) tv := by
  simp only [Dec.bind_len, Dec.bind_syms]; rfl

theorem decodeTV_error (f : Nat) (c : Ctx) (tv : Bytes) :
    decodeTV (f + 1) c (byteOf tvError :: tv) =
      Dec.bind (decodeTV f c tv) fun c t tv => .ret (some (c.lookupError t).1, (c.lookupError t).2) tv := by
  simp only [Dec.bind_ty]; rfl

theorem decodeTV_other (f : Nat) (c : Ctx) (b : UInt8) (tv : Bytes) (h : b.toNat ∉ codes) :
    decodeTV (f + 1) c (b :: tv) =
      match primitiveByID? b.toNat with
      | none => (c, none)
      | some t => (c, some (t, tv)) := by
  simp only [codes, mem_cons, not_or, not_mem_nil, not_false_eq_true, and_true] at h
  show ite _ _ _ = _
  simp only [h, if_false]
  rfl

theorem decodeTV_prim (f : Nat) (c : Ctx) (i : Nat) (tv : Bytes) (w : (Ty.prim i).wf = true) :
    decodeTV (f + 1) c (byteOf i :: tv) = (c, some (.prim i, tv)) := by
  have hi := prim_wf_lt w
  have hb : (byteOf i).toNat = i := byte_toNat i (by omega)
  have hc : i ∉ codes := fun h => absurd hi (by
    simp only [codes, mem_cons, not_mem_nil, or_false] at h
    rcases h with rfl | rfl | rfl | rfl | rfl | rfl | rfl | rfl | rfl <;> decide)
  rw [decodeTV_other f c _ tv (by rw [hb]; exact hc), hb]
  simp only [Ty.wf, beq_iff_eq] at w
  rw [w]

theorem decodeFields_succ (f n : Nat) (c : Ctx) (tv : Bytes) :
    decodeFields (f + 1) (n + 1) c tv =
      Dec.bind (c, decodeName tv) fun c name tv => Dec.bind (decodeTV f c tv) fun c t tv =>
        Dec.bind (decodeFields f n c tv) fun c fs tv => (c, some ((name, t) :: fs, tv)) := by
  simp only [Dec.bind_name, Dec.bind_ty, Dec.bind_fields]; rfl

theorem decodeTys_succ (f n : Nat) (c : Ctx) (tv : Bytes) :
    decodeTys (f + 1) (n + 1) c tv =
      Dec.bind (decodeTV f c tv) fun c t tv =>
        Dec.bind (decodeTys f n c tv) fun c ts tv => (c, some (t :: ts, tv)) := by
  simp only [Dec.bind_ty, Dec.bind_tys]; rfl

theorem compileTV_zero (tv : Bytes) : compileTV 0 tv = ([], none) := by rw [compileTV]
theorem compileTV_nil (f : Nat) : compileTV (f + 1) [] = ([], none) := rfl

theorem compileTV_namedef (f : Nat) (tv : Bytes) :
    compileTV (f + 1) (byteOf tvNameDef :: tv) =
      Prg.bind ([], decodeName tv) fun p => Prg.bind (compileTV f p.2) fun tv => ([.named p.1], some tv) := by
  simp only [Prg.bind_rest, Prg.bind_name]; rfl

theorem compileTV_nameref (f : Nat) (tv : Bytes) :
    compileTV (f + 1) (byteOf tvNameRef :: tv) = Prg.bind ([], decodeName tv) fun p => ([.ref p.1], some p.2) := by
  simp only [Prg.bind_name]; rfl

theorem compileTV_record (f : Nat) (tv : Bytes) :
    compileTV (f + 1) (byteOf tvRecord :: tv) =
      Prg.bind ([], decodeLength tv) fun p =>
        if p.1 > maxRecordFields then ([], none) else
        Prg.bind (compileFields f p.1 p.2) fun q => ([.record q.1], some q.2) := by
  simp only [Prg.bind_len, Prg.bind_names]; rfl

theorem compileTV_array (f : Nat) (tv : Bytes) :
    compileTV (f + 1) (byteOf tvArray :: tv) = Prg.bind (compileTV f tv) fun tv => ([.array], some tv) := by
  simp only [Prg.bind_rest]; rfl

theorem compileTV_set (f : Nat) (tv : Bytes) :
    compileTV (f + 1) (byteOf tvSet :: tv) = Prg.bind (compileTV f tv) fun tv => ([.set], some tv) := by
  simp only [Prg.bind_rest]; rfl

/-- the model writes `is ++ is2 ++ [.map]`, the two binds give `is ++ (is2 ++ [.map])` -/
theorem compileTV_map (f : Nat) (tv : Bytes) :
    compileTV (f + 1) (byteOf tvMap :: tv) =
      Prg.bind (compileTV f tv) fun tv => Prg.bind (compileTV f tv) fun tv => ([.map], some tv) := by
  show (match compileTV f tv with
    | (is, none) => (is, none)
    | (is, some tv) =>
      match compileTV f tv with
      | (is2, none) => (is ++ is2, none)
      | (is2, some tv) => (is ++ is2 ++ [Instr.map], some tv)) = _
  rcases compileTV f tv with ⟨is, _ | tv1⟩
  · rfl
  · simp only [Prg.bind]
    rcases compileTV f tv1 with ⟨is2, _ | tv2⟩ <;> simp only [append_assoc]

theorem compileTV_union (f : Nat) (tv : Bytes) :
    compileTV (f + 1) (byteOf tvUnion :: tv) =
      Prg.bind ([], decodeLength tv) fun p =>
        if p.1 > maxUnionTypes then ([], none) else
        Prg.bind (compileTys f p.1 p.2) fun tv => ([.union p.1], some tv) := by
  simp only [Prg.bind_len, Prg.bind_rest]; rfl

theorem compileTV_enum (f : Nat) (tv : Bytes) :
    compileTV (f + 1) (byteOf tvEnum :: tv) =
      Prg.bind ([], decodeLength tv) fun p =>
        if p.1 > maxEnumSymbols then ([], none) else
        Prg.bind ([], decodeSyms p.1 p.2) fun q => ([.enum q.1], some q.2) := by
  simp only [Prg.bind_len, Prg.bind_syms]; rfl

theorem compileTV_error (f : Nat) (tv : Bytes) :
    compileTV (f + 1) (byteOf tvError :: tv) = Prg.bind (compileTV f tv) fun tv => ([.error], some tv) := by
  simp only [Prg.bind_rest]; rfl

theorem compileTV_other (f : Nat) (b : UInt8) (tv : Bytes) (h : b.toNat ∉ codes) :
    compileTV (f + 1) (b :: tv) =
      match primitiveByID? b.toNat with
      | none => ([], none)
      | some _ => ([.prim b.toNat], some tv) := by
  simp only [codes, mem_cons, not_or, not_mem_nil, not_false_eq_true, and_true] at h
  show ite _ _ _ = _
  simp only [h, if_false]
  rfl

theorem compileFields_succ (f n : Nat) (tv : Bytes) :
    compileFields (f + 1) (n + 1) tv =
      Prg.bind ([], decodeName tv) fun p => Prg.bind (compileTV f p.2) fun tv =>
        Prg.bind (compileFields f n tv) fun q => ([], some (p.1 :: q.1, q.2)) := by
  rw [compileFields]
  rcases decodeName tv with _ | ⟨name, tv1⟩
  · rfl
  · simp only [Prg.bind, nil_append]
    rcases compileTV f tv1 with ⟨is, _ | tv2⟩
    · rfl
    · simp only
      rcases compileFields f n tv2 with ⟨is2, _ | ⟨names, tv3⟩⟩ <;> simp only [append_nil]

theorem compileTys_succ (f n : Nat) (tv : Bytes) :
    compileTys (f + 1) (n + 1) tv =
      Prg.bind (compileTV f tv) fun tv => Prg.bind (compileTys f n tv) fun tv => ([], some tv) := by
  rw [compileTys]
  rcases compileTV f tv with ⟨is, _ | tv1⟩
  · rfl
  · simp only [Prg.bind]
    rcases compileTys f n tv1 with ⟨is2, _ | tv2⟩ <;> simp only [append_nil]

end Ctx
end Zed

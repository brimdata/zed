/-
  Journal tables (C12 / C17).  Every entry n+1 of journal j was created by an operation whose constraint held under exactly the
  table replayed from entries 1..n; client caches are exact or marked stale by their position.
-/
import Zed.Proofs.StoreJournal
namespace Zed.Store

theorem Table.get_cons (k v : Nat) (t : Table) (k' : Nat) :
    Table.get ((k, v) :: t) k' = if k' = k then some v else Table.get t k' := by
  simp only [Table.get, List.lookup]
  by_cases h : k' = k
  · subst h; simp
  · have : (k' == k) = false := by simp [h]
    simp [this, h]

theorem Table.get_erase (t : Table) (k k' : Nat) :
    Table.get (Table.erase t k) k' = if k' = k then none else Table.get t k' := by
  induction t with
  | nil => simp [Table.erase, Table.get]
  | cons e t ih =>
    obtain ⟨a, b⟩ := e
    simp only [Table.erase, List.filter] at ih ⊢
    by_cases ha : a = k
    · subst ha
      simp only [bne_self_eq_false]
      rw [ih]
      by_cases h : k' = a
      · simp [h]
      · simp [h, Table.get_cons]
    · have : (a != k) = true := by simp [ha]
      simp only [this]
      rw [Table.get_cons, Table.get_cons]
      by_cases h : k' = a
      · subst h; simp [ha]
      · simp only [h, if_false]; exact ih

theorem Table.get_set (t : Table) (k v k' : Nat) :
    Table.get (Table.set t k v) k' = if k' = k then some v else Table.get t k' := by
  simp only [Table.set, Table.get_cons, Table.get_erase]
  by_cases h : k' = k <;> simp [h]

theorem Table.erase_erase (t : Table) (k : Nat) : Table.erase (Table.erase t k) k = Table.erase t k := by
  simp [Table.erase, List.filter_filter]

theorem Table.erase_comm (t : Table) (k k' : Nat) :
    Table.erase (Table.erase t k) k' = Table.erase (Table.erase t k') k := by
  simp [Table.erase, List.filter_filter, Bool.and_comm]

theorem Table.erase_cons_same (t : Table) (k v : Nat) : Table.erase ((k, v) :: t) k = Table.erase t k := by
  simp [Table.erase, List.filter]

theorem Table.erase_cons_other (t : Table) (k v k' : Nat) (h : k ≠ k') :
    Table.erase ((k, v) :: t) k' = (k, v) :: Table.erase t k' := by
  have : (k != k') = true := by simp [h]
  simp [Table.erase, List.filter, this]

theorem Table.set_set (t : Table) (k v : Nat) : Table.set (Table.set t k v) k v = Table.set t k v := by
  simp [Table.set, Table.erase_cons_same, Table.erase_erase]

/-- An operation whose constraint holds applies cleanly. -/
theorem check_apply (op : JOp) (t : Table) (h : op.check t = none) : ∃ t1, applyActs t op.acts = some t1 := by
  cases op with
  | insert k v => exact ⟨_, rfl⟩
  | move old new v => exact ⟨_, rfl⟩
  | delete k v => exact ⟨_, rfl⟩
  | update k old new =>
    simp only [JOp.check] at h
    split at h
    · cases h
    · rename_i x hx
      simp [JOp.acts, applyActs, applyAct, hx]

/-- Re-applying the entry of a constrained operation to its own result changes nothing (the
    journal reader re-reads the entry at the snapshot position). -/
theorem apply_idem (op : JOp) (t t1 : Table) (h : op.check t = none) (h1 : applyActs t op.acts = some t1) :
    applyActs t1 op.acts = some t1 := by
  cases op with
  | insert k v =>
    simp [JOp.acts, applyActs, applyAct] at h1 ⊢
    subst h1; exact Table.set_set t k v
  | delete k v =>
    simp [JOp.acts, applyActs, applyAct] at h1 ⊢
    subst h1; exact Table.erase_erase t k
  | update k old new =>
    simp only [JOp.check] at h
    split at h
    · cases h
    · rename_i x hx
      simp [JOp.acts, applyActs, applyAct, hx] at h1
      subst h1
      simp [JOp.acts, applyActs, applyAct, Table.get_set, Table.set_set]
  | move old new v =>
    simp only [JOp.check] at h
    split at h
    · cases h
    · split at h
      · cases h
      · rename_i hold hnew
        have hne : old ≠ new := by
          intro hh; subst hh
          simp at hold hnew
          cases hx : Table.get t old <;> simp_all
        simp [JOp.acts, applyActs, applyAct] at h1 ⊢
        subst h1
        simp only [Table.set]
        rw [Table.erase_cons_other _ _ _ _ (Ne.symm hne), Table.erase_cons_same]
        congr 1
        rw [Table.erase_comm (Table.erase (Table.erase t old) new) old new, Table.erase_erase,
          Table.erase_comm (Table.erase t old) new old, Table.erase_erase, Table.erase_comm]

theorem tableAt_congr (s s' : Store) (j : Nat) (n : Nat)
    (h : ∀ m, 1 ≤ m → m ≤ n → s' (.ent j m) = s (.ent j m)) : tableAt s' j n = tableAt s j n := by
  induction n with
  | zero => rfl
  | succ k ih =>
    simp only [tableAt, ih (fun m h1 h2 => h m h1 (by omega)), h (k + 1) (by omega) (Nat.le_refl _)]

/-- Entry n+1 was written by an operation whose constraint held under exactly the table at n. -/
def WF (s : Store) (j e : Nat) : Prop :=
  ∀ n, n < e → ∃ (op : JOp) (t : Table), tableAt s j n = some t ∧ op.check t = none ∧ s (.ent j (n + 1)) = some (.entry op.acts)

def SnapOK (s : Store) (j : Nat) : Prop :=
  ∀ v, s (.snap j) = some v → ∃ a t, v = .jsnap a t ∧ 1 ≤ a ∧ a ≤ headOf s j ∧ tableAt s j a = some t

/-- A cache is exact, or its position is strictly behind HEAD (so it can neither be reused by the
    `head == at` shortcut nor commit: entry pos+1 exists). -/
def CacheOK (s : Store) (j : Nat) (jc : JCache) : Prop :=
  tableAt s j jc.pos = some jc.table ∨
    (jc.pos < headOf s j ∧ ∃ m, m ≤ headOf s j ∧ tableAt s j m = some jc.table)

/-- Every cached table is the table of some position at or below HEAD. -/
theorem CacheOK.hist {s j jc} (h : CacheOK s j jc) (hp : jc.pos ≤ headOf s j) :
    ∃ m, m ≤ headOf s j ∧ tableAt s j m = some jc.table := by
  rcases h with h | h
  · exact ⟨jc.pos, hp, h⟩
  · exact h.2

/-- What a program counter promises.  `rdEnt`: applying entry n to the table so far gives exactly the table at n
    (the table so far is the table at n-1, or — at the snapshot position, whose entry is read again — the table at n
    itself).  `putx`: the cache is exact and the constraint held under it, or the position is behind HEAD (the put
    will fail). -/
def PcOK (s : Store) (j : Nat) (jc : JCache) (k : JKind) : JPc → Prop
  | .rdHead => True
  | .rdSnap h => 1 ≤ h
  | .rdTail h => 1 ≤ h
  | .rdEnt h n t _ => 1 ≤ n ∧ n ≤ h ∧
      ∃ acts tn, s (.ent j n) = some (.entry acts) ∧ applyActs t acts = some tn ∧ tableAt s j n = some tn
  | .putSnap h t => 1 ≤ h ∧ tableAt s j h = some t
  | .putx pos => jc.pos = pos ∧ ∃ op a, k = .commit op a ∧
      ((tableAt s j pos = some jc.table ∧ op.check jc.table = none) ∨ pos < headOf s j)
  | .putHead n => ∃ op a, k = .commit op a ∧ s (.ent j n) = some (.entry op.acts) ∧
      ∃ t0, tableAt s j (n - 1) = some t0 ∧ op.check t0 = none

theorem tableAt_succ_of {s : Store} {j n : Nat} {t : Table} {acts : List JAct} {t' : Table}
    (ht : tableAt s j n = some t) (he : s (.ent j (n + 1)) = some (.entry acts)) (ha : applyActs t acts = some t') :
    tableAt s j (n + 1) = some t' := by
  simp [tableAt, ht, he, ha]

theorem WF.next {s j e n t} (h : WF s j e) (hn : n < e) (ht : tableAt s j n = some t) :
    ∃ (op : JOp) (t1 : Table), op.check t = none ∧ s (.ent j (n + 1)) = some (.entry op.acts) ∧
      applyActs t op.acts = some t1 ∧ tableAt s j (n + 1) = some t1 := by
  obtain ⟨op, t0, ht0, hc, hent⟩ := h n hn
  rw [ht] at ht0; cases ht0
  obtain ⟨t1, h1⟩ := check_apply op t hc
  exact ⟨op, t1, hc, hent, h1, tableAt_succ_of ht hent h1⟩

theorem WF.tableAt_some {s j e} (h : WF s j e) : ∀ n, n ≤ e → ∃ t, tableAt s j n = some t := by
  intro n
  induction n with
  | zero => intro _; exact ⟨[], rfl⟩
  | succ k ih =>
    intro hk
    obtain ⟨t, ht⟩ := ih (by omega)
    obtain ⟨_, t1, _, _, _, h1⟩ := h.next (by omega) ht
    exact ⟨t1, h1⟩

theorem Ext.tableAt {s s' j e} (x : Ext s s' j e) (n : Nat) (hn : n ≤ e) : tableAt s' j n = tableAt s j n :=
  tableAt_congr s s' j n (fun m h1 h2 => x.ents m h1 (by omega))

theorem Ext.cacheOK {s s' j e} (x : Ext s s' j e) (jc : JCache) (hp : jc.pos ≤ e) (he : headOf s j ≤ e)
    (h : CacheOK s j jc) : CacheOK s' j jc := by
  rcases h with h | ⟨h, m, hm, ht⟩
  · left; rw [x.tableAt _ hp]; exact h
  · right; have := x.head
    exact ⟨by omega, m, by omega, by rw [x.tableAt m (by omega)]; exact ht⟩

theorem Ext.wf {s s' j e} (x : Ext s s' j e) (h : WF s j e) : WF s' j e := by
  intro n hn
  obtain ⟨op, t, ht, hc, hent⟩ := h n hn
  exact ⟨op, t, by rw [x.tableAt n (by omega)]; exact ht, hc, by rw [x.ents (n + 1) (by omega) (by omega)]; exact hent⟩

theorem Ext.pcOK {s s' j e} (x : Ext s s' j e) (jc : JCache) (k : JKind) (pc : JPc)
    (hknown : ∀ p ∈ pc.known, p ≤ e) (hph : ∀ n, pc = .putHead n → 1 ≤ n ∧ n ≤ e)
    (h : PcOK s j jc k pc) : PcOK s' j jc k pc := by
  cases pc with
  | rdHead => trivial
  | rdSnap h' => exact h
  | rdTail h' => exact h
  | rdEnt h' n t a =>
    obtain ⟨h1, h2, acts, tn, h3, h4, h5⟩ := h
    have hh : h' ≤ e := hknown h' (by simp [JPc.known])
    exact ⟨h1, h2, acts, tn, by rw [x.ents n h1 (by omega)]; exact h3, h4, by rw [x.tableAt n (by omega)]; exact h5⟩
  | putSnap h' t =>
    have hh : h' ≤ e := hknown h' (by simp [JPc.known])
    exact ⟨h.1, by rw [x.tableAt h' hh]; exact h.2⟩
  | putx pos =>
    have hh : pos ≤ e := hknown pos (by simp [JPc.known])
    obtain ⟨h1, op, a, hk, h2⟩ := h
    refine ⟨h1, op, a, hk, ?_⟩
    rcases h2 with h2 | h2
    · left; rw [x.tableAt pos hh]; exact h2
    · right; have := x.head; omega
  | putHead n =>
    obtain ⟨op, a, hk, hent, t0, ht0, hc⟩ := h
    obtain ⟨h1, h2⟩ := hph n rfl
    exact ⟨op, a, hk, by rw [x.ents n h1 h2]; exact hent, t0, by rw [x.tableAt (n - 1) (by omega)]; exact ht0, hc⟩

theorem Ext.snapOK {s s' : Store} {j e : Nat} (x : Ext s s' j e) (he : headOf s j ≤ e)
    (hsnap : s' (.snap j) = s (.snap j)) (h : SnapOK s j) : SnapOK s' j := by
  intro v hv
  rw [hsnap] at hv
  obtain ⟨a, t, hv', h1, h2, h3⟩ := h v hv
  exact ⟨a, t, hv', h1, Nat.le_trans h2 x.head, by rw [x.tableAt a (by omega)]; exact h3⟩

structure JPre (s : Store) (j e : Nat) (jc : JCache) (k : JKind) (pc : JPc) : Prop where
  range : EntRange s j e
  he : headOf s j ≤ e
  known : ∀ p ∈ pc.known, p ≤ headOf s j
  cpos : jc.pos ≤ headOf s j
  ph : ∀ n, pc = .putHead n → n = e ∧ headOf s j + 1 = e
  wf : WF s j e
  tail : s (.tail j) = some (.tailv 1 0)
  snap : SnapOK s j
  cache : CacheOK s j jc
  pcok : PcOK s j jc k pc

structure JPost (s : Store) (j e : Nat) (out : JOut) : Prop where
  wf : ∃ e', EntRange out.store j e' ∧ WF out.store j e' ∧ e ≤ e'
  ext : Ext s out.store j e
  tail : out.store (.tail j) = some (.tailv 1 0)
  snap : SnapOK out.store j
  cache : CacheOK out.store j out.cache
  pcok : ∀ st jc' k' pc' ev, out = .cont st jc' k' pc' ev → PcOK st j jc' k' pc'

/-- Post-condition when the step did not write. -/
theorem JPost.same {s j e jc k pc} (p : JPre s j e jc k pc) (out : JOut) (hst : out.store = s)
    (hc : CacheOK s j out.cache)
    (hp : ∀ st jc' k' pc' ev, out = .cont st jc' k' pc' ev → PcOK st j jc' k' pc') : JPost s j e out :=
  ⟨⟨e, by rw [hst]; exact p.range, by rw [hst]; exact p.wf, Nat.le_refl _⟩, by rw [hst]; exact Ext.refl _ _ _,
    by rw [hst]; exact p.tail, by rw [hst]; exact p.snap, by rw [hst]; exact hc, hp⟩

/-- `afterLoad` with an acceptable cache: either done, or on to `putx cache.pos` with PcOK. -/
theorem afterLoad_pcok {s : Store} {j : Nat} {c' : JCache} {k : JKind} {ev : Ev} (hc : CacheOK s j c')
    (st jc' k' pc' ev') (h : afterLoad s c' k ev = .cont st jc' k' pc' ev') : PcOK st j jc' k' pc' := by
  unfold afterLoad at h
  split at h
  · cases h
  · rename_i op a
    split at h
    · cases h
    · rename_i hchk
      cases h
      refine ⟨rfl, op, a, rfl, ?_⟩
      rcases hc with hc | hc
      · exact Or.inl ⟨hc, hchk⟩
      · exact Or.inr hc.1

theorem afterLoad_post {s j e jc k pc} (p : JPre s j e jc k pc) (c' : JCache) (ev : Ev)
    (hc : CacheOK s j c') : JPost s j e (afterLoad s c' k ev) :=
  JPost.same p _ (by simp) (by simpa using hc) (afterLoad_pcok hc)

theorem jstep_tables_rdHead {s j e jc k} (p : JPre s j e jc k .rdHead) :
    JPost s j e (jstep s j jc k .rdHead) := by
  simp only [jstep]
  split
  · rename_i h hx
    have hH := headOf_eq_of hx
    split
    · rename_i hpos
      -- shortcut: the cache is reused; its position equals HEAD, so it is exact
      apply afterLoad_post p jc _
      rcases p.cache with hc | hc
      · exact Or.inl hc
      · have := hc.1; omega
    · split
      · exact JPost.same p _ rfl p.cache (by intro _ _ _ _ _ h; cases h)
      · refine JPost.same p _ rfl (by simpa using p.cache) ?_
        intro st jc' k' pc' ev h; cases h
        simp only [PcOK]; omega
  · exact JPost.same p _ rfl p.cache (by intro _ _ _ _ _ h; cases h)

theorem jstep_tables_rdSnap {s j e jc k h} (p : JPre s j e jc k (.rdSnap h)) :
    JPost s j e (jstep s j jc k (.rdSnap h)) := by
  have hh : h ≤ headOf s j := p.known h (by simp [JPc.known])
  have h1 : 1 ≤ h := p.pcok
  simp only [jstep]
  split
  · rename_i a t hx
    obtain ⟨a', t', hv, ha1, haH, hta⟩ := p.snap _ hx
    cases hv
    split
    · rename_i hah
      refine JPost.same p _ rfl (by simpa using p.cache) ?_
      intro st jc' k' pc' ev hc; cases hc
      -- entry a is read again on top of the snapshot table, the table at a: that changes nothing
      obtain ⟨t0, ht0⟩ := p.wf.tableAt_some (a - 1) (by have := p.he; omega)
      obtain ⟨op, t1, hchk, hent, hap, hta'⟩ := p.wf.next (n := a - 1) (by have := p.he; omega) ht0
      have ea : a - 1 + 1 = a := by omega
      rw [ea] at hent hta'
      rw [hta] at hta'; cases hta'
      exact ⟨ha1, hah, op.acts, t, hent, apply_idem op t0 t hchk hap, hta⟩
    · rename_i hah
      apply afterLoad_post p ⟨h, t⟩ _
      right; exact ⟨by show h < headOf s j; omega, a, haH, hta⟩
  · refine JPost.same p _ rfl (by simpa using p.cache) ?_
    intro st jc' k' pc' ev hc; cases hc; exact h1
  · exact JPost.same p _ rfl p.cache (by intro _ _ _ _ _ h; cases h)

theorem jstep_tables_rdTail {s j e jc k h} (p : JPre s j e jc k (.rdTail h)) :
    JPost s j e (jstep s j jc k (.rdTail h)) := by
  have hh : h ≤ headOf s j := p.known h (by simp [JPc.known])
  have h1 : 1 ≤ h := p.pcok
  simp only [jstep, p.tail]
  refine JPost.same p _ rfl (by simpa using p.cache) ?_
  intro st jc' k' pc' ev hc; cases hc
  obtain ⟨op, t1, _, hent, hap, ht1⟩ := p.wf.next (n := 0) (t := []) (by have := p.he; omega) rfl
  exact ⟨Nat.le_refl _, h1, op.acts, t1, hent, hap, ht1⟩

theorem jstep_tables_rdEnt {s j e jc k h n t a} (p : JPre s j e jc k (.rdEnt h n t a)) :
    JPost s j e (jstep s j jc k (.rdEnt h n t a)) := by
  have hh : h ≤ headOf s j := p.known h (by simp [JPc.known])
  obtain ⟨hn1, hnh, acts, tn, hent, hap, htn⟩ := p.pcok
  simp only [jstep, hent, hap]
  split
  · rename_i hlt
    refine JPost.same p _ rfl (by simpa using p.cache) ?_
    intro st jc' k' pc' ev hc; cases hc
    obtain ⟨op, t1, _, hent1, hap1, ht1⟩ := p.wf.next (by have := p.he; omega) htn
    exact ⟨by omega, by omega, op.acts, t1, hent1, hap1, ht1⟩
  · rename_i hge
    obtain rfl : n = h := by omega
    split
    · refine JPost.same p _ rfl (show CacheOK s j ⟨n, tn⟩ from Or.inl htn) ?_
      intro st jc' k' pc' ev hc; cases hc
      exact ⟨by omega, htn⟩
    · exact afterLoad_post p ⟨n, tn⟩ _ (Or.inl htn)

theorem jstep_tables_putSnap {s j e jc k h t} (p : JPre s j e jc k (.putSnap h t)) :
    JPost s j e (jstep s j jc k (.putSnap h t)) := by
  have hh : h ≤ headOf s j := p.known h (by simp [JPc.known])
  obtain ⟨h1, hth⟩ := p.pcok
  simp only [jstep]
  have hext : Ext s (s.put (.snap j) (.jsnap h t)) j e :=
    ⟨fun m _ _ => Store.put_other _ _ _ _ (by simp), by rw [headOf_put_other _ _ _ _ (by simp)]; exact Nat.le_refl _⟩
  have hH : headOf (s.put (.snap j) (.jsnap h t)) j = headOf s j := headOf_put_other _ _ _ _ (by simp)
  have hcache : CacheOK (s.put (.snap j) (.jsnap h t)) j jc := hext.cacheOK jc (by have := p.cpos; have := p.he; omega) p.he p.cache
  refine ⟨⟨e, ?_, by simpa using hext.wf p.wf, Nat.le_refl _⟩, by simpa using hext, ?_, ?_, by simpa using hcache, ?_⟩
  · intro m; simp only [afterLoad_store]; rw [Store.put_other _ _ _ _ (by simp)]; exact p.range m
  · simp only [afterLoad_store]; rw [Store.put_other _ _ _ _ (by simp)]; exact p.tail
  · simp only [afterLoad_store]
    intro v hv
    simp at hv
    subst hv
    exact ⟨h, t, rfl, h1, by rw [hH]; exact hh, by rw [hext.tableAt h (by have := p.he; omega)]; exact hth⟩
  · exact afterLoad_pcok hcache

theorem jstep_tables_putx {s j e jc k pos} (p : JPre s j e jc k (.putx pos)) :
    JPost s j e (jstep s j jc k (.putx pos)) := by
  have hposH : pos ≤ headOf s j := p.known pos (by simp [JPc.known])
  obtain ⟨hjp, op, a, hk, hor⟩ := p.pcok
  subst hk
  simp only [jstep]
  split
  · -- the entry exists: retry or give up
    split
    · refine JPost.same p _ rfl (by simpa using p.cache) ?_
      intro st jc' k' pc' ev hc; cases hc; trivial
    · exact JPost.same p _ rfl p.cache (by intro _ _ _ _ _ h; cases h)
  · rename_i hnone
    -- the entry is created: pos is the journal end and equals HEAD, so the cache was exact
    obtain ⟨hpose, hHe⟩ := p.range.end_of_none hnone hposH p.he
    obtain ⟨hexact, hchk⟩ : tableAt s j pos = some jc.table ∧ op.check jc.table = none := by
      rcases hor with h | h
      · exact h
      · omega
    subst hpose
    obtain ⟨hext, hrange'⟩ := Ext.put_ent p.range (.entry op.acts)
    refine ⟨⟨pos + 1, hrange', ?_, by omega⟩, by simpa using hext, ?_, ?_, ?_, ?_⟩
    · intro n hn
      simp only [JOut.store_cont]
      by_cases hne : n = pos
      · subst hne
        exact ⟨op, jc.table, by rw [hext.tableAt n (Nat.le_refl _)]; exact hexact, hchk, by simp⟩
      · exact hext.wf p.wf n (by omega)
    · simp only [JOut.store_cont]; rw [Store.put_other _ _ _ _ (by simp)]; exact p.tail
    · exact hext.snapOK p.he (Store.put_other _ _ _ _ (by simp)) p.snap
    · simpa using hext.cacheOK jc (by have := p.cpos; omega) p.he p.cache
    · intro st jc' k' pc' ev hc; cases hc
      exact ⟨op, a, rfl, by simp, jc.table, by rw [Nat.add_sub_cancel, hext.tableAt pos (Nat.le_refl _)]; exact hexact, hchk⟩

theorem jstep_tables_putHead {s j e jc k n} (p : JPre s j e jc k (.putHead n)) :
    JPost s j e (jstep s j jc k (.putHead n)) := by
  obtain ⟨hne, hHe⟩ := p.ph n rfl
  simp only [jstep]
  have hext : Ext s (s.put (.head j) (.num n)) j e :=
    ⟨fun m _ _ => Store.put_other _ _ _ _ (by simp), by rw [headOf_put_head]; omega⟩
  have hH : headOf (s.put (.head j) (.num n)) j = n := headOf_put_head _ _ _
  refine ⟨⟨e, ?_, by simpa using hext.wf p.wf, Nat.le_refl _⟩, by simpa using hext, ?_, ?_, ?_, ?_⟩
  · intro m; simp only [JOut.store_done]; rw [Store.put_other _ _ _ _ (by simp)]; exact p.range m
  · simp only [JOut.store_done]; rw [Store.put_other _ _ _ _ (by simp)]; exact p.tail
  · exact hext.snapOK p.he (Store.put_other _ _ _ _ (by simp)) p.snap
  · simp only [JOut.store_done, JOut.cache_done]
    obtain ⟨m, hm, htm⟩ := p.cache.hist p.cpos
    right
    refine ⟨by show 0 < headOf (s.put (.head j) (.num n)) j; rw [hH]; omega, m, by rw [hH]; omega, ?_⟩
    rw [hext.tableAt m (by have := p.he; omega)]; exact htm
  · intro st jc' k' pc' ev hc; cases hc

theorem jstep_tables {s j e jc k pc} (p : JPre s j e jc k pc) : JPost s j e (jstep s j jc k pc) := by
  cases pc with
  | rdHead => exact jstep_tables_rdHead p
  | rdSnap h => exact jstep_tables_rdSnap p
  | rdTail h => exact jstep_tables_rdTail p
  | rdEnt h n t a => exact jstep_tables_rdEnt p
  | putSnap h t => exact jstep_tables_putSnap p
  | putx pos => exact jstep_tables_putx p
  | putHead n => exact jstep_tables_putHead p

structure Inv2 (j : Nat) (s : Sys) (e : Nat) : Prop where
  wf : WF s.store j e
  tail : s.store (.tail j) = some (.tailv 1 0)
  snap : SnapOK s.store j
  cache : ∀ c slot, CacheOK s.store j ((s.cl c).cache j slot)
  pcs : ∀ c slot k pc, (s.cl c).onJ j = some (slot, pc) → (s.cl c).kindOn j = some k →
      PcOK s.store j ((s.cl c).cache j slot) k pc

theorem cacheOK_empty (s : Store) (j : Nat) : CacheOK s j JCache.empty := Or.inl rfl

/-- `JPre` is what `Inv1` and `Inv2` say of the one client that steps. -/
theorem JPre.of_inv {j : Nat} {s : Sys} {e c slot : Nat} {k : JKind} {pc : JPc} (h1 : Inv1 j s e) (h2 : Inv2 j s e)
    (hon : (s.cl c).onJ j = some (slot, pc)) (hk : (s.cl c).kindOn j = some k) :
    JPre s.store j e ((s.cl c).cache j slot) k pc :=
  have hpcOn := pcOn_of_onJ hon
  ⟨h1.range, h1.he, fun p hp => h1.known c pc p hpcOn hp, h1.cache c slot,
   fun n hn => by subst hn; exact h1.ph c n hpcOn, h2.wf, h2.tail, h2.snap, h2.cache c slot, h2.pcs c slot k pc hon hk⟩

theorem Inv2.client_ext {j : Nat} {s : Sys} {e : Nat} (h1 : Inv1 j s e) (h2 : Inv2 j s e) {st : Store}
    (x : Ext s.store st j e) (c : Nat) :
    (∀ slot, CacheOK st j ((s.cl c).cache j slot)) ∧
    ∀ slot k pc, (s.cl c).onJ j = some (slot, pc) → (s.cl c).kindOn j = some k →
      PcOK st j ((s.cl c).cache j slot) k pc := by
  have he := h1.he
  refine ⟨fun slot => x.cacheOK _ (by have := h1.cache c slot; omega) he (h2.cache c slot),
    fun slot k pc hon hk => ?_⟩
  have hpcOn := pcOn_of_onJ hon
  exact x.pcOK _ k pc (fun p hp => by have := h1.known c pc p hpcOn hp; omega)
    (fun n hn => by subst hn; have := h1.ph c n hpcOn; omega) (h2.pcs _ _ _ _ hon hk)

theorem inv2_exec {j : Nat} {s : Sys} {e e' : Nat} (l : Label) (h1 : Inv1 j s e) (h2 : Inv2 j s e)
    (hl : l.resets j = false) (h1' : Inv1 j (s.exec l) e') : Inv2 j (s.exec l) e' := by
  obtain ⟨hx, -, -⟩ := exec_summary s l j hl h1.alloc h1.noreset
  generalize s.exec l = s' at hx h1' ⊢
  cases hx with
  | frame hhead hent htail hsnap hcl =>
    obtain rfl := h1.end_eq h1' hent
    have hH : headOf s'.store j = headOf s.store j := headOf_congr _ _ _ hhead
    have hext : Ext s.store s'.store j e := ⟨fun m _ _ => hent m, by rw [hH]; exact Nat.le_refl _⟩
    refine ⟨hext.wf h2.wf, by rw [htail]; exact h2.tail, ?_, ?_, ?_⟩
    · rcases hsnap with hs | hs
      · exact hext.snapOK h1.he hs h2.snap
      · intro v hv; rw [hs] at hv; cases hv
    · intro c slot
      rcases hcl c with hc | ⟨_, _, hca⟩
      · rw [hc]; exact (h2.client_ext h1 hext c).1 slot
      · rcases hca slot with hca | hca <;> rw [hca]
        · exact (h2.client_ext h1 hext c).1 slot
        · exact cacheOK_empty _ _
    · intro c slot k pc hon hk
      rcases hcl c with hc | ⟨_, hpc, _⟩
      · rw [hc] at hon hk ⊢; exact (h2.client_ext h1 hext c).2 slot k pc hon hk
      · have hpc' := pcOn_of_onJ hon
        rcases hpc with hn | hn <;> rw [hn] at hpc'
        · cases hpc'
        · cases hpc'; trivial
  | run c slot k pc _ hon hk r =>
    have hoth := r.others
    have hpcOn := pcOn_of_onJ hon
    have post := jstep_tables (JPre.of_inv h1 h2 hon hk)
    obtain ⟨e'', hr'', hwf'', _⟩ := post.wf
    have hee : e'' = e' := EntRange.unique hr'' (by rw [← r.store]; exact h1'.range)
    subst hee
    have hext : Ext s.store s'.store j e := by rw [r.store]; exact post.ext
    refine ⟨by rw [r.store]; exact hwf'', by rw [r.store]; exact post.tail, by rw [r.store]; exact post.snap, ?_, ?_⟩
    · exact r.cache_all (P := CacheOK s'.store j) (by rw [r.store]; exact post.cache)
        fun c' sl => (h2.client_ext h1 hext c').1 sl
    · intro c' sl k' pc' hon' hk'
      by_cases hcc : c' = c
      · subst hcc
        -- the stepping client: its new state comes from the `cont` outcome
        cases hout : jstep s.store j ((s.cl c').cache j slot) k pc with
        | done st jc r' ev =>
          have := pcOn_of_onJ hon'
          rw [r.pc, hout] at this; cases this
        | cont st jc k'' pc'' ev =>
          obtain ⟨hk2, hon2⟩ := r.cont st jc k'' pc'' ev hout
          rw [hon2] at hon'; cases hon'
          rw [hk2] at hk'; cases hk'
          have hp := post.pcok st jc k' pc' ev hout
          rw [r.cache, if_pos ⟨rfl, rfl⟩, r.store, hout]
          simpa using hp
      · rw [hoth c' hcc] at hon' hk' ⊢
        exact (h2.client_ext h1 hext c').2 sl k' pc' hon' hk'

theorem inv12_run {j : Nat} (ls : List Label) {s : Sys} {e : Nat} (h1 : Inv1 j s e) (h2 : Inv2 j s e)
    (hn : NoReset j ls) : ∃ e', Inv1 j (s.run ls) e' ∧ Inv2 j (s.run ls) e' := by
  refine Sys.run_inv ls (P := fun s' => ∃ e', Inv1 j s' e' ∧ Inv2 j s' e') ⟨e, h1, h2⟩ ?_
  rintro s1 ⟨e1, a1, a2⟩ l hl
  obtain ⟨e2, b1, _⟩ := inv1_exec l a1 (hn l hl)
  exact ⟨e2, b1, inv2_exec l a1 a2 (hn l hl) b1⟩

theorem JFresh.inv2 {j s} (h : JFresh j s) : Inv2 j s 0 := by
  refine ⟨fun n hn => by omega, h.tail, ?_, ?_, ?_⟩
  · intro v hv; rw [h.nosnap] at hv; cases hv
  · intro c slot; rw [h.cache c slot]; exact cacheOK_empty _ _
  · intro c slot k pc hon; have := pcOn_of_onJ hon; rw [h.idle c] at this; cases this

theorem Reach.inv12 {j s} (h : Reach j s) : ∃ e, Inv1 j s e ∧ Inv2 j s e := by
  obtain ⟨s0, l0, hf, hn0, rfl⟩ := h
  exact inv12_run l0 hf.inv1 hf.inv2 hn0

def KeysNodup (t : Table) : Prop := (t.map (·.1)).Nodup

theorem erase_keys {t : Table} {k : Nat} (h : KeysNodup t) : KeysNodup (Table.erase t k) ∧ k ∉ (Table.erase t k).map (·.1) := by
  constructor
  · unfold KeysNodup Table.erase at *
    exact (List.Nodup.sublist (List.Sublist.map _ List.filter_sublist) h)
  · simp [Table.erase]

theorem set_keys {t : Table} {k v : Nat} (h : KeysNodup t) : KeysNodup (Table.set t k v) := by
  obtain ⟨h1, h2⟩ := erase_keys (k := k) h
  unfold KeysNodup Table.set
  simp only [List.map_cons, List.nodup_cons]
  exact ⟨h2, h1⟩

theorem applyAct_keys {t t' : Table} {a : JAct} (h : KeysNodup t) (ha : applyAct t a = some t') : KeysNodup t' := by
  cases a with
  | add k v => simp [applyAct] at ha; subst ha; exact set_keys h
  | update k v =>
    simp only [applyAct] at ha; split at ha
    · simp at ha; subst ha; exact set_keys h
    · cases ha
  | delete k => simp [applyAct] at ha; subst ha; exact (erase_keys h).1

theorem tableAt_induct {s : Store} {j : Nat} {P : Table → Prop} (h0 : P [])
    (hstep : ∀ m acts a t t', s (.ent j m) = some (.entry acts) → a ∈ acts → P t → applyAct t a = some t' → P t') :
    ∀ (n : Nat) (t : Table), tableAt s j n = some t → P t := by
  -- along the actions of one entry: `all` is the entry, `acts` the actions of it still to be applied
  have acts_ind : ∀ (m : Nat) (all acts : List JAct), s (.ent j m) = some (.entry all) → (∀ a ∈ acts, a ∈ all) →
      ∀ t t', P t → applyActs t acts = some t' → P t' := by
    intro m all acts hent
    induction acts with
    | nil => intro _ t t' h ha; cases ha; exact h
    | cons a as ih =>
      intro hsub t t' h ha
      simp only [applyActs] at ha
      split at ha
      · rename_i t1 h1
        exact ih (fun x hx => hsub x (List.mem_cons_of_mem _ hx)) t1 t'
          (hstep m all a t t1 hent (hsub a (List.mem_cons_self ..)) h h1) ha
      · cases ha
  intro n
  induction n with
  | zero => intro t h; cases h; exact h0
  | succ m ih =>
    intro t h
    simp only [tableAt] at h
    split at h
    · rename_i t0 ht0
      split at h
      · rename_i acts hent
        exact acts_ind (m + 1) acts acts hent (fun _ h => h) t0 t (ih t0 ht0) h
      · cases h
    · cases h

/-- A replayed journal table never holds a key twice. -/
theorem tableAt_keys (s : Store) (j : Nat) : ∀ (n : Nat) (t : Table), tableAt s j n = some t → KeysNodup t :=
  tableAt_induct (by simp [KeysNodup]) fun _ _ _ _ _ _ _ h ha => applyAct_keys h ha

end Zed.Store

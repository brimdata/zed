import Zed.Model.VngColumns
import Zed.Proofs.VngNulls
import Zed.Proofs.VngPrimitive
/-! What a reader of the encoders' columns has to show (`ColReader`); the row path is the first reader. -/
namespace Zed.Vng
open Zed.Generated.C03

theorem Vals.toList_ofList (xs : List Val) : (Vals.ofList xs).toList = xs := by
  induction xs with
  | nil => rfl
  | cons x xs ih => simp [Vals.ofList, Vals.toList, ih]

theorem Vals.ofList_toList : ∀ xs : Vals, Vals.ofList xs.toList = xs
  | .nil => rfl
  | .cons x xs => by simp [Vals.ofList, Vals.toList, Vals.ofList_toList xs]

@[simp] theorem Val.items_cont (xs : Vals) : (Val.cont xs).items = xs.toList := rfl
@[simp] theorem Val.utag_union (t : Nat) (v : Val) : (Val.union t v).utag = t := rfl
@[simp] theorem Val.uval_union (t : Nat) (v : Val) : (Val.union t v).uval = v := rfl
@[simp] theorem Val.toOpt_null : Val.toOpt .null = none := rfl
@[simp] theorem Val.toOpt_prim (b : Bytes) : Val.toOpt (.prim b) = some (.prim b) := rfl
@[simp] theorem Val.toOpt_cont (xs : Vals) : Val.toOpt (.cont xs) = some (.cont xs) := rfl
@[simp] theorem Val.toOpt_union (t : Nat) (v : Val) : Val.toOpt (.union t v) = some (.union t v) := rfl
@[simp] theorem Val.isNull_null : Val.isNull .null = true := rfl
@[simp] theorem Val.isNull_prim (b : Bytes) : Val.isNull (.prim b) = false := rfl
@[simp] theorem Val.isNull_cont (xs : Vals) : Val.isNull (.cont xs) = false := rfl
@[simp] theorem Val.isNull_union (t : Nat) (v : Val) : Val.isNull (.union t v) = false := rfl
@[simp] theorem Val.ofOpt_none : Val.ofOpt none = .null := rfl
@[simp] theorem Val.ofOpt_some (v : Val) : Val.ofOpt (some v) = v := rfl

theorem map_ofOpt_toOpt (vs : List Val) : (vs.map Val.toOpt).map Val.ofOpt = vs := by
  induction vs with
  | nil => rfl
  | cons v vs ih => rw [List.map_cons, List.map_cons, ih]; cases v <;> rfl

theorem filterMap_id_map_toOpt (vs : List Val) :
    (vs.map Val.toOpt).filterMap id = nonNull vs := by
  simp [nonNull, List.filterMap_map]

theorem mem_nonNull {vs : List Val} {v : Val} (h : v ∈ nonNull vs) : v ∈ vs ∧ v ≠ .null := by
  obtain ⟨a, ha, h2⟩ := List.mem_filterMap.mp h
  cases a <;> cases h2 <;> exact ⟨ha, Val.noConfusion⟩

theorem initialNull_true : nullsBuilderInitialNull = true := rfl

theorem nonNull_eq_self {vs : List Val} (h : (nullsEncode (vs.map Val.toOpt)).count = 0) :
    nonNull vs = vs := by
  have := congrArg (List.map Val.ofOpt) (nullsEncode_count_zero _ h)
  rw [map_ofOpt_toOpt, filterMap_id_map_toOpt, List.map_map] at this
  exact (this.trans (List.map_id _)).symm

/-- `NullsEncoder` around any encoder whose builder returns the non-null bodies. -/
theorem nullsWrap_spec {t : Ty} {vs : List Val} {c : Col}
    (hd : dec c = some (nonNull vs)) (hl : colLen c = (nonNull vs).length) (ht : colType c = t) :
    dec (nullsWrap vs c) = some vs ∧ colLen (nullsWrap vs c) = vs.length ∧
    colType (nullsWrap vs c) = t := by
  unfold nullsWrap
  by_cases h0 : (nullsEncode (vs.map Val.toOpt)).count = 0
  · rw [if_pos h0]
    rw [nonNull_eq_self h0] at hd hl
    exact ⟨hd, hl, ht⟩
  · rw [if_neg h0]
    have hdec := nullsDecode_nullsEncode (vs.map Val.toOpt)
    rw [nullsDecode, if_neg h0, nullsEncode_values, filterMap_id_map_toOpt] at hdec
    have hcnt := (count_isNone (vs.map Val.toOpt)).1
    rw [← nullsEncode_count, filterMap_id_map_toOpt, List.length_map] at hcnt
    refine ⟨?_, by rw [colLen, hl]; exact hcnt, ht⟩
    simp only [dec, hd, hl, initialNull_true, hdec, Option.map_some, map_ofOpt_toOpt]

theorem splitLens_flatten (xss : List (List Val)) :
    splitLens (xss.map List.length) xss.flatten = some xss := by
  induction xss with
  | nil => rfl
  | cons xs xss ih =>
    simp only [List.map_cons, List.flatten_cons, splitLens, List.length_append]
    simp [ih]

theorem zipWith_head_tail (rows : List (List Val)) (h : ∀ r ∈ rows, r ≠ []) :
    List.zipWith (· :: ·) (rows.map headV) (rows.map List.tail) = rows := by
  induction rows with
  | nil => rfl
  | cons r rows ih =>
    cases r with
    | nil => exact absurd rfl (h [] (by simp))
    | cons x xs =>
      simp only [List.map_cons, List.zipWith_cons_cons, headV, List.tail_cons]
      rw [ih (fun r hr => h r (List.mem_cons_of_mem _ hr))]

theorem evens_odds_spec : ∀ xs : List Val, xs.length % 2 = 0 →
    (evens xs).length = (odds xs).length ∧ interleaveKV (evens xs) (odds xs) = xs
  | [], _ => ⟨rfl, rfl⟩
  | [_], h => by cases h
  | a :: b :: r, h =>
    have ih := evens_odds_spec r ((Nat.add_mod_right r.length 2).symm.trans h)
    ⟨congrArg Nat.succ ih.1, congrArg (a :: b :: ·) ih.2⟩

theorem partitionBy_cons {α : Type} (k t : Nat) (a : α) (ps : List (Nat × α)) :
    partitionBy k ((t, a) :: ps) = if t = k then a :: partitionBy k ps else partitionBy k ps := by
  unfold partitionBy
  by_cases h : t = k <;> simp [h]

/-- popping the values in tag order out of the per-tag partitions restores the sequence. -/
theorem mergeTags_partition {α : Type} (n : Nat) (ps : List (Nat × α)) (h : ∀ p ∈ ps, p.1 < n) :
    mergeTags (ps.map (·.1)) ((List.range n).map (partitionBy · ps)) = some ps := by
  induction ps with
  | nil => rfl
  | cons p ps ih =>
    obtain ⟨t, a⟩ := p
    have ht : t < n := h (t, a) (by simp)
    have hget : ((List.range n).map (partitionBy · ((t, a) :: ps)))[t]? =
        some (a :: partitionBy t ps) := by
      simp [ht, partitionBy_cons]
    have hset : ((List.range n).map (partitionBy · ((t, a) :: ps))).set t (partitionBy t ps) =
        (List.range n).map (partitionBy · ps) := by
      apply List.ext_getElem
      · simp
      · intro i h1 h2
        simp only [List.length_set, List.length_map, List.length_range] at h1
        by_cases hi : t = i
        · subst hi; simp
        · simp [hi, partitionBy_cons]
    simp only [List.map_cons, mergeTags, hget, hset]
    rw [ih (fun p hp => h p (List.mem_cons_of_mem _ hp))]
    rfl

/-! `conforms` computes on constructors: a hypothesis about a body of the wrong shape is
    `false = true`. -/

theorem conforms_prim_nonnull {id : Nat} {v : Val} (h : conforms (.prim id) v = true) (hn : v ≠ .null) :
    (∃ b, v = .prim b) ∧ id ≠ 29 := by
  cases v with
  | null => exact absurd rfl hn
  | prim b => exact ⟨⟨b, rfl⟩, bne_iff_ne.mp h⟩
  | cont _ => cases h
  | union _ _ => cases h

theorem conforms_enum_nonnull {s : List Bytes} {v : Val} (h : conforms (.enum s) v = true) (hn : v ≠ .null) :
    ∃ b, v = .prim b := by
  cases v with
  | null => exact absurd rfl hn
  | prim b => exact ⟨b, rfl⟩
  | cont _ => cases h
  | union _ _ => cases h

theorem conforms_record_nonnull {fs : Fields} {v : Val} (h : conforms (.record fs) v = true)
    (hn : v ≠ .null) : (∃ xs, v = .cont xs) ∧ conformsRow fs v.items = true := by
  cases v with
  | null => exact absurd rfl hn
  | cont xs => exact ⟨⟨xs, rfl⟩, h⟩
  | prim _ => cases h
  | union _ _ => cases h

theorem conforms_array_nonnull {t : Ty} {v : Val} (h : conforms (.array t) v = true)
    (hn : v ≠ .null) : (∃ xs, v = .cont xs) ∧ ∀ x ∈ v.items, conforms t x = true := by
  cases v with
  | null => exact absurd rfl hn
  | cont xs => exact ⟨⟨xs, rfl⟩, List.all_eq_true.mp h⟩
  | prim _ => cases h
  | union _ _ => cases h

theorem conforms_set_nonnull {t : Ty} {v : Val} (h : conforms (.set t) v = true)
    (hn : v ≠ .null) : (∃ xs, v = .cont xs) ∧ ∀ x ∈ v.items, conforms t x = true := by
  cases v with
  | null => exact absurd rfl hn
  | cont xs => exact ⟨⟨xs, rfl⟩, List.all_eq_true.mp h⟩
  | prim _ => cases h
  | union _ _ => cases h

theorem conforms_map_nonnull {k w : Ty} {v : Val} (h : conforms (.map k w) v = true)
    (hn : v ≠ .null) : (∃ xs, v = .cont xs) ∧ v.items.length % 2 = 0 ∧
      (∀ x ∈ evens v.items, conforms k x = true) ∧ (∀ x ∈ odds v.items, conforms w x = true) := by
  cases v with
  | null => exact absurd rfl hn
  | cont xs =>
    have h : (xs.toList.length % 2 == 0 && (evens xs.toList).all (conforms k) &&
        (odds xs.toList).all (conforms w)) = true := h
    simp only [Bool.and_eq_true, beq_iff_eq, List.all_eq_true] at h
    exact ⟨⟨xs, rfl⟩, h.1.1, h.1.2, h.2⟩
  | prim _ => cases h
  | union _ _ => cases h

theorem conforms_union_nonnull {ts : Tys} {v : Val} (h : conforms (.union ts) v = true)
    (hn : v ≠ .null) : (∃ tag x, v = .union tag x) ∧ conformsTag ts v.utag v.uval = true := by
  cases v with
  | null => exact absurd rfl hn
  | union t x => exact ⟨⟨t, x, rfl⟩, h⟩
  | prim _ => cases h
  | cont _ => cases h

def AllPrim (nn : List Val) : Prop := ∀ v ∈ nn, ∃ b, v = .prim b

def AllCont (nn : List Val) : Prop := ∀ v ∈ nn, ∃ xs, v = .cont xs

def AllUnion (nn : List Val) : Prop := ∀ v ∈ nn, ∃ tag x, v = .union tag x

theorem flatMap_conf {t : Ty} {f : Val → List Val} {nn : List Val}
    (h : ∀ v ∈ nn, ∀ x ∈ f v, conforms t x = true) : ∀ x ∈ nn.flatMap f, conforms t x = true := by
  intro x hx
  obtain ⟨v, hv, hx⟩ := List.mem_flatMap.mp hx
  exact h v hv x hx

theorem map_cont_items (vs : List Val) (h : AllCont vs) :
    (vs.map Val.items).map (fun r => Val.cont (Vals.ofList r)) = vs := by
  rw [List.map_map]
  exact (List.map_congr_left fun v hv => by
    obtain ⟨xs, rfl⟩ := h v hv; exact congrArg _ (Vals.ofList_toList xs)).trans (List.map_id _)

theorem map_prim_primBytes (nn : List Val) (h : AllPrim nn) : (nn.map Val.primBytes).map Val.prim = nn := by
  rw [List.map_map]
  exact (List.map_congr_left fun v hv => by obtain ⟨b, rfl⟩ := h v hv; rfl).trans (List.map_id _)

theorem map_union_utag_uval (nn : List Val) (h : AllUnion nn) :
    (nn.map fun x => (x.utag, x.uval)).map (fun p => Val.union p.1 p.2) = nn := by
  rw [List.map_map]
  exact (List.map_congr_left fun v hv => by obtain ⟨tag, x, rfl⟩ := h v hv; rfl).trans (List.map_id _)

theorem splitLens_items (nn : List Val) (hc : AllCont nn) :
    (splitLens (nn.map fun v => v.items.length) (nn.flatMap Val.items)).map
      (·.map fun r => Val.cont (Vals.ofList r)) = some nn := by
  have := splitLens_flatten (nn.map Val.items)
  rw [List.map_map, ← List.flatMap_def] at this
  rw [show (nn.map fun v => v.items.length) = nn.map (List.length ∘ Val.items) from rfl, this,
    Option.map_some, map_cont_items nn hc]

theorem zipWith_interleaveKV (nn : List Val) (hc : AllCont nn)
    (he : ∀ v ∈ nn, v.items.length % 2 = 0) :
    List.zipWith (fun a b => Val.cont (Vals.ofList (interleaveKV a b)))
      (nn.map fun x => evens x.items) (nn.map fun x => odds x.items) = nn := by
  induction nn with
  | nil => rfl
  | cons v nn ih =>
    obtain ⟨xs, rfl⟩ := hc v (by simp)
    simp only [List.map_cons, List.zipWith_cons_cons]
    rw [(evens_odds_spec _ (he _ (by simp))).2, Val.items_cont, Vals.ofList_toList,
      ih (fun v hv => hc v (List.mem_cons_of_mem _ hv)) (fun v hv => he v (List.mem_cons_of_mem _ hv))]

theorem conformsRow_cons {n : Bytes} {t : Ty} {rest : Fields} {r : List Val}
    (h : conformsRow (.cons n t rest) r = true) :
    r ≠ [] ∧ conforms t (headV r) = true ∧ conformsRow rest r.tail = true := by
  cases r with
  | nil => cases h
  | cons x xs => exact ⟨List.cons_ne_nil _ _, Bool.and_eq_true_iff.mp h⟩

theorem conformsRow_nil {r : List Val} (h : conformsRow .nil r = true) : r = [] := by
  cases r with
  | nil => rfl
  | cons x xs => cases h

theorem conformsTag_lt : ∀ {ts : Tys} {n : Nat} {v : Val}, conformsTag ts n v = true → n < ts.length
  | .nil, _, _, h => by cases h
  | .cons _ _, 0, _, _ => Nat.succ_pos _
  | .cons _ rest, _ + 1, _, h => Nat.succ_lt_succ (conformsTag_lt (ts := rest) h)

theorem mem_partitionBy {α : Type} {k : Nat} {ps : List (Nat × α)} {a : α} :
    a ∈ partitionBy k ps ↔ (k, a) ∈ ps := by
  simp only [partitionBy, List.mem_map, List.mem_filter, beq_iff_eq]
  constructor
  · rintro ⟨⟨t, b⟩, ⟨hp, rfl⟩, rfl⟩; exact hp
  · intro h; exact ⟨(k, a), ⟨h, rfl⟩, rfl⟩

/-- For a predicate `Q` indexed relative to tag `k`, the bodies routed to child `k` satisfy `Q 0`. -/
theorem tagged_head {α : Type} (Q : Nat → α → Prop) {k : Nat} {ps : List (Nat × α)}
    (h : ∀ p ∈ ps, k ≤ p.1 → Q (p.1 - k) p.2) : ∀ a ∈ partitionBy k ps, Q 0 a := by
  intro a ha
  simpa using h (k, a) (mem_partitionBy.mp ha) (Nat.le_refl k)

/-- Relative to tag `k + 1` the same predicate is `Q (· + 1)`. -/
theorem tagged_tail {α : Type} (Q : Nat → α → Prop) {k : Nat} {ps : List (Nat × α)}
    (h : ∀ p ∈ ps, k ≤ p.1 → Q (p.1 - k) p.2) :
    ∀ p ∈ ps, k + 1 ≤ p.1 → Q (p.1 - (k + 1) + 1) p.2 := by
  intro p hp hk
  have := h p hp (Nat.le_of_succ_le hk)
  rwa [← Nat.sub_add_cancel (Nat.le_sub_of_add_le' hk), ← Nat.sub_add_eq] at this

/-- `M t vs c`: the reader's claim for the bodies `vs` of type `t` and the column `c`; `D`: the same inside the
    `NullsEncoder` (`nn`: the non-null bodies); `MF`: for record fields; `MT ts k ps cs`: for union members, `k` the
    tag of the first of `ts`, `ps` the tagged bodies of all.  A clause gets the shape of the bodies, never `conforms`. -/
structure ColReader (M D : Ty → List Val → Col → Prop) (MF : Fields → List (List Val) → FCols → Prop)
    (MT : Tys → Nat → List (Nat × Val) → Cols → Prop) : Prop where
  named {n t vs c} : M t vs c → M (.named n t) vs (.named n c)
  error {t vs c} : M t vs c → M (.error t) vs (.error c)
  wrap {t vs c} : D t (nonNull vs) c → M t vs (nullsWrap vs c)
  prim {id nn p} : AllPrim nn → (id = 29 → nn = []) →
    p.build = some (nn.map Val.primBytes) → p.len = nn.length → D (.prim id) nn (.prim (.prim id) p)
  enum {syms nn p} : AllPrim nn →
    p.build = some (nn.map Val.primBytes) → p.len = nn.length → D (.enum syms) nn (.prim (.enum syms) p)
  record {fs nn fc} : AllCont nn → MF fs (nn.map Val.items) fc → D (.record fs) nn (.record nn.length fc)
  array {t nn c} : AllCont nn → M t (nn.flatMap Val.items) c →
    D (.array t) nn (.array nn.length (nn.map fun v => v.items.length) c)
  set {t nn c} : AllCont nn → M t (nn.flatMap Val.items) c →
    D (.set t) nn (.set nn.length (nn.map fun v => v.items.length) c)
  map {k w nn kc wc} : AllCont nn → (∀ v ∈ nn, v.items.length % 2 = 0) →
    M k (nn.flatMap fun x => evens x.items) kc → M w (nn.flatMap fun x => odds x.items) wc →
    D (.map k w) nn (.map nn.length (nn.map fun x => (odds x.items).length) kc wc)
  union {ts nn cs} : AllUnion nn → (∀ v ∈ nn, v.utag < ts.length) →
    MT ts 0 (nn.map fun x => (x.utag, x.uval)) cs → D (.union ts) nn (.union nn.length (nn.map Val.utag) cs)
  fnil {rows} : (∀ r ∈ rows, r = []) → MF .nil rows .nil
  fcons {n t rest rows c fc} : (∀ r ∈ rows, r ≠ []) → M t (rows.map headV) c →
    MF rest (rows.map List.tail) fc → MF (.cons n t rest) rows (.cons n c fc)
  tnil {k ps} : MT .nil k ps .nil
  tcons {t rest k ps c cs} : M t (partitionBy k ps) c → MT rest (k + 1) ps cs →
    MT (.cons t rest) k ps (.cons c cs)

theorem nonNull_conf {t : Ty} {vs : List Val} (h : ∀ v ∈ vs, conforms t v = true) {P : Val → Prop}
    (inv : ∀ v, conforms t v = true → v ≠ .null → P v) : ∀ v ∈ nonNull vs, P v :=
  fun v hv => inv v (h v (mem_nonNull hv).1) (mem_nonNull hv).2

section
variable {M D : Ty → List Val → Col → Prop} {MF : Fields → List (List Val) → FCols → Prop}
  {MT : Tys → Nat → List (Nat × Val) → Cols → Prop}

mutual
theorem ColReader.enc (R : ColReader M D MF MT) : ∀ (t : Ty) (vs : List Val),
    (∀ v ∈ vs, conforms t v = true) → M t vs (enc t vs)
  | .named _ t, vs, h => R.named (R.enc t vs h)
  | .error t, vs, h => R.error (R.enc t vs h)
  | .prim _, _, h =>
    have hnn := nonNull_conf h fun v => conforms_prim_nonnull (v := v)
    R.wrap (R.prim (fun v hv => (hnn v hv).1)
      (fun e => List.eq_nil_iff_forall_not_mem.mpr fun v hv => (hnn v hv).2 e)
      (primEncode_build ..) ((primEncode_len ..).trans (List.length_map _)))
  | .enum _, _, h =>
    R.wrap (R.enum (nonNull_conf h fun v => conforms_enum_nonnull (v := v)) (primEncode_build ..)
      ((primEncode_len ..).trans (List.length_map _)))
  | .record fs, _, h =>
    have hnn := nonNull_conf h fun v => conforms_record_nonnull (v := v)
    R.wrap (R.record (fun v hv => (hnn v hv).1) (R.encFields fs _ fun r hr => by
      obtain ⟨v, hv, rfl⟩ := List.mem_map.mp hr
      exact (hnn v hv).2))
  | .array t, _, h =>
    have hnn := nonNull_conf h fun v => conforms_array_nonnull (v := v)
    R.wrap (R.array (fun v hv => (hnn v hv).1) (R.enc t _ (flatMap_conf fun v hv => (hnn v hv).2)))
  | .set t, _, h =>
    have hnn := nonNull_conf h fun v => conforms_set_nonnull (v := v)
    R.wrap (R.set (fun v hv => (hnn v hv).1) (R.enc t _ (flatMap_conf fun v hv => (hnn v hv).2)))
  | .map k w, _, h =>
    have hnn := nonNull_conf h fun v => conforms_map_nonnull (v := v)
    R.wrap (R.map (fun v hv => (hnn v hv).1) (fun v hv => (hnn v hv).2.1)
      (R.enc k _ (flatMap_conf fun v hv => (hnn v hv).2.2.1))
      (R.enc w _ (flatMap_conf fun v hv => (hnn v hv).2.2.2)))
  | .union ts, _, h =>
    have hnn := nonNull_conf h fun v => conforms_union_nonnull (v := v)
    R.wrap (R.union (fun v hv => (hnn v hv).1) (fun v hv => conformsTag_lt (hnn v hv).2)
      (R.encTys ts 0 _ fun p hp _ => by
        obtain ⟨v, hv, rfl⟩ := List.mem_map.mp hp
        exact (hnn v hv).2))
theorem ColReader.encFields (R : ColReader M D MF MT) : ∀ (fs : Fields) (rows : List (List Val)),
    (∀ r ∈ rows, conformsRow fs r = true) → MF fs rows (encFields fs rows)
  | .nil, _, h => R.fnil fun r hr => conformsRow_nil (h r hr)
  | .cons _ t rest, _, h =>
    R.fcons (fun r hr => (conformsRow_cons (h r hr)).1)
      (R.enc t _ fun v hv => by
        obtain ⟨r, hr, rfl⟩ := List.mem_map.mp hv
        exact (conformsRow_cons (h r hr)).2.1)
      (R.encFields rest _ fun r hr => by
        obtain ⟨r', hr', rfl⟩ := List.mem_map.mp hr
        exact (conformsRow_cons (h r' hr')).2.2)
theorem ColReader.encTys (R : ColReader M D MF MT) : ∀ (ts : Tys) (k : Nat) (ps : List (Nat × Val)),
    (∀ p ∈ ps, k ≤ p.1 → conformsTag ts (p.1 - k) p.2 = true) → MT ts k ps (encTys ts k ps)
  | .nil, _, _, _ => R.tnil
  | .cons t rest, k, ps, h =>
    R.tcons (R.enc t _ (tagged_head (conformsTag (.cons t rest) · · = true) h))
      (R.encTys rest (k + 1) ps (tagged_tail (conformsTag (.cons t rest) · · = true) h))
end
end

def RowReads (t : Ty) (vs : List Val) (c : Col) : Prop :=
  dec c = some vs ∧ colLen c = vs.length ∧ colType c = t

def RowReadsF (fs : Fields) (rows : List (List Val)) (fc : FCols) : Prop :=
  decFields fc rows.length = some rows ∧ fcolTypes fc = fs

def RowReadsT (ts : Tys) (k : Nat) (ps : List (Nat × Val)) (cs : Cols) : Prop :=
  decCols cs = some ((List.range' k ts.length).map (partitionBy · ps)) ∧ colTypes cs = ts

theorem rowReader : ColReader RowReads RowReads RowReadsF RowReadsT where
  named ih := ⟨ih.1, ih.2.1, congrArg _ ih.2.2⟩
  error ih := ⟨ih.1, ih.2.1, congrArg _ ih.2.2⟩
  wrap ih := nullsWrap_spec ih.1 ih.2.1 ih.2.2
  prim hp _ hb hl := ⟨by rw [dec, hb, Option.map_some, map_prim_primBytes _ hp], hl, rfl⟩
  enum hp hb hl := ⟨by rw [dec, hb, Option.map_some, map_prim_primBytes _ hp], hl, rfl⟩
  record hc ih := by
    rw [RowReadsF, List.length_map] at ih
    exact ⟨by rw [dec, ih.1, Option.map_some, map_cont_items _ hc], rfl, congrArg _ ih.2⟩
  -- the set column is read by the array builder, as in the Go source: `dec (.set …)` is the same term
  array hc ih := ⟨by rw [dec, ih.1]; exact splitLens_items _ hc, rfl, congrArg _ ih.2.2⟩
  set hc ih := ⟨by rw [dec, ih.1]; exact splitLens_items _ hc, rfl, congrArg _ ih.2.2⟩
  map {_ _ nn _ _} hc he ihk ihw := by
    have sk := splitLens_flatten (nn.map fun x => evens x.items)
    have sw := splitLens_flatten (nn.map fun x => odds x.items)
    rw [List.map_map, ← List.flatMap_def] at sk sw
    -- a body has as many keys as values, so the value lengths cut the key column too
    have hlen : (nn.map (List.length ∘ fun x => evens x.items)) = nn.map (List.length ∘ fun x => odds x.items) :=
      List.map_congr_left fun v hv => (evens_odds_spec _ (he v hv)).1
    rw [hlen] at sk
    refine ⟨?_, rfl, by rw [colType, ihk.2.2, ihw.2.2]⟩
    simp only [Function.comp_def] at sk sw
    simp only [dec, ihk.1, ihw.1, sk, sw]
    rw [zipWith_interleaveKV nn hc he]
  union {ts nn _} hc hlt ih := by
    have hm := mergeTags_partition ts.length (nn.map fun x => (x.utag, x.uval)) fun p hp => by
      obtain ⟨v, hv, rfl⟩ := List.mem_map.mp hp
      exact hlt v hv
    rw [List.map_map, List.range_eq_range'] at hm
    simp only [Function.comp_def] at hm
    refine ⟨?_, rfl, congrArg _ ih.2⟩
    simp only [dec, ih.1, hm, Option.map_some]
    rw [map_union_utag_uval nn hc]
  fnil h := ⟨congrArg some (List.eq_replicate_iff.mpr ⟨rfl, h⟩).symm, rfl⟩
  fcons {_ _ _ rows _ _} hne h1 h2 := by
    simp only [RowReadsF, List.length_map] at h2 ⊢
    simp only [decFields, h1.1, h2.1, List.length_map, if_true, fcolTypes, h1.2.2, h2.2,
      and_true, Option.some.injEq]
    exact zipWith_head_tail rows hne
  tnil := ⟨rfl, rfl⟩
  tcons h1 h2 := by
    simp only [RowReadsT, decCols, h1.1, h2.1, colTypes, h1.2.2, h2.2, Tys.length, List.range'_succ,
      List.map_cons, and_self]

theorem enc_spec (t : Ty) (vs : List Val) (h : ∀ v ∈ vs, conforms t v = true) : RowReads t vs (enc t vs) :=
  rowReader.enc t vs h

theorem encFields_spec : ∀ (fs : Fields) (rows : List (List Val)),
    (∀ r ∈ rows, conformsRow fs r = true) →
    decFields (encFields fs rows) rows.length = some rows ∧ fcolTypes (encFields fs rows) = fs :=
  rowReader.encFields

theorem encTys_spec : ∀ (ts : Tys) (k : Nat) (ps : List (Nat × Val)),
    (∀ p ∈ ps, k ≤ p.1 → conformsTag ts (p.1 - k) p.2 = true) →
    decCols (encTys ts k ps) = some ((List.range' k ts.length).map (partitionBy · ps)) ∧
    colTypes (encTys ts k ps) = ts :=
  rowReader.encTys

/-- `conformsTag` over `List Ty` (the seen types of an object). -/
def ConfAt (ts : List Ty) (n : Nat) (v : Val) : Prop := ∃ t, ts[n]? = some t ∧ conforms t v = true

/-- the `tcons` step of `rowReader`, over `List Ty`. -/
theorem encTypes_spec : ∀ (ts : List Ty) (k : Nat) (ps : List (Nat × Val)),
    (∀ p ∈ ps, k ≤ p.1 → ConfAt ts (p.1 - k) p.2) →
    decAll (encTypes ts k ps) = some ((List.range' k ts.length).map (partitionBy · ps)) ∧
    (encTypes ts k ps).map colType = ts
  | [], k, ps => fun _ => ⟨rfl, rfl⟩
  | t :: rest, k, ps => by
    intro h
    have h1 := enc_spec t (partitionBy k ps) fun v hv => by
      simpa [ConfAt] using tagged_head (ConfAt (t :: rest)) h v hv
    have h2 := encTypes_spec rest (k + 1) ps (tagged_tail (ConfAt (t :: rest)) h)
    simp only [encTypes, decAll, h1.1, h2.1, List.map_cons, h1.2.2, h2.2,
      List.length_cons, List.range'_succ, and_self]

theorem seenTypes_mem : ∀ (vs : List (Ty × Val)) (seen : List Ty),
    (∀ t ∈ seen, t ∈ seenTypes seen vs) ∧ (∀ p ∈ vs, p.1 ∈ seenTypes seen vs)
  | [], seen => by simp [seenTypes]
  | (t, v) :: r, seen => by
    simp only [seenTypes]
    by_cases hc : seen.contains t = true
    · simp only [hc, if_true]
      obtain ⟨h1, h2⟩ := seenTypes_mem r seen
      refine ⟨h1, ?_⟩
      intro p hp
      cases List.mem_cons.mp hp with
      | inl e => subst e; exact h1 _ (by simpa using hc)
      | inr e => exact h2 p e
    · simp only [hc]
      obtain ⟨h1, h2⟩ := seenTypes_mem r (seen ++ [t])
      refine ⟨fun x hx => h1 x (by simp [hx]), ?_⟩
      intro p hp
      cases List.mem_cons.mp hp with
      | inl e => subst e; exact h1 _ (by simp)
      | inr e => exact h2 p e

theorem tagOf_lt_length {types : List Ty} {t : Ty} (h : t ∈ types) : tagOf types t < types.length :=
  List.findIdx_lt_length_of_exists ⟨t, h, by simp⟩

theorem tagOf_spec (types : List Ty) (t : Ty) (h : t ∈ types) :
    types[tagOf types t]? = some t := by
  have := List.findIdx_getElem (w := tagOf_lt_length h)
  rw [beq_iff_eq] at this
  rw [List.getElem?_eq_getElem (tagOf_lt_length h)]
  exact congrArg some this

/-- the bodies with the tags `DynamicEncoder.Write` gives them. -/
def tagged (vs : List (Ty × Val)) : List (Nat × Val) :=
  vs.map fun p => (tagOf (seenTypes [] vs) p.1, p.2)

theorem tagged_lt (vs : List (Ty × Val)) : ∀ q ∈ tagged vs, q.1 < (seenTypes [] vs).length := by
  intro q hq
  obtain ⟨p, hp, rfl⟩ := List.mem_map.mp hq
  exact tagOf_lt_length ((seenTypes_mem vs []).2 p hp)

/-- in the form `encTypes_spec` takes its hypothesis in, at `k = 0`. -/
theorem tagged_conf (vs : List (Ty × Val)) (h : ∀ p ∈ vs, conforms p.1 p.2 = true) :
    ∀ q ∈ tagged vs, 0 ≤ q.1 → ConfAt (seenTypes [] vs) (q.1 - 0) q.2 := by
  intro q hq _
  obtain ⟨p, hp, rfl⟩ := List.mem_map.mp hq
  exact ⟨p.1, tagOf_spec _ p.1 ((seenTypes_mem vs []).2 p hp), h p hp⟩

theorem tagged_getElem (vs : List (Ty × Val)) (i : Nat) (hi : i < vs.length) :
    (seenTypes [] vs)[((tagged vs)[i]'(by simpa [tagged] using hi)).1]? = some (vs[i]).1 ∧
    ((tagged vs)[i]'(by simpa [tagged] using hi)).2 = (vs[i]).2 := by
  simp only [tagged, List.getElem_map, and_true]
  exact tagOf_spec _ _ ((seenTypes_mem vs []).2 _ (List.getElem_mem hi))

theorem map_snd_pair {vs : List (Ty × Val)} {t : Ty} (h : ∀ p ∈ vs, p.1 = t) :
    (vs.map (·.2)).map (fun x => (t, x)) = vs := by
  rw [List.map_map]
  conv => rhs; rw [← List.map_id vs]
  exact List.map_congr_left fun p hp => by rw [Function.comp_apply, ← h p hp]; rfl

theorem tagged_single {vs : List (Ty × Val)} {t : Ty} (hty : seenTypes [] vs = [t]) :
    partitionBy 0 (tagged vs) = vs.map (·.2) ∧ ∀ p ∈ vs, p.1 = t := by
  have hpt : ∀ p ∈ vs, p.1 = t := fun p hp => by
    have := (seenTypes_mem vs []).2 p hp
    rwa [hty, List.mem_singleton] at this
  refine ⟨?_, hpt⟩
  unfold partitionBy tagged
  rw [List.filter_eq_self.mpr, List.map_map]; rfl
  intro q hq
  obtain ⟨p, hp, rfl⟩ := List.mem_map.mp hq
  simp [hty, hpt p hp, tagOf]

/-- one type seen: `Encode` returns the child's metadata, no `Dynamic` node. -/
theorem encTop_single {vs : List (Ty × Val)} {t : Ty} (hty : seenTypes [] vs = [t]) :
    encTop vs = .single (enc t (vs.map (·.2))) := by
  have := (tagged_single hty).1
  rw [tagged, hty] at this
  simp only [encTop, encTypes, this, hty]

theorem encTop_dynamic {vs : List (Ty × Val)} (hty : ∀ t, seenTypes [] vs ≠ [t]) :
    encTop vs = .dynamic ((tagged vs).map (·.1)) (encTypes (seenTypes [] vs) 0 (tagged vs)) vs.length := by
  unfold encTop tagged
  match hs : seenTypes [] vs with
  | [] => simp only [encTypes]
  | [t] => exact absurd hs (hty t)
  | _ :: _ :: _ => simp only [encTypes]

/-- **Row path, top level.**  Any sequence of typed values, whatever the interleaving of its
    top-level types, is read back identically and in order. -/
theorem readRows_encTop (vs : List (Ty × Val)) (h : ∀ p ∈ vs, conforms p.1 p.2 = true) :
    readRows (encTop vs) = some vs := by
  by_cases hs : ∃ t, seenTypes [] vs = [t]
  · obtain ⟨t, hty⟩ := hs
    have hpt := (tagged_single hty).2
    obtain ⟨hd, hl, hct⟩ := enc_spec t (vs.map (·.2)) (by
      intro v hv
      obtain ⟨p, hp, rfl⟩ := List.mem_map.mp hv
      rw [← hpt p hp]; exact h p hp)
    rw [encTop_single hty, readRows, hd]
    simp only [hl, if_true, hct, map_snd_pair hpt]
  · rw [encTop_dynamic fun t ht => hs ⟨t, ht⟩]
    obtain ⟨hdec, htypes⟩ := encTypes_spec _ 0 _ (tagged_conf vs h)
    have hmerge := mergeTags_partition _ _ (tagged_lt vs)
    rw [List.range_eq_range'] at hmerge
    simp only [readRows, hdec, hmerge, Option.map_some, Option.some.injEq]
    apply List.ext_getElem (by simp [tagged])
    intro i h1 h2
    obtain ⟨e1, e2⟩ := tagged_getElem vs i h2
    have e1 : (encTypes (seenTypes [] vs) 0 (tagged vs))[((tagged vs)[i]'(by simpa using h1)).1]?.map colType =
        some (vs[i]).1 := by rw [← List.getElem?_map, htypes]; exact e1
    simp only [List.getElem_map, e1, e2, Option.getD_some]

end Zed.Vng

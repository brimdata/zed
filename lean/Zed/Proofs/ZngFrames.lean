import Zed.Model.ZngWriter
import Zed.Model.ZngReader
import Zed.Proofs.ZngUvarint
/-!
  Frame headers: what `writeHeader` / `writeCompHeader` put on the wire is what
  `parser.read` / `decodeLength` / `readFrame` / `readCompressedFrame` take off it.  All
  arithmetic is the regenerated (T1) expressions of `Zed.Generated.C01`.
-/
namespace Zed.Zng
open Zed.Generated.C01

/-- the header byte of an uncompressed frame, checked for all 3 × 16 values -/
theorem code_facts : ∀ kind, kind < 3 → ∀ lo, lo < 16 →
    let c := (kind <<< 4) ||| lo
    c < 256 ∧ c ≠ eos ∧ c &&& versionMask = 0 ∧ frameTypeOf c = kind ∧ c &&& compressedMask = 0 ∧ c &&& 15 = lo := by
  decide +kernel

theorem comp_code_facts : ∀ kind, kind < 3 → ∀ lo, lo < 16 →
    let c := ((kind <<< 4) ||| lo) ||| 64
    c < 256 ∧ c ≠ eos ∧ c &&& versionMask = 0 ∧ frameTypeOf c = kind ∧ c &&& compressedMask ≠ 0 ∧ c &&& 15 = lo := by
  decide +kernel

theorem decodeLength_spec (size c : Nat) (hc : c &&& 15 = size % 16) :
    decodeLengthExpr (writeHeaderLen size) c = size := by
  unfold decodeLengthExpr writeHeaderLen
  rw [hc, Nat.shiftRight_eq_div_pow, ← Nat.shiftLeft_add_eq_or_of_lt (by omega), Nat.shiftLeft_eq]
  have : (2:Nat) ^ 4 = 16 := by decide
  rw [this]; omega

theorem wrapInt_small (n : Nat) (h : n < two63) : wrapInt (n : Int) = (n : Int) := by
  unfold wrapInt asU64
  have h1 : ((n : Int) % (Int.ofNat two64)).toNat = n := by
    rw [Int.ofNat_eq_natCast, Int.emod_eq_of_lt (Int.natCast_nonneg n) (Int.ofNat_lt.mpr (lt_two64 h)),
      Int.toNat_natCast]
  rw [h1]; exact asInt_small n h

theorem frameLen_header (size c : Nat) (rest : Bytes) (hs : size < two63) (hc : c &&& 15 = size % 16) :
    frameLen c (uvarint (writeHeaderLen size) ++ rest) = .ok ((size : Int), rest) := by
  unfold frameLen
  have hlt : writeHeaderLen size < two64 := by
    unfold writeHeaderLen; rw [Nat.shiftRight_eq_div_pow]
    exact Nat.lt_of_le_of_lt (Nat.div_le_self _ _) (lt_two64 hs)
  rw [readUvarint_uvarint _ rest hlt]
  simp only [decodeLength_spec size c hc, asInt_small size hs]

theorem peekRead_append (limit : Nat) (b rest : Bytes) (h : b.length ≤ limit) :
    peekRead limit (b.length : Int) (b ++ rest) = .ok b rest := by
  unfold peekRead
  rw [if_neg (by omega), Int.toNat_natCast, if_pos ⟨h, hasLen_append b rest⟩, List.take_left', List.drop_left']
  all_goals rfl

theorem readFrame_plain (o : ROpts) (decomp : Bytes → Nat → Option Bytes) (kind : Nat) (hk : kind < 3)
    (payload rest : Bytes) (hs : payload.length < two63) (hfit : payload.length ≤ o.maxSize) :
    ∃ c tl al, frameHeader kind payload.length ++ payload ++ rest = c :: tl ∧
      c.toNat ≠ eos ∧ c.toNat &&& versionMask = 0 ∧ frameTypeOf c.toNat = kind ∧
      c.toNat &&& compressedMask = 0 ∧
      readFrame o decomp c.toNat tl = .ok payload rest al ∧ ∀ a ∈ al, a ≤ o.maxSize := by
  obtain ⟨h256, heos, hver, hty, hcm, hlo⟩ :=
    code_facts kind hk (payload.length % 16) (Nat.mod_lt _ (by decide))
  have hcode : (UInt8.ofNat (writeHeaderCode kind payload.length)).toNat =
      (kind <<< 4) ||| (payload.length % 16) := by
    rw [writeHeaderCode, Nat.and_two_pow_sub_one_eq_mod _ 4, UInt8.toNat_ofNat_of_lt' h256]
  refine ⟨UInt8.ofNat (writeHeaderCode kind payload.length),
    uvarint (writeHeaderLen payload.length) ++ (payload ++ rest), [payload.length],
    by rw [frameHeader, List.cons_append, List.cons_append, List.append_assoc], ?_⟩
  rw [hcode]
  refine ⟨heos, hver, hty, hcm, ?_, fun a ha => by rw [List.mem_singleton.mp ha]; exact hfit⟩
  rw [readFrame, if_neg (by rw [hcm]; exact fun h => h rfl), readPlainFrame, frameLen_header _ _ _ hs hlo]
  simp only
  rw [if_neg (by simp only [Int.ofNat_eq_natCast]; omega), peekRead_append _ _ _ hfit]
  simp only [Int.toNat_natCast]

theorem readFrame_comp (o : ROpts) (decomp : Bytes → Nat → Option Bytes) (kind : Nat) (hk : kind < 3)
    (b z rest : Bytes) (hb : b.length < two63) (hz : z.length + writeCompExtra b.length < two63)
    (hfb : b.length ≤ o.maxSize) (hfz : z.length ≤ o.maxSize)
    (hd : decomp z b.length = some b) :
    ∃ c tl al, compFrameHeader kind b.length z.length ++ z ++ rest = c :: tl ∧ CodeOf kind c ∧
      readFrame o decomp c.toNat tl = .ok b rest al := by
  generalize hzl : z.length + writeCompExtra b.length = zl at hz
  obtain ⟨h256, heos, hver, hty, hcm, hlo⟩ := comp_code_facts kind hk (zl % 16) (Nat.mod_lt _ (by decide))
  have hcode : (UInt8.ofNat (writeCompHeaderCode kind zl)).toNat = ((kind <<< 4) ||| (zl % 16)) ||| 64 := by
    rw [writeCompHeaderCode, Nat.and_two_pow_sub_one_eq_mod _ 4, UInt8.toNat_ofNat_of_lt' h256]
  refine ⟨UInt8.ofNat (writeCompHeaderCode kind zl),
    uvarint (writeHeaderLen zl) ++ (UInt8.ofNat compressionFormatLZ4 :: (uvarint b.length ++ (z ++ rest))),
    [z.length, b.length], by simp [compFrameHeader, hzl], ?_⟩
  refine ⟨⟨hcode ▸ heos, hcode ▸ hver, hcode ▸ hty⟩, ?_⟩
  rw [hcode]
  -- the length field counts the format byte and the size varint with the compressed bytes
  have hn : wrapInt ((zl : Int) - Int.ofNat (readCompExtra b.length)) = (z.length : Int) := by
    have e : readCompExtra b.length = writeCompExtra b.length := rfl
    rw [e, ← hzl, Int.ofNat_eq_natCast, Int.natCast_add, Int.add_sub_cancel]
    exact wrapInt_small z.length (Nat.lt_of_le_of_lt (Nat.le_add_right _ _) (hzl ▸ hz))
  rw [readFrame, if_pos hcm, readCompFrame, readCompHeader, frameLen_header zl _ _ hz hlo]
  simp only
  rw [readUvarint_uvarint b.length (z ++ rest) (lt_two64 hb)]
  simp only [asInt_small b.length hb]
  rw [if_neg (by simp only [Int.ofNat_eq_natCast]; omega), hn, peekRead_append _ _ _ hfz]
  simp only [UInt8.toNat_ofNat_of_lt' (n := compressionFormatLZ4) (by decide), ne_eq, not_true_eq_false, if_false,
    Int.toNat_natCast, hd]

theorem readFrame_block (wo : WOpts) (o : ROpts) (comp : Bytes → Option Bytes) (decomp : Bytes → Nat → Option Bytes)
    (hlz : ∀ b z, comp b = some z → decomp z b.length = some b)
    (kind : Nat) (hk : kind < 3) (b rest : Bytes) (hne : b.isEmpty = false)
    (hs : blockSmall wo comp b = true) (hm : blockMax wo comp b ≤ o.maxSize) :
    ∃ c tl al, blockBytes wo comp kind b ++ rest = c :: tl ∧ CodeOf kind c ∧
      readFrame o decomp c.toNat tl = .ok b rest al := by
  have plain (hs : b.length < two63) (hm : b.length ≤ o.maxSize) :
      ∃ c tl al, frameHeader kind b.length ++ b ++ rest = c :: tl ∧ CodeOf kind c ∧
        readFrame o decomp c.toNat tl = .ok b rest al :=
    let ⟨c, tl, al, h1, h2, h3, h4, _, h6, _⟩ := readFrame_plain o decomp kind hk b rest hs hm
    ⟨c, tl, al, h1, ⟨h2, h3, h4⟩, h6⟩
  unfold blockBytes
  unfold blockSmall at hs
  unfold blockMax at hm
  rw [if_neg (by rw [hne]; exact Bool.false_ne_true)]
  split
  · rename_i z hc
    rw [hc] at hs hm
    simp only [Bool.and_eq_true, decide_eq_true_eq] at hs
    have hm1 : b.length ≤ o.maxSize := Nat.le_trans (Nat.le_max_left _ _) hm
    have hm2 : z.length ≤ o.maxSize := Nat.le_trans (Nat.le_max_right _ _) hm
    split
    · exact plain hs.1 hm1
    · have hcomp : comp b = some z := by
        cases hcp : wo.compress with
        | true => rwa [hcp, if_pos rfl] at hc
        | false => rw [hcp] at hc; cases hc
      exact readFrame_comp o decomp kind hk b z rest hs.1 hs.2 hm1 hm2 (hlz b z hcomp)
  · rename_i hc
    rw [hc] at hs hm
    exact plain (of_decide_eq_true hs) hm

end Zed.Zng

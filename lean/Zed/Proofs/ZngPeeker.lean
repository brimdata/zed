import Zed.Model.ZngPeeker
/-! The chunked peeker and the whole-input view answer every request of a client identically. -/
namespace Zed.Zng.Peeker
open Zed.Zng

theorem fillLoop_spec (need : Nat) (src : List Bytes) : ∀ (cur : Bytes),
    (fillLoop need cur src).1 ++ (fillLoop need cur src).2.1.flatten = cur ++ src.flatten ∧
    ((fillLoop need cur src).2.2 = false → need ≤ (fillLoop need cur src).1.length) ∧
    ((fillLoop need cur src).2.2 = true → (fillLoop need cur src).2.1 = [] ∧ (fillLoop need cur src).1.length < need) := by
  induction src with
  | nil => intro cur; simp [fillLoop]
  | cons c cs ih =>
    intro cur
    rw [fillLoop]
    by_cases h : need ≤ cur.length
    · rw [if_pos h]; exact ⟨rfl, fun _ => h, nofun⟩
    · rw [if_neg h]
      have := ih (cur ++ c)
      rwa [List.append_assoc, ← List.flatten_cons] at this

/-- what the parser relies on between two successful requests -/
def Inv (s : PState) (bs : Bytes) : Prop := s.rest = bs ∧ s.eof = false

theorem peekRead_of_le {limit : Nat} {n : Int} (h0 : ¬ n < 0) (hn : n ≤ (limit : Int)) (bs : Bytes) :
    peekRead limit n bs =
      if n.toNat ≤ bs.length then .ok (bs.take n.toNat) (bs.drop n.toNat)
      else if bs.isEmpty then .eof else .err := by
  have hlim : n.toNat ≤ limit := by omega
  rw [peekRead, if_neg h0]
  by_cases hl : n.toNat ≤ bs.length
  · rw [if_pos ⟨hlim, (hasLen_iff bs _).mpr hl⟩, if_pos hl]
  · rw [if_neg (fun h => hl ((hasLen_iff bs _).mp h.2)), if_neg (by omega), if_neg hl]

theorem read_tail (limit : Nat) (n : Int) (h0 : ¬ n < 0) (hn : n ≤ (limit : Int)) (s1 : PState)
    (hok : s1.eof = false → n.toNat ≤ s1.cursor.length)
    (hsh : s1.eof = true → s1.src = [] ∧ s1.cursor.length < n.toNat) :
    let r : Res × PState :=
      if s1.cursor.isEmpty ∧ s1.eof then (.eof, s1)
      else if s1.cursor.length < n.toNat then (.err, s1)
      else (.ok (s1.cursor.take n.toNat), { s1 with cursor := s1.cursor.drop n.toNat })
    r.1 = (readL limit n s1.rest).1 ∧ ∀ b, r.1 = .ok b → Inv r.2 (readL limit n s1.rest).2 := by
  rw [readL, peekRead_of_le h0 hn]
  cases he : s1.eof with
  | false =>
    have hge := hok he
    have hge' : n.toNat ≤ s1.rest.length := by rw [PState.rest, List.length_append]; omega
    simp only [Bool.false_eq_true, and_false, if_false, if_neg (Nat.not_lt.mpr hge), if_pos hge']
    exact ⟨by rw [PState.rest, List.take_append_of_le_length hge],
      fun _ _ => ⟨by rw [PState.rest, PState.rest, List.drop_append_of_le_length hge], rfl⟩⟩
  | true =>
    obtain ⟨hsrc, hlt⟩ := hsh he
    have hrest : s1.rest = s1.cursor := by rw [PState.rest, hsrc, List.flatten_nil, List.append_nil]
    rw [hrest, if_neg (Nat.not_le.mpr hlt)]
    simp only [and_true, if_pos hlt]
    cases s1.cursor.isEmpty <;> exact ⟨rfl, nofun⟩

theorem read_sim (limit : Nat) (n : Int) (s : PState) (bs : Bytes) (hi : Inv s bs) (hn : n ≤ (limit : Int)) :
    (read limit n s).1 = (readL limit n bs).1 ∧
    (∀ b, (read limit n s).1 = .ok b → Inv (read limit n s).2 (readL limit n bs).2) := by
  obtain ⟨rfl, heof⟩ := hi
  by_cases hneg : n < 0
  · simp [read, readL, peekRead, hneg]
  · rw [read, if_neg hneg, if_neg (fun h => by rw [heof] at h; exact Bool.false_ne_true h.2)]
    by_cases hshort : s.cursor.length < n.toNat
    · -- the cursor is short: it is filled from the source first
      have hf := fillLoop_spec n.toNat s.src s.cursor
      simp only [if_pos (And.intro hshort heof), if_neg (show ¬ n.toNat > limit by omega)]
      generalize fillLoop n.toNat s.cursor s.src = fr at hf
      obtain ⟨cur', src', e⟩ := fr
      obtain ⟨hcat, hok, hsh⟩ := hf
      have := read_tail limit n hneg hn ⟨cur', src', e⟩ hok hsh
      rwa [show PState.rest ⟨cur', src', e⟩ = s.rest from hcat] at this
    · simp only [if_neg (fun h : s.cursor.length < n.toNat ∧ s.eof = false => hshort h.1)]
      exact read_tail limit n hneg hn s (fun _ => Nat.not_lt.mp hshort) (fun h => by rw [heof] at h; cases h)

theorem readL_one (limit : Nat) (hl : 1 ≤ limit) (bs : Bytes) :
    (readL limit 1 bs).1 = (readByteL bs).1 ∧ (∀ b, (readByteL bs).1 = .ok b → (readL limit 1 bs).2 = (readByteL bs).2) := by
  cases bs with
  | nil =>
    have h1 : ¬ (1 > limit) := by omega
    simp [readL, peekRead, readByteL, hasLen, h1]
  | cons b r => simp [readL, peekRead, readByteL, hasLen, hl]

theorem readByte_sim (limit : Nat) (hl : 1 ≤ limit) (s : PState) (bs : Bytes) (hi : Inv s bs) :
    (readByte limit s).1 = (readByteL bs).1 ∧
    (∀ b, (readByte limit s).1 = .ok b → Inv (readByte limit s).2 (readByteL bs).2) := by
  unfold readByte
  cases hc : s.cursor with
  | cons b r =>
    obtain ⟨hrest, heof⟩ := hi
    have hbs : bs = b :: (r ++ s.src.flatten) := by rw [← hrest, PState.rest, hc]; rfl
    simp only [hbs, readByteL]
    exact ⟨by simp, fun _ _ => ⟨by simp [PState.rest], by simp [heof]⟩⟩
  | nil =>
    simp only
    have h1 := read_sim limit 1 s bs hi (by omega)
    have h2 := readL_one limit hl bs
    refine ⟨by rw [h1.1, h2.1], ?_⟩
    intro b hb
    have hb' : (readByteL bs).1 = .ok b := by rw [← h2.1, ← h1.1]; exact hb
    rw [← h2.2 b hb']
    exact h1.2 b hb

/-- One request of a client.  `generalizing := false`: otherwise the hypotheses about `rp`, `rq` become discriminants and the
    matches are no longer those of `Prog.runP`, `Prog.runL`. -/
theorem sim_step {α : Type} {limit : Nat} {k : Bytes → Prog α} {fail : Res → α}
    (ih : ∀ b s bs, Inv s bs → (k b).Bounded limit → (k b).runP limit s = (k b).runL limit bs)
    (hb : ∀ b, (k b).Bounded limit) {rp : Res × PState} {rq : Res × Bytes}
    (he : rp.1 = rq.1) (hinv : ∀ b, rp.1 = .ok b → Inv rp.2 rq.2) :
    (match (generalizing := false) rp with
      | (.ok b, s') => (k b).runP limit s'
      | (r, _) => fail r) =
    (match (generalizing := false) rq with
      | (.ok b, bs') => (k b).runL limit bs'
      | (r, _) => fail r) := by
  obtain ⟨r1, s1⟩ := rp
  obtain ⟨r2, b2⟩ := rq
  cases he
  cases r1 with
  | ok b => exact ih b s1 b2 (hinv b rfl) (hb b)
  | eof => rfl
  | err => rfl

/-- **simulation**: a client whose requests stay within the limit gets the same result from the
    chunked peeker as from the whole input, for every chunking. -/
theorem prog_sim {α : Type} (limit : Nat) (hl : 1 ≤ limit) : ∀ (p : Prog α) (s : PState) (bs : Bytes),
    Inv s bs → p.Bounded limit → p.runP limit s = p.runL limit bs := by
  intro p
  induction p with
  | done a => intro s bs _ _; rfl
  | readByte k fail ih =>
    intro s bs hi hb
    obtain ⟨he, hinv⟩ := readByte_sim limit hl s bs hi
    rw [Prog.runP, Prog.runL]
    exact sim_step ih hb he hinv
  | read n k fail ih =>
    intro s bs hi hb
    obtain ⟨he, hinv⟩ := read_sim limit n s bs hi hb.1
    rw [Prog.runP, Prog.runL]
    exact sim_step ih hb.2 he hinv

/-- `binary.ReadUvarint(peeker)` as a client: one `ReadByte` per byte, at most `k`. -/
def uvProg {α : Type} : Nat → Bool → (Nat → Prog α) → (UvErr → α) → Prog α
  | 0, _, _, fail => .done (fail .overflow)
  | k + 1, first, cont, fail =>
    .readByte
      (fun b => match b with
        | [x] =>
          if x.toNat < 128 then (if k = 0 ∧ x.toNat > 1 then .done (fail .overflow) else cont x.toNat)
          else uvProg k false (fun v => cont (x.toNat - 128 + 128 * v)) fail
        | _ => .done (fail .overflow))
      (fun _ => fail (if first then .eof else .unexpectedEof))

theorem uvProg_runL {α : Type} (limit : Nat) : ∀ (k : Nat) (first : Bool) (cont : Nat → Prog α) (fail : UvErr → α) (bs : Bytes),
    (uvProg k first cont fail).runL limit bs =
      match readUvarintAux k first bs with
      | .ok (v, r) => (cont v).runL limit r
      | .error e => fail e := by
  intro k
  induction k with
  | zero => intro first cont fail bs; rfl
  | succ k ih =>
    intro first cont fail bs
    cases bs with
    | nil => rfl
    | cons b r =>
      simp only [uvProg, Prog.runL, readByteL, readUvarintAux]
      split
      · split <;> rfl
      · rw [ih]
        cases readUvarintAux k false r <;> rfl

theorem uvProg_bounded {α : Type} (limit : Nat) : ∀ (k : Nat) (first : Bool) (cont : Nat → Prog α) (fail : UvErr → α),
    (∀ v, (cont v).Bounded limit) → (uvProg k first cont fail).Bounded limit := by
  intro k
  induction k with
  | zero => intro first cont fail _; simp [uvProg, Prog.Bounded]
  | succ k ih =>
    intro first cont fail hc
    simp only [uvProg, Prog.Bounded]
    intro b
    split
    · split
      · split
        · simp [Prog.Bounded]
        · exact hc _
      · exact ih false _ fail (fun v => hc _)
    · simp [Prog.Bounded]

open Zed.Generated.C01

/-- `parser.readFrame` as a client of the peeker: the length varint, the limit test, the payload -/
def plainFrameProg (o : ROpts) (code : Nat) : Prog (Except Outcome Bytes) :=
  uvProg 10 true
    (fun u =>
      if asInt (decodeLengthExpr u code) > Int.ofNat o.maxSize then .done (.error .err)
      else .read (asInt (decodeLengthExpr u code)) (fun b => .done (.ok b))
        (fun r => match r with
          | .eof => .error .eof
          | _ => .error .err))
    (fun e => match e with
      | .eof => .error .eof
      | _ => .error .err)

/-- payload or outcome of `readPlainFrame`, forgetting the rest and the allocation list -/
def frameAnswer : FrameRes → Except Outcome Bytes
  | .ok p _ _ => .ok p
  | .stop e _ => .error e

theorem plainFrameProg_runL (o : ROpts) (code : Nat) (bs : Bytes) :
    (plainFrameProg o code).runL o.maxSize bs = frameAnswer (readPlainFrame o code bs) := by
  unfold plainFrameProg readPlainFrame frameLen readUvarint
  rw [uvProg_runL]
  cases h : readUvarintAux 10 true bs with
  | error e => cases e <;> rfl
  | ok vr =>
    obtain ⟨u, r⟩ := vr
    simp only
    split
    · rfl
    · simp only [Prog.runL, readL]
      cases peekRead o.maxSize (asInt (decodeLengthExpr u code)) r <;> rfl

theorem plainFrameProg_bounded (o : ROpts) (code : Nat) : (plainFrameProg o code).Bounded o.maxSize := by
  unfold plainFrameProg
  apply uvProg_bounded
  intro v
  split
  · simp [Prog.Bounded]
  · rename_i h
    simp only [Prog.Bounded, Int.ofNat_eq_natCast] at h ⊢
    exact ⟨by omega, fun _ => trivial⟩

end Zed.Zng.Peeker

import Zed.Proofs.CompareTypes
/-! `zed.CompareTypes` is a linear order on all types (`tyLin`): by kind and then per constructor on the children,
    under the names; by induction on a bound of the size. -/
namespace Zed
open Zed.Ord

theorem cmpTs_eq_lex : (ts us : Tys) → ts.length = us.length → cmpTs ts us = lexCmp cmpTy ts.toList us.toList
  | .nil, .nil, _ => rfl
  | .cons x r, .cons y s, h => by
    rw [cmpTs_cons, Tys.toList, Tys.toList, lexCmp, cmpTs_eq_lex r s (Nat.succ.inj h)]

theorem Tys.toList_inj (ts us : Tys) (h : ts.toList = us.toList) : ts = us := by
  rw [← Tys.ofList_toList ts, h, Tys.ofList_toList]

variable {S : Ty → Prop}

theorem tysLin (h : Lin S cmpTy) :
    Lin (fun ts : Tys => ∀ t ∈ ts.toList, S t) fun ts us => (compare ts.length us.length).then (cmpTs ts us) :=
  Law.byClass Tys.length fun _ _ =>
    (h.lex.pullInj Tys.toList (fun _ hb => hb.1) fun x y _ _ => Tys.toList_inj x y).congr
      fun x y hx hy => cmpTs_eq_lex x y (hx.2.trans hy.2.symm)

def Fields.tys : Fields → List Ty
  | .nil => []
  | .cons _ t r => t :: r.tys

theorem Fields.ext_names_tys : (fs gs : Fields) → fs.names = gs.names → fs.tys = gs.tys → fs = gs
  | .nil, .nil, _, _ => rfl
  | .nil, .cons _ _ _, h, _ | .cons _ _ _, .nil, h, _ => by cases h
  | .cons n x r, .cons m y s, h, h' => by
    simp only [Fields.names, Fields.tys, List.cons.injEq] at h h'
    rw [h.1, h'.1, Fields.ext_names_tys r s h.2 h'.2]

theorem cmpFs_eq_lex : (fs gs : Fields) → fs.length = gs.length → cmpFs fs gs = lexCmp cmpTy fs.tys gs.tys
  | .nil, .nil, _ => rfl
  | .cons _ x r, .cons _ y s, h => by
    rw [cmpFs_cons, Fields.tys, Fields.tys, lexCmp, cmpFs_eq_lex r s (Nat.succ.inj h)]

theorem fieldsLin (h : Lin S cmpTy) : Lin (fun fs : Fields => ∀ t ∈ fs.tys, S t) fun fs gs =>
    (compare fs.length gs.length).then ((cmpFieldNames fs gs).then (cmpFs fs gs)) :=
  Law.byClass Fields.length fun _ _ =>
    ((bytesLin.lex.prod h.lex).pullInj (fun fs => (fs.names, fs.tys)) (fun _ hb => ⟨fun _ _ => trivial, hb.1⟩)
      fun x y _ _ e => Fields.ext_names_tys x y (Prod.mk.inj e).1 (Prod.mk.inj e).2).congr
      fun x y hx hy => by
        have hl := hx.2.trans hy.2.symm
        rw [cmpFieldNames_eq, cmpFs_eq_lex x y hl,
          cmpNames_eq_lex _ _ (by rw [Fields.names_length, Fields.names_length, hl])]

def Ty.kids : Ty → List Ty
  | .prim _ | .enum _ => []
  | .array x | .set x | .error x | .named _ x => [x]
  | .map k v => [k, v]
  | .record fs => fs.tys
  | .union ts => ts.toList

theorem sLin (h : Lin S cmpTy) : Lin (fun u => u.isNamed = false ∧ ∀ x ∈ u.kids, S x) cmpS := by
  refine (Law.byClass Ty.kind fun a ha => ?_).congr fun a b ha _ => cmpS_by_kind a b ha.1
  cases a with
  | named => exact Bool.noConfusion ha.1
  | prim i =>
    exact natLin.image Ty.prim (fun _ hb => kind_eq_prim hb.1.1 hb.2) (fun _ _ => trivial)
      fun x y _ _ => cmpS_prim x y
  | enum s =>
    exact namesLin.image Ty.enum (fun _ hb => kind_eq_enum hb.1.1 hb.2) (fun _ _ => trivial)
      fun x y _ _ => cmpS_enum x y
  | array x =>
    exact h.image Ty.array (fun _ hb => kind_eq_array hb.1.1 hb.2) (fun y hy => hy.1.2 y (.head _))
      fun x y _ _ => cmpS_array x y
  | set x =>
    exact h.image Ty.set (fun _ hb => kind_eq_set hb.1.1 hb.2) (fun y hy => hy.1.2 y (.head _))
      fun x y _ _ => cmpS_set x y
  | error x =>
    exact h.image Ty.error (fun _ hb => kind_eq_error hb.1.1 hb.2) (fun y hy => hy.1.2 y (.head _))
      fun x y _ _ => cmpS_error x y
  | map k v =>
    exact (h.prod h).image (fun p => Ty.map p.1 p.2) (fun _ hb => kind_eq_map hb.1.1 hb.2)
      (fun p hp => ⟨hp.1.2 p.1 (.head _), hp.1.2 p.2 (.tail _ (.head _))⟩) fun p q _ _ => cmpS_map ..
  | record fs =>
    exact (fieldsLin h).image Ty.record (fun _ hb => kind_eq_record hb.1.1 hb.2) (fun _ hy => hy.1.2)
      fun x y _ _ => cmpS_record x y
  | union ts =>
    exact (tysLin h).image Ty.union (fun _ hb => kind_eq_union hb.1.1 hb.2) (fun _ hy => hy.1.2)
      fun x y _ _ => cmpS_union x y

theorem tyLin_of {U : Ty → Prop} (h : Lin U cmpS) : Lin (fun t => U t.under) cmpTy :=
  (Law.then (h.pull Ty.under fun _ ha => ha) fun a ha =>
    (rankLin a.under).mono fun b hb => (h.sep trivial _ _ ha hb.1 hb.2).symm).congr
    fun a b ha hb => by rw [cmpTy_def, ite_eq_then (h.eq_iff ha hb)]

theorem Fields.sizeOf_tys : (fs : Fields) → ∀ t ∈ fs.tys, sizeOf t < sizeOf fs
  | .cons n x r, t, h => by
    simp only [Fields.tys, List.mem_cons] at h
    rcases h with rfl | h
    · simp only [Fields.cons.sizeOf_spec]; omega
    · have := Fields.sizeOf_tys r t h; simp only [Fields.cons.sizeOf_spec]; omega

theorem Tys.sizeOf_toList : (ts : Tys) → ∀ t ∈ ts.toList, sizeOf t < sizeOf ts
  | .cons x r, t, h => by
    simp only [Tys.toList, List.mem_cons] at h
    rcases h with rfl | h
    · simp only [Tys.cons.sizeOf_spec]; omega
    · have := Tys.sizeOf_toList r t h; simp only [Tys.cons.sizeOf_spec]; omega

theorem Ty.sizeOf_kids : (t : Ty) → ∀ x ∈ t.kids, sizeOf x < sizeOf t
  | .prim _, _, h | .enum _, _, h => nomatch h
  | .array _, _, h | .set _, _, h | .error _, _, h | .named _ _, _, h => by
    obtain rfl := List.mem_singleton.mp h; simp +arith
  | .map _ _, x, h => by
    simp only [Ty.kids, List.mem_cons, List.not_mem_nil, or_false] at h
    rcases h with rfl | rfl <;> simp +arith
  | .record fs, x, h => by have := fs.sizeOf_tys x h; simp only [Ty.record.sizeOf_spec]; omega
  | .union ts, x, h => by have := ts.sizeOf_toList x h; simp only [Ty.union.sizeOf_spec]; omega

theorem Ty.sizeOf_under : (t : Ty) → sizeOf t.under ≤ sizeOf t
  | .named _ x => by have := x.sizeOf_under; simp only [Ty.under, Ty.named.sizeOf_spec]; omega
  | .prim _ | .record _ | .array _ | .set _ | .map _ _ | .union _ | .enum _ | .error _ => Nat.le_refl _

theorem tyLin : Lin All cmpTy :=
  Law.of_rank sizeOf (fun _ => True) (hS := trivial) fun n ih _ _ =>
    (tyLin_of (sLin (ih All trivial))).mono fun t ht =>
      ⟨t.under_not_named, fun x hx =>
        ⟨trivial, by have := t.under.sizeOf_kids x hx; have := t.sizeOf_under; omega⟩⟩

theorem cmpTy_refl (a : Ty) : cmpTy a a = .eq := tyLin.refl a trivial

theorem cmpTy_eq_iff (a b : Ty) : cmpTy a b = .eq ↔ a = b := tyLin.eq_iff trivial trivial

/-- the triple law for `zed.CompareTypes`, on all types -/
theorem cmpTy_STr (a b c : Ty) : STr (cmpTy a b) (cmpTy b c) (cmpTy a c) := tyLin.tr a b c trivial trivial trivial

theorem cmpTy_swap (a b : Ty) : cmpTy b a = (cmpTy a b).swap := tyLin.swap trivial trivial

theorem cmpTs_eq : (ts us : Tys) → ts.length = us.length →
    cmpTs ts us = .eq → ts = us := fun ts us hl h =>
  Tys.toList_inj _ _ (tyLin.lex.sep trivial _ _ (fun _ _ => trivial) (fun _ _ => trivial) (cmpTs_eq_lex ts us hl ▸ h))

theorem cmpTs_STr : (ts us ws : Tys) →
    ts.length = us.length → us.length = ws.length → STr (cmpTs ts us) (cmpTs us ws) (cmpTs ts ws) :=
  fun ts us ws h1 h2 => by
  rw [cmpTs_eq_lex ts us h1, cmpTs_eq_lex us ws h2, cmpTs_eq_lex ts ws (h1.trans h2)]
  exact tyLin.lex.tr _ _ _ (fun _ _ => trivial) (fun _ _ => trivial) (fun _ _ => trivial)

-- no length hypothesis, and on unequal lengths `cmpFs`, `cmpTs` are not `lexCmp`: no projections of `fieldsLin`, `tysLin`
theorem cmpFs_swap : (fs gs : Fields) → cmpFs gs fs = (cmpFs fs gs).swap
  | .nil, .nil => rfl
  | .nil, .cons _ _ _ => rfl
  | .cons _ _ _, .nil => rfl
  | .cons n x r, .cons m y s => by
    simp only [cmpFs_cons, Ordering.swap_then]; rw [cmpTy_swap x y, cmpFs_swap r s]
theorem cmpTs_swap : (ts us : Tys) → cmpTs us ts = (cmpTs ts us).swap
  | .nil, .nil => rfl
  | .nil, .cons _ _ => rfl
  | .cons _ _, .nil => rfl
  | .cons x r, .cons y s => by
    simp only [cmpTs_cons, Ordering.swap_then]; rw [cmpTy_swap x y, cmpTs_swap r s]

theorem sLinAll : Lin (fun u : Ty => u.isNamed = false) cmpS :=
  (sLin tyLin).mono fun _ hu => ⟨hu, fun _ _ => trivial⟩

end Zed

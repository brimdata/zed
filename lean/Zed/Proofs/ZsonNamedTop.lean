import Zed.Proofs.ZsonPlainTop
/-!
  C02 — a value of a *named* type over a plain type.  First occurrence (`value (=n)` for
  self-describing types, `value (n=type)` otherwise): the formatter's typedef table and the
  analyzer's name table receive the same binding.  Later occurrence (`value (n)`): both stay.
-/
namespace Zed.Zson
open Generated

theorem enterTypeDef_ok (a0 : AState) (n : Name) (u : Ty) (h : nameOK n = true) :
    enterTypeDef a0 n u = .ok (aPush a0 n (.named n u), some (.named n u)) := by
  simp only [nameOK, Bool.and_eq_true, Bool.not_eq_true', Option.isNone_iff_eq_none] at h
  simp [enterTypeDef, h.1.2, h.2, aPush]

theorem nameOf_unbound (fst : FState) (n : Name) (u : Ty) (h : fst.hasName (.named n u) = false) :
    fst.nameOf (.named n u) = none := by
  simp only [FState.hasName, Bool.or_eq_false_iff, Option.isSome_eq_false_iff, Option.isNone_iff_eq_none] at h
  by_cases hn : n = []
  · simp [FState.nameOf, hn]
  · cases hp : fst.permanent with
    | none => simp [FState.nameOf, hn, h.1, hp]
    | some p =>
      have := h.2
      simp only [hp, Option.isSome_eq_false_iff, Option.isNone_iff_eq_none] at this
      simp [FState.nameOf, hn, h.1, hp, this]

theorem fmtType_named_unbound (fst : FState) (n : Name) (u : Ty) (h : fst.nameOf (.named n u) = none)
    (hp : plainTy u = true) :
    fmtType fst (.named n u) = (fst.saveType n (.named n u), .def_ n (tyAst u)) := by
  rw [fmtType]
  simp only [h]
  rw [fmtType_plain _ u hp]

theorem decorateM_named_unbound (st : FState) (n : Name) (u : Ty) (h : st.hasName (.named n u) = false)
    (hp : plainTy u = true) :
    decorateM st (.named n u) false false =
      (st.saveType n (.named n u), [if selfDescribing u then .def_ n else .cast (.def_ n (tyAst u))]) := by
  unfold decorateM
  simp only [Bool.false_or, implied, Bool.and_false, Bool.false_eq_true, if_false, nameOf_unbound st n u h,
    selfDescribing, Bool.not_false, Bool.and_true, Bool.false_and]
  by_cases hs : selfDescribing u = true
  · simp only [hs, if_true]
  · rw [if_neg hs, if_neg hs, fmtType_named_unbound st n u (nameOf_unbound st n u h) hp]

theorem fmtTop_named_unbound (fst : FState) (n : Name) (u : Ty) (v' : Val) (h : fst.hasName (.named n u) = false) :
    fmtTop fst (.named n u) (.named v') =
      ((decorateM (fmtValue fst u v' false false false false).1 (.named n u) false false).1,
       mkVal (fmtValue fst u v' false false false false).2.1
         ((fmtValue fst u v' false false false false).2.2 ++
           (decorateM (fmtValue fst u v' false false false false).1 (.named n u) false false).2)) := by
  rw [fmtTop_shaped fst _ _ (.named n u v') rfl (Or.inr rfl), fmtValue_decorate _ _ _ _ _ (.named n u v')]
  simp only [fmtValue, implied, h, Bool.or_self, Bool.false_and, Bool.false_eq_true, if_false, finish, emptyC]

/-- a first-occurrence value of a named type over a self-describing plain type: `value (=n)`. -/
theorem named_top_selfdesc (fst : FState) (a0 : AState) (n : Name) (u : Ty) (v' : Val)
    (hok : nameOK n = true) (hs : selfDescribing u = true) (hp : plainTy u = true) (hw : wfTy u = true)
    (hv : wfVal u v' = true) (hn : v'.isNull = false) (hb : bareEmpty v' = false)
    (hod : noOwnDeco u v' = true) (herr : errOK v' = true) (hfst : fst.hasName (.named n u) = false) :
    (fmtTop fst (.named n u) (.named v')).1 = fst.saveType n (.named n u) ∧
    analyzeTop a0 (fmtTop fst (.named n u) (.named v')).2 =
      .ok (aPush a0 n (.named n u), (.named n u, .named v')) := by
  obtain ⟨any, ds, hf, _, hA, _⟩ := goodV_all v' u false hp hw hv herr false fst a0
  have hds : ds = [] := by
    have := selfdesc_ds fst u v' false false hs hp hv hn hb hod
    rw [hf] at this; exact this
  subst hds
  have hsplit := fmt_deco_split fst u v' false hp hv hn hb
  rw [hf, decoP_selfdesc u hs, List.append_nil] at hsplit
  have hin : fmtValue fst u v' false false false false = (fst, any, []) := hsplit.symm
  have hfmt : fmtTop fst (.named n u) (.named v') = (fst.saveType n (.named n u), .def_ any n) := by
    rw [fmtTop_named_unbound fst n u v' hfst, hin, decorateM_named_unbound fst n u hfst hp, if_pos hs]; rfl
  rw [hfmt]
  refine ⟨rfl, ?_⟩
  have hany : convertAny a0 any none = .ok (a0, (u, strip v')) := by
    simpa [convertValue, viaUnion, expA] using hA
  simp only [analyzeTop, convertValue, viaUnion, hany, bind, Except.bind, enterTypeDef_ok a0 n u hok, pure,
    Except.pure, Except.map, wrapAll_named_strip n u v' hv hn]

theorem convertType_def (a0 : AState) (n : Name) (u : Ty) (hok : nameOK n = true) (hp : plainTy u = true)
    (hw : wfTy u = true) :
    convertType a0 (.def_ n (tyAst u)) = .ok (aPush a0 n (.named n u), .named n u) := by
  simp [convertType, convertType_plain a0 u hp hw, enterTypeDef_ok a0 n u hok, bind, Except.bind, pure, Except.pure]

theorem convertUnion_cast (tv : TV) (ms : Tys) (c1 c2 : Ty) (x : Val)
    (h : convertUnion tv ms c1 = .ok (c1, x)) : convertUnion tv ms c2 = .ok (c2, x) := by
  unfold convertUnion at h ⊢
  by_cases hn : tv.1 = tyNull
  · simp only [hn, if_true] at h ⊢
    simp only [Except.ok.injEq, Prod.mk.injEq] at h
    simp [h.2]
  · simp only [hn, if_false] at h ⊢
    cases hi : ms.indexOf tv.1 with
    | none => simp [hi] at h
    | some k =>
      simp only [hi, Except.ok.injEq, Prod.mk.injEq] at h ⊢
      exact ⟨trivial, h.2⟩

/-- first occurrence, type not self-describing: `value (n=T)`, read as `value` under `n`. -/
theorem named_top_cast (fst : FState) (a0 : AState) (n : Name) (u : Ty) (v' : Val)
    (hok : nameOK n = true) (hs : selfDescribing u = false) (hp : plainTy u = true) (hw : wfTy u = true)
    (hv : wfVal u v' = true) (hn : v'.isNull = false) (hod : noOwnDeco u v' = true) (hen : enumSyms u = none)
    (herr : errOK v' = true) (hfst : fst.hasName (.named n u) = false) :
    (fmtTop fst (.named n u) (.named v')).1 = fst.saveType n (.named n u) ∧
    analyzeTop a0 (fmtTop fst (.named n u) (.named v')).2 =
      .ok (aPush a0 n (.named n u), (.named n u, .named v')) := by
  obtain ⟨any, ds0, hf, hd, hR⟩ :=
    (goodP_all v' u hp hw hv herr).und false fst (aPush a0 n (.named n u)) (fun h => nomatch h)
  have hfmt : fmtTop fst (.named n u) (.named v') =
      (fst.saveType n (.named n u), .cast (mkVal any ds0) (.def_ n (tyAst u))) := by
    rw [fmtTop_named_unbound fst n u v' hfst, hf, decorateM_named_unbound fst n u hfst hp, hs,
      if_neg Bool.false_ne_true, mkVal_append_cast any _ ds0 (fun x hx => (hd x hx).isCast)]
  rw [hfmt]
  refine ⟨rfl, ?_⟩
  rw [analyzeTop, conv_cast_none a0 _ _ _ _ (preDefs_mkVal a0 any ds0 hd) (convertType_def a0 n u hok hp hw)
      (mkVal_not_def any ds0 hd),
    hR (.named n u) (.named n hp hen) (.inr (.inr hod))]
  simp only [Except.map, wrapAll_named_strip n u v' hv hn]

theorem named_top (fst : FState) (a0 : AState) (n : Name) (u : Ty) (v' : Val)
    (hok : nameOK n = true) (hp : plainTy u = true) (hw : wfTy u = true)
    (hv : wfVal u v' = true) (hn : v'.isNull = false) (hb : bareEmpty v' = false)
    (hod : noOwnDeco u v' = true) (hen : enumSyms u = none) (herr : errOK v' = true)
    (hfst : fst.hasName (.named n u) = false) :
    (fmtTop fst (.named n u) (.named v')).1 = fst.saveType n (.named n u) ∧
    analyzeTop a0 (fmtTop fst (.named n u) (.named v')).2 =
      .ok (aPush a0 n (.named n u), (.named n u, .named v')) := by
  cases hs : selfDescribing u
  · exact named_top_cast fst a0 n u v' hok hs hp hw hv hn hod hen herr hfst
  · exact named_top_selfdesc fst a0 n u v' hok hs hp hw hv hn hb hod herr hfst

theorem nameOf_bound (fst : FState) (n : Name) (u : Ty) (hn : n ≠ [])
    (h : assoc n fst.typedefs = some (.named n u) ∨
      (assoc n fst.typedefs = none ∧ ∃ p, fst.permanent = some p ∧ assoc n p = some (.named n u))) :
    fst.nameOf (.named n u) = some n ∧ fst.hasName (.named n u) = true := by
  rcases h with h | ⟨h1, p, hp, h2⟩
  · simp [FState.nameOf, FState.hasName, hn, h]
  · simp [FState.nameOf, FState.hasName, hn, h1, hp, h2]

/-- a *later* occurrence of a named type the formatter already knows: `value (n)`, read as `value` under `n`;
    both tables are left as they are. -/
theorem named_later (fst : FState) (a0 : AState) (n : Name) (u : Ty) (v' : Val)
    (hp : plainTy u = true) (hw : wfTy u = true) (hk : noUnionElems u = true) (hen : enumSyms u = none)
    (hv : wfVal u v' = true) (hnn : v'.isNull = false) (herr : errOK v' = true)
    (hname : fst.nameOf (.named n u) = some n) (hhas : fst.hasName (.named n u) = true)
    (ha : alookup n a0.names = some (.named n u)) :
    (fmtTop fst (.named n u) (.named v')).1 = fst ∧
    analyzeTop a0 (fmtTop fst (.named n u) (.named v')).2 = .ok (a0, (.named n u, .named v')) := by
  obtain ⟨any, ds, hf, hd, hB⟩ := (goodP_all v' u hp hw hv herr).known hk false fst a0 (fun _ => rfl)
  have hfmt : fmtTop fst (.named n u) (.named v') = (fst, mkVal any (ds ++ [.cast (.name n)])) := by
    unfold fmtTop
    simp only [hhas, implied, Val.isNull]
    simp only [fmtValue, Bool.false_and, Bool.false_eq_true, if_false, Bool.true_or, hf, finish_known]
    simp [decorateM, implied, hname]
  rw [hfmt, mkVal_append_cast any _ ds (fun x hx => (hd x hx).isCast)]
  refine ⟨rfl, ?_⟩
  have hT : convertType a0 (.name n) = .ok (a0, .named n u) := by simp [convertType, ha]
  rw [analyzeTop, conv_cast_none a0 _ _ _ _ (preDefs_mkVal a0 any ds hd) hT (mkVal_not_def any ds hd),
    hB (.named n u) (.named n hp hen) (.inl rfl)]
  simp only [Except.map, wrapAll_named_strip n u v' hv hnn]

end Zed.Zson

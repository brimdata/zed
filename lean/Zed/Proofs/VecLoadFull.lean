import Zed.Model.VecGuard
import Zed.Proofs.VecLists
import Zed.Proofs.VecProject
/-! The vector read path over the whole type tree, under the guard `okV` (`loadReader`, hence `loadSpec_all`),
    with projections (`projection_sound_all`); the flat fragment as its special case (`flatTy_okV`). -/
namespace Zed.Vng
open Zed.Generated.C03

theorem Rep.clear {P : Bitmap} {F : List Bool} (h : Rep P F) (hF : F.any id = false) :
    bitmapClear P = true := by
  cases h with
  | some F => rw [bitmapClear, eq_replicate_of_any_false F hF]; simp
  | none n => rfl

/-- `c` loads under the slots `F` of its parent (`own`: the `Nulls` node above `c`) into a vector holding `vs`. -/
def Loads (c : Col) (t : Ty) (vs : List Val) (P : Bitmap) (own : Option (List Nat × Nat)) (F : List Bool) : Prop :=
  ∃ v, load c P (F.count true) own = some v ∧ vecType v = t ∧ Vec.errClear v = true ∧ SlotSpec v F vs

/-- every encoder but `named` and `error` sits inside a `NullsEncoder`: it is enough to load
    the wrapped column under the convolved bitmap, with the non-null values as its column. -/
theorem loads_nullsWrap {t : Ty} {vs : List Val} {P : Bitmap} {Fp : List Bool} {c : Col}
    (hR : Rep P Fp) (hlen : Fp.count false = vs.length)
    (H : ∀ own F, Rep (flattenNulls P own) F → F.count false = (nonNull vs).length →
      F.any id = (Fp.any id || vs.any Val.isNull) → Loads c t (nonNull vs) P own F) :
    Loads (nullsWrap vs c) t vs P none Fp := by
  obtain ⟨own, hRF, hload⟩ := load_nullsWrap vs P Fp hR hlen
  have hFl := convolve_length Fp (vs.map Val.isNull)
  obtain ⟨v, hv, hty, he, hl, hs⟩ := H own _ hRF (convolve_count_false Fp vs hlen) (convolve_any Fp vs hlen)
  exact ⟨v, (hload c).trans hv, hty, he, hl.trans hFl,
    fun slot hslot => by rw [expandVal_convolve Fp vs hlen]; exact hs slot (hFl ▸ hslot)⟩

/-- the offsets of a non-null slot delimit the `rank`-th container. -/
theorem offs_at (F : List Bool) (nulls : Bitmap) (hR : Rep nulls F) (lens : List Nat)
    (hlen : F.count false = lens.length) (slot : Nat) (hs : slot < F.length)
    (hf : F.getD slot false = false) :
    (offsetsOf F.length 0 0 nulls lens)[slot]? = some ((lens.take (rank F slot)).sum) ∧
    (offsetsOf F.length 0 0 nulls lens)[slot + 1]? =
      some ((lens.take (rank F slot)).sum + lens[rank F slot]'(rank_lt hlen hs hf)) := by
  have hr : rank F slot < lens.length := rank_lt hlen hs hf
  refine ⟨?_, ?_⟩
  · simpa using offsetsOf_getElem F nulls 0 0 lens hR.agrees hlen slot (by omega)
  · have := offsetsOf_getElem F nulls 0 0 lens hR.agrees hlen (slot + 1) (by omega)
    rw [rank_succ F slot hs, hf] at this
    simp only [Bool.false_eq_true, if_false, Nat.zero_add] at this
    rw [this, List.take_succ_eq_append_getElem hr, List.sum_append_nat, List.sum_singleton]

/-- the body of `Array.Serialize` / `Set.Serialize` for one slot. -/
def rangeVal (offs : List Nat) (cv : Vec) (nulls : Bitmap) (slot : Nat) : Option Val :=
  if nulls.get slot then some .null
  else match offs[slot]?, offs[slot + 1]? with
    | some a, some b => (mapRange (serialize cv) a (b - a)).map fun xs => .cont (Vals.ofList xs)
    | _, _ => none

theorem serialize_array (offs : List Nat) (cv : Vec) (nulls : Bitmap) (slot : Nat) :
    serialize (.array offs cv nulls) slot = rangeVal offs cv nulls slot := rfl

theorem serialize_set (offs : List Nat) (cv : Vec) (nulls : Bitmap) (slot : Nat) :
    serialize (.set offs cv nulls) slot = rangeVal offs cv nulls slot := rfl

theorem rangeVal_spec (F : List Bool) (nulls : Bitmap) (hR : Rep nulls F) (nn : List Val)
    (hFc : F.count false = nn.length) (hcont : AllCont nn) (cv : Vec)
    (hchild : ∀ j, j < (nn.flatMap Val.items).length → serialize cv j = (nn.flatMap Val.items)[j]?)
    (slot : Nat) (hs : slot < F.length) :
    rangeVal (offsetsOf F.length 0 0 nulls (nn.map fun v => v.items.length)) cv nulls slot =
      (expandVal F nn)[slot]? := by
  unfold rangeVal
  refine slot_spec hR hFc hs _ fun hf hk => ?_
  obtain ⟨h1, h2⟩ := offs_at F nulls hR (nn.map fun v => v.items.length)
    (by rw [List.length_map]; exact hFc) slot hs hf
  simp only [h1, h2, Nat.add_sub_cancel_left, List.getElem_map]
  rw [mapRange_flatMap (serialize cv) Val.items nn hchild _ hk, Option.map_some]
  obtain ⟨xs, hx⟩ := hcont _ (List.getElem_mem hk)
  rw [hx, Val.items_cont, Vals.ofList_toList]

theorem mapSlot_spec (F : List Bool) (nulls : Bitmap) (hR : Rep nulls F) (nn : List Val)
    (hFc : F.count false = nn.length) (hcont : AllCont nn) (heven : ∀ v ∈ nn, v.items.length % 2 = 0)
    (kv vv : Vec)
    (hk : ∀ j, j < (nn.flatMap fun x => evens x.items).length →
      serialize kv j = (nn.flatMap fun x => evens x.items)[j]?)
    (hv : ∀ j, j < (nn.flatMap fun x => odds x.items).length →
      serialize vv j = (nn.flatMap fun x => odds x.items)[j]?)
    (slot : Nat) (hs : slot < F.length) :
    serialize (.map (offsetsOf F.length 0 0 nulls (nn.map fun x => (odds x.items).length)) kv vv nulls) slot =
      (expandVal F nn)[slot]? := by
  refine (slot_spec hR hFc hs _ fun hf hr => ?_ :
    serialize (.map _ kv vv nulls) slot = _)
  obtain ⟨h1, h2⟩ := offs_at F nulls hR (nn.map fun x => (odds x.items).length)
    (by rw [List.length_map]; exact hFc) slot hs hf
  obtain ⟨xs, hx⟩ := hcont _ (List.getElem_mem hr)
  have he := heven _ (List.getElem_mem hr)
  -- a body has as many keys as values, so the value lengths cut the key column too
  have hlenKV : (nn.map fun x => (evens x.items).length) = nn.map fun x => (odds x.items).length :=
    List.map_congr_left fun v hv' => (evens_odds_spec _ (heven v hv')).1
  have rk := mapRange_flatMap (serialize kv) (fun x => evens x.items) nn hk _ hr
  have rv := mapRange_flatMap (serialize vv) (fun x => odds x.items) nn hv _ hr
  rw [hlenKV, (evens_odds_spec _ he).1] at rk
  simp only [h1, h2, Nat.add_sub_cancel_left, List.getElem_map, rk, rv]
  rw [(evens_odds_spec _ he).2, hx, Val.items_cont, Vals.ofList_toList]

theorem offsetsOf_len (F : List Bool) (nulls : Bitmap) (lens : List Nat) :
    (offsetsOf F.length 0 0 nulls lens).length - 1 = F.length := by
  rw [offsetsOf_length]; rfl

def LoadsG (t : Ty) (vs : List Val) (c : Col) : Prop :=
  ∀ (P : Bitmap) (Fp : List Bool), Rep P Fp → Fp.count false = vs.length →
    okV t vs (Fp.any id) = true → Loads c t vs P none Fp

/-- a column of its own slot domain (top level, or below an array / set / map / union). -/
theorem LoadsG.top {c : Col} {t : Ty} {vs : List Val} (h : LoadsG t vs c) (hok : okV t vs false = true) :
    ∃ v, load c none 0 none = some v ∧ vecType v = t ∧ v.len = vs.length ∧
      Vec.errClear v = true ∧ ∀ j, j < vs.length → serialize v j = vs[j]? := by
  obtain ⟨v, hv, hty, he, hss⟩ := h none (List.replicate vs.length false) (Rep.none _)
    List.count_replicate_self (by simpa using hok)
  have hc : (List.replicate vs.length false).count true = 0 := by
    rw [List.count_replicate]; rfl
  rw [hc] at hv
  exact ⟨v, hv, hty, hss.top.1, he, hss.top.2⟩

/-- What `loads_nullsWrap` asks for: of the `vs` and `pn` that `okV` is defined on, only `nonNull vs` and
    `pn || vs.any isNull` are left inside the `NullsEncoder`. -/
def LoadsD (t : Ty) (nn : List Val) (c : Col) : Prop :=
  ∀ (vs : List Val) (pn : Bool), nonNull vs = nn → okV t vs pn = true →
    ∀ (P : Bitmap) (own : Option (List Nat × Nat)) (F : List Bool), Rep (flattenNulls P own) F →
      F.count false = nn.length → F.any id = (pn || vs.any Val.isNull) → Loads c t nn P own F

def LoadsF (fs : Fields) (rows : List (List Val)) (fc : FCols) : Prop :=
  ∀ (b : Bitmap) (F : List Bool), Rep b F → F.count false = rows.length →
    okFields fs rows (F.any id) = true →
    ∃ fvs, loadFields fc b (F.count true) = some fvs ∧ fvecTypes fvs = fs ∧
      FVecs.errClear fvs = true ∧
      ∀ slot, slot < F.length → F.getD slot false = false →
        serializeFields fvs slot = rows[rank F slot]?

def LoadsT (ts : Tys) (k : Nat) (ps : List (Nat × Val)) (cs : Cols) : Prop :=
  okTys ts k ps = true →
    ∃ vvs, loadCols cs = some vvs ∧ vecTypes vvs = ts ∧
      ∀ j, j < ts.length → ∀ i, i < (partitionBy (k + j) ps).length →
        serializeAt vvs j i = (partitionBy (k + j) ps)[i]?

theorem loadReader : ColReader LoadsG LoadsD LoadsF LoadsT where
  named ih P Fp hR hlen hok := by
    obtain ⟨v, hv, hty, he, hss⟩ := ih P Fp hR hlen hok
    exact ⟨.named _ v, (load_named _ _ P _ none).trans (by rw [hv]; rfl), congrArg (Ty.named _) hty, he, hss⟩
  error {t vs _} ih P Fp hR hlen hok := by
    -- the guard: no enclosing record has a null, so the nil parent the loader passes is right
    have hok : (!Fp.any id) = true ∧ okV t vs false = true := Bool.and_eq_true_iff.mp hok
    obtain ⟨hpn, hok'⟩ := hok
    rw [Bool.not_eq_true'] at hpn
    have hrep := eq_replicate_of_any_false Fp hpn
    have hclear := hR.clear hpn
    obtain ⟨v, hv, hty, he, hl, hs⟩ := ih none Fp (by rw [hrep]; exact Rep.none _) hlen
      (by rw [hpn]; exact hok')
    refine ⟨.error v P, (load_error _ P _ none).trans (by rw [hv]; rfl), congrArg Ty.error hty,
      Bool.and_eq_true_iff.mpr ⟨hclear, he⟩, hl, fun slot hslot => ?_⟩
    rw [serialize_error, bitmapClear_get hclear slot, if_neg Bool.false_ne_true]
    exact hs slot hslot
  wrap {_ vs _} ih P Fp hR hlen hok :=
    loads_nullsWrap hR hlen fun own F hRF hFc hany => ih vs (Fp.any id) rfl hok P own F hRF hFc hany
  prim {id nn p} hp h29 hb hl _vs _pn _e _hok _P _own F hRF hFc _hany := by
    obtain ⟨v, hv, hty, hss⟩ := loadLeaf_build (.prim id) p _ _ F hb (hl.trans (List.length_map _).symm)
      hRF (hFc.trans (List.length_map _).symm) rfl (fun h => by rw [h29 (Ty.prim.inj (isNullTy_eq h))]; rfl)
    rw [map_prim_primBytes nn hp] at hss
    refine ⟨v, hv, hty, ?_, hss⟩
    obtain ⟨x, rfl⟩ | ⟨es, idx, rfl⟩ | rfl | ⟨vals, rfl⟩ := loadLeaf_some hv <;> rfl
  -- the loader has no enum case: the guard excludes the type
  enum _hp _hb _hl _vs _pn _e hok := nomatch hok
  record hc ih vs pn e hok P own F hRF hFc hany := by
    subst e
    obtain ⟨fvs, hfv, hfty, hfe, hfs⟩ := ih _ F hRF (by rw [List.length_map]; exact hFc)
      (by rw [hany]; exact hok)
    refine ⟨.record fvs F.length _, by rw [load_record, hfv, count_true_add hFc]; rfl,
      congrArg Ty.record hfty, hfe, rfl, fun slot hs => ?_⟩
    rw [serialize_record]
    refine slot_spec hRF hFc hs _ fun hf hk => ?_
    obtain ⟨xs, hx⟩ := hc _ (List.getElem_mem hk)
    rw [hfs slot hs hf, List.getElem?_map, List.getElem?_eq_getElem hk, Option.map_some,
      Option.map_some, hx, Val.items_cont, Vals.ofList_toList]
  array hc ih vs pn e hok P own F hRF hFc _ := by
    subst e
    obtain ⟨cv, hcv, hcty, _, _, hcs⟩ := ih.top hok
    refine ⟨.array (offsetsOf F.length 0 0 _ _) cv _, by rw [load_array, hcv, count_true_add hFc]; rfl,
      congrArg Ty.array hcty, rfl, offsetsOf_len F _ _, fun slot hs => ?_⟩
    rw [serialize_array]
    exact rangeVal_spec F _ hRF _ hFc hc cv hcs slot hs
  set hc ih vs pn e hok P own F hRF hFc _ := by
    subst e
    obtain ⟨cv, hcv, hcty, _, _, hcs⟩ := ih.top hok
    refine ⟨.set (offsetsOf F.length 0 0 _ _) cv _, by rw [load_set, hcv, count_true_add hFc]; rfl,
      congrArg Ty.set hcty, rfl, offsetsOf_len F _ _, fun slot hs => ?_⟩
    rw [serialize_set]
    exact rangeVal_spec F _ hRF _ hFc hc cv hcs slot hs
  map hc he ihk ihw vs pn e hok P own F hRF hFc _ := by
    subst e
    obtain ⟨hokk, hokw⟩ := Bool.and_eq_true_iff.mp hok
    obtain ⟨kv, hkv, hkty, _, _, hks⟩ := ihk.top hokk
    obtain ⟨wv, hwv, hwty, _, _, hws⟩ := ihw.top hokw
    refine ⟨.map (offsetsOf F.length 0 0 _ _) kv wv _,
      by rw [load_map, hkv, hwv, count_true_add hFc]; rfl, by rw [← hkty, ← hwty]; rfl,
      rfl, offsetsOf_len F _ _, fun slot hs => ?_⟩
    exact mapSlot_spec F _ hRF _ hFc hc he kv wv hks hws slot hs
  union {ts _ _} hc hlt ih vs pn e hok P own F hRF hFc hany := by
    -- the guard: no slot of the column is null, so that the unexpanded tags are right
    subst e
    have hok : ((!pn) = true ∧ (!vs.any Val.isNull) = true) ∧
        okTys ts 0 ((nonNull vs).map fun x => (x.utag, x.uval)) = true := by
      rw [← Bool.and_eq_true_iff, ← Bool.and_eq_true_iff]; exact hok
    obtain ⟨⟨hpn, hvn⟩, hokt⟩ := hok
    rw [Bool.not_eq_true'] at hpn hvn
    obtain ⟨vvs, hvv, hvty, hvs⟩ := ih hokt
    have hFany : F.any id = false := by rw [hany, hpn, hvn]; rfl
    have hFrep := eq_replicate_of_any_false F hFany
    have hFlen : F.length = (nonNull vs).length := by
      rw [← hFc, hFrep, List.count_replicate_self, List.length_replicate]
    refine ⟨.union ((nonNull vs).map Val.utag) vvs _, by rw [load_union, hvv]; rfl,
      congrArg Ty.union hvty, rfl, by rw [Vec.len, List.length_map, hFlen], fun slot hs => ?_⟩
    have hs' : slot < (nonNull vs).length := hFlen ▸ hs
    rw [hFrep, hFlen, expandVal_replicate_false]
    obtain ⟨tag, x, hx⟩ := hc _ (List.getElem_mem hs')
    have hlt := hlt _ (List.getElem_mem hs')
    rw [hx] at hlt
    have hps : slot < ((nonNull vs).map fun x => (x.utag, x.uval)).length := by
      rw [List.length_map]; exact hs'
    have hpf := partition_forward ((nonNull vs).map fun x => (x.utag, x.uval)) slot hps
    have hfl := forwardOf_lt ((nonNull vs).map fun x => (x.utag, x.uval)) slot hps
    simp only [List.getElem_map, hx, Val.utag_union, Val.uval_union, List.map_map, Function.comp_def] at hpf hfl
    have := hvs tag hlt _ (by simpa using hfl)
    simp only [Nat.zero_add] at this
    simp only [serialize, List.getElem?_map, List.getElem?_eq_getElem hs', hx, Option.map_some,
      Val.utag_union, this, hpf]
  fnil h b F hR hlen _ := by
    refine ⟨.nil, rfl, rfl, rfl, fun slot hs hf => ?_⟩
    have hk := rank_lt hlen hs hf
    rw [serializeFields, List.getElem?_eq_getElem hk, h _ (List.getElem_mem hk)]
  fcons {n t rest rows _ _} hne ih ihf b F hR hlen hok := by
    have hok : okV t (rows.map headV) (F.any id) = true ∧
        okFields rest (rows.map List.tail) (F.any id) = true := Bool.and_eq_true_iff.mp hok
    obtain ⟨v, hv, hty, he, _, hs⟩ := ih b F hR (by rw [List.length_map]; exact hlen) hok.1
    obtain ⟨fvs, hfv, hfty, hfe, hfs⟩ := ihf b F hR (by rw [List.length_map]; exact hlen) hok.2
    refine ⟨.cons n v fvs, (loadFields_cons n _ _ b _).trans (by rw [hv, hfv]; rfl),
      by rw [fvecTypes, hty, hfty], by rw [FVecs.errClear, he, hfe]; rfl, fun slot hslot hf => ?_⟩
    have hk := rank_lt hlen hslot hf
    simp only [serializeFields, hs slot hslot, hfs slot hslot hf, List.getElem?_eq_getElem hk,
      expandVal_getElem F _ slot hslot ((List.length_map _).trans hlen.symm).symm, hf,
      Bool.false_eq_true, if_false, List.getElem?_map, Option.map_some, Val.ofOpt_some]
    have hne := hne _ (List.getElem_mem hk)
    cases hr : rows[rank F slot] with
    | nil => exact absurd hr hne
    | cons x xs => rfl
  tnil _ := ⟨.nil, rfl, rfl, fun j hj => absurd hj (Nat.not_lt_zero j)⟩
  tcons {t rest k ps _ _} ih ihs hok := by
    have hok : okV t (partitionBy k ps) false = true ∧ okTys rest (k + 1) ps = true :=
      Bool.and_eq_true_iff.mp hok
    obtain ⟨cv, hcv, hcty, _, _, hcs⟩ := ih.top hok.1
    obtain ⟨vvs, hvv, hvty, hvs⟩ := ihs hok.2
    refine ⟨.cons cv vvs, (loadCols_cons _ _).trans (by rw [hcv, hvv]; rfl), by rw [← hcty, ← hvty]; rfl, ?_⟩
    intro j hj i hi
    cases j with
    | zero => exact hcs i hi
    | succ j =>
      rw [show k + (j + 1) = k + 1 + j by omega] at hi ⊢
      exact hvs j (Nat.lt_of_succ_lt_succ hj) i hi

def LoadSpecG (t : Ty) : Prop :=
  ∀ (vs : List Val) (P : Bitmap) (Fp : List Bool), Rep P Fp → Fp.count false = vs.length →
    (∀ v ∈ vs, conforms t v = true) → okV t vs (Fp.any id) = true →
    ∃ v, load (enc t vs) P (Fp.count true) none = some v ∧ vecType v = t ∧ v.len = Fp.length ∧
      Vec.errClear v = true ∧
      ∀ slot, slot < Fp.length → serialize v slot = (expandVal Fp vs)[slot]?

def FieldsSpecG (fs : Fields) : Prop :=
  ∀ (rows : List (List Val)) (b : Bitmap) (F : List Bool), Rep b F → F.count false = rows.length →
    (∀ r ∈ rows, conformsRow fs r = true) → okFields fs rows (F.any id) = true →
    ∃ fvs, loadFields (encFields fs rows) b (F.count true) = some fvs ∧ fvecTypes fvs = fs ∧
      FVecs.errClear fvs = true ∧
      ∀ slot, slot < F.length → F.getD slot false = false →
        serializeFields fvs slot = rows[rank F slot]?

def TysSpecG (ts : Tys) : Prop :=
  ∀ (k : Nat) (ps : List (Nat × Val)),
    (∀ p ∈ ps, k ≤ p.1 → conformsTag ts (p.1 - k) p.2 = true) → okTys ts k ps = true →
    ∃ vvs, loadCols (encTys ts k ps) = some vvs ∧ vecTypes vvs = ts ∧
      ∀ j, j < ts.length → ∀ i, i < (partitionBy (k + j) ps).length →
        serializeAt vvs j i = (partitionBy (k + j) ps)[i]?

theorem loadSpec_all (t : Ty) : LoadSpecG t := fun vs P Fp hR hlen hconf hok =>
  let ⟨v, hv, hty, he, hl, hs⟩ := loadReader.enc t vs hconf P Fp hR hlen hok
  ⟨v, hv, hty, hl, he, hs⟩

theorem fieldsSpec_all : ∀ fs : Fields, FieldsSpecG fs :=
  fun fs rows b F hR hlen hconf hok => loadReader.encFields fs rows hconf b F hR hlen hok

theorem tysSpec_all : ∀ ts : Tys, TysSpecG ts :=
  fun ts k ps hconf hok => loadReader.encTys ts k ps hconf hok

theorem load_top_all (t : Ty) (vs : List Val) (hconf : ∀ v ∈ vs, conforms t v = true)
    (hok : okV t vs false = true) :
    ∃ v, load (enc t vs) none 0 none = some v ∧ vecType v = t ∧ v.len = vs.length ∧
      Vec.wf v = true ∧ Vec.errClear v = true ∧
      (∀ i, i < vs.length → serialize v i = vs[i]?) ∧
      materialize v = some (vs.map fun x => (t, x)) := by
  obtain ⟨v, hv, hty, hl, he, hs⟩ := (loadReader.enc t vs hconf).top hok
  exact ⟨v, hv, hty, hl, load_wf _ _ _ _ v (enc_leafOK t vs) hv, he, hs,
    hty ▸ materialize_pointwise v vs hl hs⟩

mutual
/-- primitives (no enum), records, named types: the guard holds whatever the data. -/
def flatTy : Ty → Bool
  | .prim _ => true
  | .record fs => flatFields fs
  | .named _ t => flatTy t
  | _ => false
def flatFields : Fields → Bool
  | .nil => true
  | .cons _ t rest => flatTy t && flatFields rest
end

def FieldsSpec (fs : Fields) : Prop :=
  ∀ (rows : List (List Val)) (b : Bitmap) (F : List Bool), Rep b F → F.count false = rows.length →
    (∀ r ∈ rows, conformsRow fs r = true) →
    ∃ fvs, loadFields (encFields fs rows) b (F.count true) = some fvs ∧ fvecTypes fvs = fs ∧
      ∀ slot, slot < F.length → F.getD slot false = false →
        serializeFields fvs slot = rows[rank F slot]?

mutual
theorem flatTy_okV : ∀ t : Ty, flatTy t = true → ∀ (vs : List Val) (pn : Bool), okV t vs pn = true
  | .prim _, _, _, _ => rfl
  | .named _ t, h, vs, pn => flatTy_okV t h vs pn
  | .record fs, h, _, _ => flatFields_okFields fs h _ _
  | .enum _, h, _, _ | .array _, h, _, _ | .set _, h, _, _ | .map _ _, h, _, _ | .union _, h, _, _
  | .error _, h, _, _ => by cases h
theorem flatFields_okFields : ∀ fs : Fields, flatFields fs = true →
    ∀ (rows : List (List Val)) (pn : Bool), okFields fs rows pn = true
  | .nil, _, _, _ => rfl
  | .cons _ t rest, h, _, _ =>
    have h : flatTy t = true ∧ flatFields rest = true := Bool.and_eq_true_iff.mp h
    Bool.and_eq_true_iff.mpr ⟨flatTy_okV t h.1 _ _, flatFields_okFields rest h.2 _ _⟩
end

theorem fieldsSpec_flat : ∀ fs : Fields, flatFields fs = true → FieldsSpec fs := by
  intro fs h rows b F hR hlen hconf
  obtain ⟨fvs, h1, h2, _, h3⟩ :=
    fieldsSpec_all fs rows b F hR hlen hconf (flatFields_okFields fs h rows _)
  exact ⟨fvs, h1, h2, h3⟩

theorem rewrap_len (ws : List Wrap) (c : Vec) : (Vec.rewrap ws c).len = c.len := by
  induction ws with
  | nil => rfl
  | cons w ws ih => cases w <;> simp [Vec.rewrap, Vec.len, ih]

theorem peel_len : ∀ v : Vec, v.peel.2.len = v.len
  | .named _ v => by simp [Vec.peel, Vec.len, peel_len v]
  | .error v _ => by simp [Vec.peel, Vec.len, peel_len v]
  | .flat _ _ _ | .dict _ _ _ _ | .const _ _ _ _ | .constNull _ | .record _ _ _ | .array _ _ _ | .set _ _ _
  | .map _ _ _ _ | .union _ _ _ | .missing _ => rfl

theorem projVec_len : ∀ (P : Proj) (v : Vec), (projVec P v).len = v.len
  | .all, _ => rfl
  | .fields fs, .named _ v => projVec_len (.fields fs) v
  | .fields fs, .error v _ => projVec_len (.fields fs) v
  | .fields _, .flat _ _ _ | .fields _, .dict _ _ _ _ | .fields _, .const _ _ _ _ | .fields _, .constNull _
  | .fields _, .record _ _ _ | .fields _, .array _ _ _ | .fields _, .set _ _ _ | .fields _, .map _ _ _ _
  | .fields _, .union _ _ _ | .fields _, .missing _ => rfl

theorem projection_sound_all (paths : List (List Bytes)) (t : Ty) (vs : List Val)
    (hconf : ∀ v ∈ vs, conforms t v = true) (hok : okV t vs false = true) :
    ∃ v, load (enc t vs) none 0 none = some v ∧
      vecType (projVec (mkProj paths) v) = projTy (mkProj paths) t ∧
      (∀ i, i < vs.length →
        serialize (projVec (mkProj paths) v) i = (vs[i]?).map (projVal (mkProj paths) t)) ∧
      materialize (projVec (mkProj paths) v) = some (vs.map fun x => restrict paths (t, x)) := by
  obtain ⟨v, hv, hty, hl, hwf, hec, hs, _⟩ := load_top_all t vs hconf hok
  subst hty
  obtain ⟨a, b⟩ := pspec (mkProj paths) v _ _ (Holds.ofList rfl hwf hec hs hconf)
  have hpt : ∀ i, i < vs.length →
      serialize (projVec (mkProj paths) v) i = (vs[i]?).map (projVal (mkProj paths) (vecType v)) := by
    intro i hi
    rw [b i hi, List.getElem?_eq_getElem hi]
    simp [List.getD_eq_getElem?_getD, List.getElem?_eq_getElem hi]
  refine ⟨v, hv, a, hpt, ?_⟩
  rw [materialize_pointwise _ (vs.map (projVal (mkProj paths) (vecType v)))
    (by rw [projVec_len, hl, List.length_map])
    (fun i hi => by rw [List.length_map] at hi; rw [hpt i hi, List.getElem?_map]), a, List.map_map]
  rfl

theorem readVec_single (paths : List (List Bytes)) (t : Ty) (vs : List Val)
    (hconf : ∀ v ∈ vs, conforms t v = true) (hok : okV t vs false = true)
    (hpc : projCrashes (mkProj paths) (enc t vs) = false) :
    readVec paths (.single (enc t vs)) = some (vs.map fun x => restrict paths (t, x)) := by
  obtain ⟨v, hv, _, _, hm⟩ := projection_sound_all paths t vs hconf hok
  simp [readVec, hpc, hv, hm]

end Zed.Vng

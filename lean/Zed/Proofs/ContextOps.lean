import Zed.Proofs.ContextInv
import Zed.Proofs.InsertionSort
import Zed.Proofs.CompareTypesTrans
/-! `Entered` for each kind of lookup -/
namespace Zed
open Zcode List Generated.C05

theorem Fields.wf_ofList : (l : List (Name × Ty)) → (∀ p ∈ l, Ctx.nameOk p.1 = true ∧ p.2.wf = true) →
    (Fields.ofList l).wf = true
  | [], _ => rfl
  | (n, t) :: r, h => by
    have h1 := h (n, t) (by simp)
    simp only [Fields.ofList, Fields.wf, Bool.and_eq_true]
    exact ⟨⟨h1.1, h1.2⟩, Fields.wf_ofList r (fun p hp => h p (by simp [hp]))⟩
theorem Tys.wf_ofList : (l : List Ty) → (∀ t ∈ l, t.wf = true) → (Tys.ofList l).wf = true
  | [], _ => rfl
  | t :: r, h => by
    simp only [Tys.ofList, Tys.wf, Bool.and_eq_true]
    exact ⟨h t (by simp), Tys.wf_ofList r (fun u hu => h u (by simp [hu]))⟩

theorem tyLess_asymm (a b : Ty) (h : tyLess a b = true) : tyLess b a = false := by
  simp only [tyLess, beq_iff_eq] at h
  simp [tyLess, cmpTy_swap a b, h, Ordering.swap]

theorem tyLess_strictTotal : StrictTotalOn tyLess (fun _ => True) := tyLin.strictTotalOn

namespace Ctx

theorem lookupArray_spec (c : Ctx) (hc : c.Inv) (t : Ty) (ht : c.has t) :
    Entered c (.array t) c.typedefs (some (c.lookupArray t).1) (c.lookupArray t).2 :=
  lookupOrEnter_spec c hc (.array t) (by simpa [Ty.wf] using ht.1) rfl

theorem lookupSet_spec (c : Ctx) (hc : c.Inv) (t : Ty) (ht : c.has t) :
    Entered c (.set t) c.typedefs (some (c.lookupSet t).1) (c.lookupSet t).2 :=
  lookupOrEnter_spec c hc (.set t) (by simpa [Ty.wf] using ht.1) rfl

theorem lookupError_spec (c : Ctx) (hc : c.Inv) (t : Ty) (ht : c.has t) :
    Entered c (.error t) c.typedefs (some (c.lookupError t).1) (c.lookupError t).2 :=
  lookupOrEnter_spec c hc (.error t) (by simpa [Ty.wf] using ht.1) rfl

theorem lookupMap_spec (c : Ctx) (hc : c.Inv) (k v : Ty) (hk : c.has k) (hv : c.has v) :
    Entered c (.map k v) c.typedefs (some (c.lookupMap k v).1) (c.lookupMap k v).2 :=
  lookupOrEnter_spec c hc (.map k v) (by simp [Ty.wf, hk.1, hv.1]) rfl

theorem lookupEnum_spec (c : Ctx) (hc : c.Inv) (syms : List Name) (hs : syms.all nameOk = true)
    (hl : syms.length ≤ maxEnumSymbols) :
    Entered c (.enum syms) c.typedefs (some (c.lookupEnum syms).1) (c.lookupEnum syms).2 :=
  lookupOrEnter_spec c hc (.enum syms) (by simp [Ty.wf, hs, hl]) rfl

/-- `LookupTypeUnion`: the members are sorted first; the sorted list is what is entered -/
theorem lookupUnion_spec (c : Ctx) (hc : c.Inv) (ts : List Ty) (ht : ∀ t ∈ ts, c.has t)
    (hl : ts.length ≤ maxUnionTypes) :
    Entered c (.union (Tys.ofList (sortTys ts))) c.typedefs (some (c.lookupUnion ts).1) (c.lookupUnion ts).2 := by
  unfold lookupUnion
  refine lookupOrEnter_spec c hc _ ?_ rfl
  have hp : (sortTys ts).Perm ts := insertionSort_perm tyLess ts
  simp only [Ty.wf, Bool.and_eq_true, decide_eq_true_eq]
  refine ⟨⟨Tys.wf_ofList _ (fun t h => (ht t (hp.mem_iff.mp h)).1), ?_⟩, ?_⟩
  · rw [Tys.length_ofList, hp.length_eq]; exact hl
  · rw [Tys.toList_ofList]; exact adjSorted_insertionSort tyLess tyLess_asymm ts

theorem lookupRecord_hit (c : Ctx) (fs : List (Name × Ty)) (t' : Ty)
    (h : c.toType.lookup (encodeTV (Ty.record (Fields.ofList fs))) = some t') :
    c.lookupRecord fs = (some t', c) := by
  simp only [lookupRecord, h]

theorem lookupRecord_eq (c : Ctx) (fs : List (Name × Ty)) (hd : hasDup (fs.map (·.1)) = false) :
    c.lookupRecord fs =
      (some (c.lookupOrEnter (.record (Fields.ofList fs))).1, (c.lookupOrEnter (.record (Fields.ofList fs))).2) := by
  simp only [lookupRecord, lookupOrEnter, hd]
  cases c.toType.lookup (encodeTV (Ty.record (Fields.ofList fs))) <;> rfl

theorem lookupRecord_spec (c : Ctx) (hc : c.Inv) (fs : List (Name × Ty))
    (ht : ∀ p ∈ fs, nameOk p.1 = true ∧ c.has p.2) (hl : fs.length ≤ maxRecordFields)
    (hd : hasDup (fs.map (·.1)) = false) :
    Entered c (.record (Fields.ofList fs)) c.typedefs (c.lookupRecord fs).1 (c.lookupRecord fs).2 := by
  have wt : (Ty.record (Fields.ofList fs)).wf = true := by
    simp only [Ty.wf, Bool.and_eq_true, decide_eq_true_eq, Bool.not_eq_true']
    refine ⟨⟨Fields.wf_ofList fs (fun p hp => ⟨(ht p hp).1, (ht p hp).2.1⟩), ?_⟩, ?_⟩
    · rw [Fields.names_eq_map, Fields.toList_ofList]; exact hd
    · rw [Fields.length_ofList]; exact hl
  rw [lookupRecord_eq c fs hd]
  exact lookupOrEnter_spec c hc _ wt rfl

theorem bind_inv (c : Ctx) (hc : c.Inv) (n : Name) (x : Ty) (hm : Ty.named n x ∈ c.byID) :
    ({ c with typedefs := bind c.typedefs n (.named n x) } : Ctx).Inv := by
  refine ⟨hc.nodup, hc.wf, hc.total, hc.sound, hc.range, fun m u hl => ?_, hc.tvcanon, hc.tvtotal⟩
  simp only [bind, lookup_cons_eq] at hl
  by_cases e : m = n
  · subst e; rw [if_pos rfl] at hl
    cases hl
    exact ⟨hm, x, rfl⟩
  · rw [if_neg e] at hl; exact hc.defs m u hl

/-- the Go code binds the name before it enters the type: the same context -/
theorem lookupNamed_eq (c : Ctx) (n : Name) (t : Ty) (hn : validTypeName n = true) :
    c.lookupNamed n t = (some (c.lookupOrEnter (.named n t)).1,
      { (c.lookupOrEnter (.named n t)).2 with typedefs := bind c.typedefs n (c.lookupOrEnter (.named n t)).1 }) := by
  simp only [lookupNamed, lookupOrEnter, hn, Bool.not_true, Bool.false_eq_true, if_false]
  cases c.toType.lookup (encodeTV (Ty.named n t)) <;> rfl

theorem lookupNamed_spec (c : Ctx) (hc : c.Inv) (n : Name) (t : Ty) (hn : validTypeName n = true)
    (hn2 : nameOk n = true) (ht : c.has t) :
    Entered c (.named n t) ((n, .named n t) :: c.typedefs) (c.lookupNamed n t).1 (c.lookupNamed n t).2 := by
  have wt : (Ty.named n t).wf = true := by simp [Ty.wf, hn, hn2, ht.1]
  have sp := lookupOrEnter_spec c hc _ wt rfl
  have hmem : Ty.named n t ∈ (c.lookupOrEnter (.named n t)).2.byID :=
    sp.has.2.resolve_right (by simp [Ty.isComplex])
  have b := bind_inv _ sp.inv n t hmem
  rw [sp.defs] at b
  rw [lookupNamed_eq c n t hn, sp.val]
  exact ⟨rfl, b, rfl, sp.mono, sp.has⟩

end Ctx
end Zed

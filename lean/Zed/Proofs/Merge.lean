/-! `merge.Op` as a nondeterministic process over the parents' remaining values, and
    `merge_sorted`: whatever minimal head the heap returns among equals, and whichever of the two
    emission paths is taken, the output is sorted and a permutation of the input.  Then core's
    two-way `List.merge` under a finer relation, folded over legs. -/
namespace Zed
open List

section
variable {α : Type} (le : α → α → Bool)

/-- One emission of `merge.Op.Pull`: parent `i` (whose remaining values are `x :: pre ++ rest`) is
    popped from the head-of-line heap — its head is not greater than any other head — and either
    one value is emitted (`Read`) or, when the last value of the rest of its batch is not greater
    than the other heads, that whole rest (`pre`).  (`hlast`: `∀ z ∈ pre` only says `pre ≠ []`.) -/
inductive MergeStep : List (List α) → List α → List (List α) → Prop
  | emit (ps : List (List α)) (i : Nat) (x : α) (pre rest : List α)
      (hp : ps[i]? = some (x :: pre ++ rest))
      (hmin : ∀ j q y, j ≠ i → ps[j]? = some q → q.head? = some y → le x y = true)
      (hlast : ∀ z, z ∈ pre → ∀ j q y, j ≠ i → ps[j]? = some q → q.head? = some y → le ((x :: pre).getLast (by simp)) y = true) :
      MergeStep ps (x :: pre) (ps.set i rest)

inductive MergeRun : List (List α) → List α → Prop
  | done (ps : List (List α)) (h : ∀ p ∈ ps, p = []) : MergeRun ps []
  | step (ps ps' : List (List α)) (pre out : List α) (s : MergeStep le ps pre ps') (r : MergeRun ps' out) :
      MergeRun ps (pre ++ out)

theorem flatten_set_perm : (ps : List (List α)) → (i : Nat) → (pre rest : List α) → ps[i]? = some (pre ++ rest) →
    ps.flatten.Perm (pre ++ (ps.set i rest).flatten)
  | [], i, _, _, h => by simp at h
  | p :: ps, 0, pre, rest, h => by
    simp only [getElem?_cons_zero, Option.some.injEq] at h
    subst h; simp [append_assoc]
  | p :: ps, i+1, pre, rest, h => by
    simp only [getElem?_cons_succ] at h
    have ih := flatten_set_perm ps i pre rest h
    simp only [flatten_cons, set_cons_succ]
    exact (Perm.append_left p ih).trans (by
      rw [← append_assoc, ← append_assoc]
      exact Perm.append_right _ perm_append_comm)

theorem MergeRun.perm {ps : List (List α)} {out : List α} (h : MergeRun le ps out) : out.Perm ps.flatten := by
  induction h with
  | done ps h => rw [List.flatten_eq_nil_iff.2 h]
  | step ps ps' pre out s _ ih =>
    cases s with
    | emit i x pre' rest hp _ _ =>
      exact (ih.append_left _).trans (flatten_set_perm ps i (x :: pre') rest (by simpa using hp)).symm

theorem mem_flatten_set {ps : List (List α)} {i : Nat} {rest : List α} {y : α}
    (h : y ∈ (ps.set i rest).flatten) : y ∈ rest ∨ ∃ j q, j ≠ i ∧ ps[j]? = some q ∧ y ∈ q := by
  obtain ⟨q, hq, hy⟩ := mem_flatten.mp h
  obtain ⟨j, hj⟩ := mem_iff_getElem?.mp hq
  by_cases e : j = i
  · subst e
    rw [getElem?_set] at hj
    simp only [if_true] at hj
    split at hj
    · simp only [Option.some.injEq] at hj; subst hj; exact Or.inl hy
    · simp at hj
  · rw [getElem?_set_ne (Ne.symm e)] at hj
    exact Or.inr ⟨j, q, e, hj, hy⟩

theorem getLast_le_of_pairwise : (l : List α) → (h : l ≠ []) → l.Pairwise (fun a b => le a b = true) →
    (∀ a, le a a = true) → ∀ z ∈ l, le z (l.getLast h) = true
  | [a], _, _, hr, z, hz => by simp at hz; subst hz; exact hr z
  | a :: b :: r, _, hs, hr, z, hz => by
    rw [getLast_cons (by simp)]
    rw [pairwise_cons] at hs
    simp only [mem_cons] at hz
    rcases hz with rfl | hz
    · exact hs.1 _ (getLast_mem _)
    · exact getLast_le_of_pairwise (b :: r) (by simp) hs.2 hr z (by simpa using hz)

/-- **merge_sorted**, relative to a predicate `P` on which `le` is transitive -/
theorem merge_sorted_on (P : α → Prop)
    (trans : ∀ a b c, P a → P b → P c → le a b = true → le b c = true → le a c = true)
    (refl : ∀ a, le a a = true) (ps : List (List α)) (out : List α) (h : MergeRun le ps out)
    (hP : ∀ p ∈ ps, ∀ a ∈ p, P a)
    (hs : ∀ p ∈ ps, p.Pairwise (fun a b => le a b = true)) :
    out.Pairwise (fun a b => le a b = true) ∧ out.Perm ps.flatten := by
  refine ⟨?_, MergeRun.perm le h⟩
  induction h with
  | done ps h => exact Pairwise.nil
  | step ps ps' pre out s r ih =>
    cases s with
    | emit i x pre' rest hp hmin hlast =>
      have hmem : x :: pre' ++ rest ∈ ps := mem_of_getElem? hp
      have hsp := hs _ hmem
      have hs' : ∀ p ∈ ps.set i rest, p.Pairwise (fun a b => le a b = true) := by
        intro p hpm
        rcases mem_or_eq_of_mem_set hpm with h1 | h1
        · exact hs p h1
        · rw [h1]
          have : (x :: pre' ++ rest) = (x :: pre') ++ rest := by simp
          rw [this] at hsp
          exact (pairwise_append.mp hsp).2.1
      have hP' : ∀ p ∈ ps.set i rest, ∀ a ∈ p, P a := by
        intro p hpm a ha
        rcases mem_or_eq_of_mem_set hpm with h1 | h1
        · exact hP p h1 a ha
        · rw [h1] at ha
          exact hP _ hmem a (by simp [ha])
      have ih1 := ih hP' hs'
      have ih2 := MergeRun.perm le r
      have hsp' : ((x :: pre') ++ rest).Pairwise (fun a b => le a b = true) := by simpa using hsp
      have hpre := (pairwise_append.mp hsp').1
      have hcross := (pairwise_append.mp hsp').2.2
      rw [pairwise_append]
      refine ⟨hpre, ih1, ?_⟩
      intro a ha b hb
      have hb' : b ∈ (ps.set i rest).flatten := ih2.mem_iff.mp hb
      rcases mem_flatten_set hb' with h1 | ⟨j, q, hji, hq, hbq⟩
      · exact hcross a ha b h1
      · -- b is in another parent q: a ≤ (last of pre or x) ≤ head q ≤ b
        have hqs := hs q (mem_of_getElem? hq)
        cases q with
        | nil => simp at hbq
        | cons y q' =>
          have hPq := hP _ (mem_of_getElem? hq)
          have hPa : P a := hP _ hmem a (by
            have : (x :: pre' ++ rest) = (x :: pre') ++ rest := by simp
            rw [this]; exact mem_append_left _ ha)
          have hyb : le y b = true := by
            simp only [mem_cons] at hbq
            rcases hbq with rfl | hbq
            · exact refl _
            · exact (pairwise_cons.mp hqs).1 b hbq
          have hay : le a y = true := by
            cases pre' with
            | nil =>
              simp only [mem_singleton] at ha; subst ha
              exact hmin j (y :: q') y hji hq rfl
            | cons z pre'' =>
              have hl := hlast z (by simp) j (y :: q') y hji hq rfl
              have hPl : P ((x :: z :: pre'').getLast (by simp)) := hP _ hmem _ (by
                have : (x :: (z :: pre'') ++ rest) = (x :: z :: pre'') ++ rest := by simp
                rw [this]; exact mem_append_left _ (getLast_mem _))
              exact trans _ _ _ hPa hPl (hPq y (by simp)) (getLast_le_of_pairwise le (x :: z :: pre'') (by simp) hpre refl a ha) hl
          exact trans _ _ _ hPa (hPq y (by simp)) (hPq b hbq) hay hyb

theorem merge_sorted (trans : ∀ a b c, le a b = true → le b c = true → le a c = true)
    (refl : ∀ a, le a a = true) (ps : List (List α)) (out : List α) (h : MergeRun le ps out)
    (hs : ∀ p ∈ ps, p.Pairwise (fun a b => le a b = true)) :
    out.Pairwise (fun a b => le a b = true) ∧ out.Perm ps.flatten :=
  merge_sorted_on le (fun _ => True) (fun a b c _ _ _ => trans a b c) refl ps out h (fun _ _ _ _ => trivial) hs
end

/-! ### the k-way merge as a fold of two-way merges (`Lake.mergeK`, `Opt.mergeLegs`) -/

section
variable {α : Type}

/-- merging by `le` keeps any transitive relation `R` that `le` decides in one direction or the other -/
theorem pairwise_merge_of_refines {le : α → α → Bool} {R : α → α → Prop}
    (htrans : ∀ a b c, R a b → R b c → R a c)
    (h1 : ∀ a b, le a b = true → R a b) (h2 : ∀ a b, le a b = false → R b a) :
    ∀ (l₁ l₂ : List α), l₁.Pairwise R → l₂.Pairwise R → (List.merge l₁ l₂ le).Pairwise R := by
  intro l₁
  induction l₁ with
  | nil => intro l₂ _ h; simpa only [List.merge] using h
  | cons x l₁ ih₁ =>
    intro l₂
    induction l₂ with
    | nil => intro h _; simpa only [List.merge] using h
    | cons y l₂ ih₂ =>
      intro g₁ g₂
      simp only [List.merge]
      split <;> rename_i h
      · refine List.Pairwise.cons (fun z m => ?_) (ih₁ _ g₁.tail g₂)
        rcases List.mem_merge.mp m with m | m
        · exact List.rel_of_pairwise_cons g₁ m
        · rcases List.mem_cons.mp m with rfl | m
          · exact h1 _ _ h
          · exact htrans _ _ _ (h1 _ _ h) (List.rel_of_pairwise_cons g₂ m)
      · have h' : le x y = false := by simpa using h
        refine List.Pairwise.cons (fun z m => ?_) (ih₂ g₁ g₂.tail)
        rcases List.mem_merge.mp m with m | m
        · rcases List.mem_cons.mp m with rfl | m
          · exact h2 _ _ h'
          · exact htrans _ _ _ (h2 _ _ h') (List.rel_of_pairwise_cons g₁ m)
        · exact List.rel_of_pairwise_cons g₂ m

theorem foldr_merge_spec (le : α → α → Bool) (legs : List (List α)) :
    (legs.foldr (fun l acc => List.merge l acc le) []).Perm legs.flatten ∧
    ∀ {R : α → α → Prop}, (∀ a b c, R a b → R b c → R a c) → (∀ a b, le a b = true → R a b) →
      (∀ a b, le a b = false → R b a) → (∀ l ∈ legs, l.Pairwise R) →
      (legs.foldr (fun l acc => List.merge l acc le) []).Pairwise R := by
  induction legs with
  | nil => exact ⟨.refl _, fun _ _ _ _ => .nil⟩
  | cons l ls ih =>
    refine ⟨(List.merge_perm_append le).trans (ih.1.append_left l), fun ht h1 h2 hs => ?_⟩
    exact pairwise_merge_of_refines ht h1 h2 _ _ (hs l (by simp)) (ih.2 ht h1 h2 fun l' hl' => hs l' (by simp [hl']))
end

end Zed

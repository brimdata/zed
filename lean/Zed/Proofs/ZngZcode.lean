import Zed.Model.ZngZcode
import Zed.Proofs.ZngUvarint
namespace Zed.Zng
open Zed.Generated.C01 (toTag tagLength tagNull)

/-- A body fits in a Go slice (its tag fits in an `int`); the writer's flag for it is `bodySmall`. -/
def BodyFits : Option Bytes → Prop
  | none => True
  | some b => b.length + 1 < two63

instance : (v : Option Bytes) → Decidable (BodyFits v)
  | none => isTrue trivial
  | some b => inferInstanceAs (Decidable (b.length + 1 < two63))

theorem znext_zappend (v : Option Bytes) (rest : Bytes) (hv : BodyFits v) :
    znext (zappend v ++ rest) = .ok (v, rest) := by
  cases v with
  | none =>
    rw [zappend, znext, readUvarint_uvarint tagNull rest (by decide)]
    rfl
  | some b =>
    have hv : b.length + 1 < two63 := hv
    rw [zappend, znext, List.append_assoc,
      readUvarint_uvarint (toTag b.length) (b ++ rest) (lt_two64 hv)]
    simp only [toTag, tagNull, tagLength, Nat.add_one_ne_zero, if_false, Nat.add_sub_cancel,
      asInt_small b.length (by omega), Int.toNat_natCast, hasLen_append, Bool.not_true, Bool.false_eq_true]
    rw [if_neg (by omega), List.take_left', List.drop_left'] <;> rfl

theorem ziterAll_zappendAll (vs : List (Option Bytes)) (h : ∀ v ∈ vs, BodyFits v) :
    ziterAll (zappendAll vs) = .ok vs := by
  induction vs with
  | nil => exact ziterAll_nil
  | cons v vs ih =>
    rw [zappendAll, ziterAll_of_znext (znext_zappend v _ (h v List.mem_cons_self)),
      ih fun x hx => h x (List.mem_cons_of_mem _ hx)]

end Zed.Zng

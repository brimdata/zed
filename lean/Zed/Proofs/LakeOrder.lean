/-
  Key order of the scan.  Ascending or descending is decided once (`dle`, `ends`); the lister hands the
  objects over ordered by range start, the slicer's partitions are then pairwise separated, hence the
  scan is in pool-key order.
-/
import Zed.Model.LakeSeek
import Zed.Proofs.LakeScan
import Zed.Proofs.BoolOrder
namespace Zed.Lake
open Zed.BoolOrder (lex neither lex_negtrans lex_asymm)
variable {K V : Type}

/-- the key order `compareValues(·, ·, nullsMax)` is reflexive and transitive -/
structure KeyLaws (cfg : Cfg K V) : Prop where
  refl : ∀ a, cfg.kle a a = true
  trans : ∀ a b c, cfg.kle a b = true → cfg.kle b c = true → cfg.kle a c = true

structure KeyTotal (cfg : Cfg K V) : Prop extends KeyLaws cfg where
  total : ∀ a b, (cfg.kle a b || cfg.kle b a) = true

/-! `dle` is `kle` read in the direction of the pool, `dlt` its strict part, `ends` an object as (start, stop) in
    that order; `kvle cfg x y` is `dle cfg (cfg.key x) (cfg.key y)` by definition. -/

def dle (cfg : Cfg K V) (a b : K) : Bool := if cfg.desc then cfg.kle b a else cfg.kle a b

/-- the strict order `lessFunc` compares range ends with -/
def dlt (cfg : Cfg K V) (x y : K) : Bool := if cfg.desc then klt cfg y x else klt cfg x y

def ends (cfg : Cfg K V) (o : Obj K) : K × K :=
  if cfg.desc then (o.max, o.min) else (o.min, o.max)

theorem dlt_eq (cfg : Cfg K V) (a b : K) : dlt cfg a b = (dle cfg a b && !dle cfg b a) := by
  unfold dlt dle klt; cases cfg.desc <;> rfl

theorem dle_refl (cfg : Cfg K V) (L : KeyLaws cfg) (a : K) : dle cfg a a = true := by
  unfold dle; cases cfg.desc <;> exact L.refl a

theorem dle_trans (cfg : Cfg K V) (L : KeyLaws cfg) (a b c : K) (h1 : dle cfg a b = true)
    (h2 : dle cfg b c = true) : dle cfg a c = true := by
  unfold dle at *
  cases hd : cfg.desc <;> simp only [hd, if_true, Bool.false_eq_true, if_false] at *
  · exact L.trans _ _ _ h1 h2
  · exact L.trans _ _ _ h2 h1

theorem dle_total (cfg : Cfg K V) (T : KeyTotal cfg) (a b : K) : (dle cfg a b || dle cfg b a) = true := by
  unfold dle; cases cfg.desc
  · exact T.total a b
  · exact T.total b a

theorem dle_lt_le (cfg : Cfg K V) (L : KeyLaws cfg) {a b c d : K} (h1 : dle cfg a b = true)
    (h2 : dlt cfg b c = true) (h3 : dle cfg c d = true) : dlt cfg a d = true := by
  rw [dlt_eq] at h2 ⊢
  exact BoolOrder.le_strict_le (dle_trans cfg L) h1 h2 h3

theorem dle_of_dlt (cfg : Cfg K V) {a b : K} (h : dlt cfg a b = true) : dle cfg a b = true :=
  (BoolOrder.strict_iff.mp (dlt_eq cfg a b ▸ h)).1

theorem dle_of_not_dlt (cfg : Cfg K V) (T : KeyTotal cfg) {a b : K} (h : dlt cfg a b = false) :
    dle cfg b a = true :=
  BoolOrder.le_of_not_strict (dle_total cfg T) (dlt_eq cfg a b ▸ h)

theorem dlt_laws (cfg : Cfg K V) (T : KeyTotal cfg) :
    (∀ a, dlt cfg a a = false) ∧
    (∀ a b c, dlt cfg a b = true → dlt cfg b c = true → dlt cfg a c = true) ∧
    (∀ a b c, dlt cfg a b = false → dlt cfg b c = false → dlt cfg a c = false) := by
  refine ⟨fun a => by rw [dlt_eq]; exact BoolOrder.strict_irrefl a,
    fun a b c h1 h2 => dle_lt_le cfg T.toKeyLaws (dle_of_dlt cfg h1) h2 (dle_refl cfg T.toKeyLaws c),
    fun a b c h1 h2 => ?_⟩
  rw [dlt_eq, dle_trans cfg T.toKeyLaws _ _ _ (dle_of_not_dlt cfg T h2) (dle_of_not_dlt cfg T h1)]
  exact Bool.and_false _

theorem within_iff (cfg : Cfg K V) (o : Obj K) (k : K) :
    (cfg.kle o.min k = true ∧ cfg.kle k o.max = true) ↔
      (dle cfg (ends cfg o).1 k = true ∧ dle cfg k (ends cfg o).2 = true) := by
  unfold dle ends; cases cfg.desc
  · exact Iff.rfl
  · exact And.comm

theorem mkObj_ends (cfg : Cfg K V) (id : Nat) (p : List V) (o : Obj K) (f l : V)
    (hf : p.head? = some f) (hl : p.getLast? = some l) (h : mkObj cfg id p = some o) :
    ends cfg o = (cfg.mkey f, cfg.mkey l) := by
  unfold mkObj at h
  rw [hf, hl] at h
  simp only [Option.some.injEq] at h
  subst h
  unfold ends
  cases cfg.desc <;> rfl

theorem kvle_trans (cfg : Cfg K V) (L : KeyLaws cfg) (a b c : V)
    (h1 : kvle cfg a b = true) (h2 : kvle cfg b c = true) : kvle cfg a c = true :=
  dle_trans cfg L _ _ _ h1 h2

theorem isSorted_cons (cfg : Cfg K V) (L : KeyLaws cfg) (a : V) (l : List V)
    (h : isSorted cfg (a :: l) = true) : isSorted cfg l = true ∧ ∀ v ∈ l, kvle cfg a v = true := by
  induction l generalizing a with
  | nil => simp [isSorted]
  | cons b r ih =>
    simp only [isSorted, Bool.and_eq_true] at h
    obtain ⟨hab, hbr⟩ := h
    obtain ⟨_, hall⟩ := ih b hbr
    refine ⟨hbr, ?_⟩
    intro v hv
    simp only [List.mem_cons] at hv
    rcases hv with h | h
    · subst h; exact hab
    · exact kvle_trans cfg L a b v hab (hall v h)

/-- in a key-sorted sequence the first value is a lower and the last an upper bound (pool order) -/
theorem sorted_bounds (cfg : Cfg K V) (L : KeyLaws cfg) (l : List V) (f g : V)
    (hs : isSorted cfg l = true) (hf : l.head? = some f) (hg : l.getLast? = some g) :
    ∀ v ∈ l, kvle cfg f v = true ∧ kvle cfg v g = true := by
  induction l generalizing f with
  | nil => simp at hf
  | cons a r ih =>
    simp only [List.head?_cons, Option.some.injEq] at hf
    subst hf
    obtain ⟨hr, hall⟩ := isSorted_cons cfg L a r hs
    have hrefl : ∀ x, kvle cfg x x = true := fun x => dle_refl cfg L _
    intro v hv
    cases r with
    | nil =>
      simp only [List.mem_singleton] at hv
      simp only [List.getLast?_singleton, Option.some.injEq] at hg
      subst hv; subst hg; exact ⟨hrefl _, hrefl _⟩
    | cons b r' =>
      have hg' : (b :: r').getLast? = some g := by simpa [List.getLast?_cons_cons] using hg
      have ihb := ih b hr rfl hg'
      simp only [List.mem_cons] at hv
      rcases hv with h | h
      · subst h
        exact ⟨hrefl _, kvle_trans cfg L _ b g (hall b (by simp)) (ihb b (by simp)).2⟩
      · have hvm : v ∈ b :: r' := by simpa using h
        exact ⟨hall v hvm, (ihb v hvm).2⟩

/-- the import comparator `vle` (pool key, then value bytes) refines the pool-key order and is
    a total preorder — the laws of `expr.Comparator` the sortedness theorems rest on -/
structure OrderLaws (cfg : Cfg K V) : Prop extends KeyLaws cfg where
  vtrans : ∀ a b c, cfg.vle a b = true → cfg.vle b c = true → cfg.vle a c = true
  vtotal : ∀ a b, (cfg.vle a b || cfg.vle b a) = true
  refine1 : ∀ a b, cfg.vle a b = true → kvle cfg a b = true
  refine2 : ∀ a b, cfg.vle a b = false → kvle cfg b a = true

/-- key-sorted, as a pairwise relation -/
def SortedK (cfg : Cfg K V) (l : List V) : Prop := l.Pairwise (fun a b => kvle cfg a b = true)

theorem sortedK_mergeK (cfg : Cfg K V) (L : OrderLaws cfg) (ls : List (List V))
    (h : ∀ l ∈ ls, SortedK cfg l) : SortedK cfg (mergeK cfg ls) :=
  (foldr_merge_spec cfg.vle ls).2 (kvle_trans cfg L.toKeyLaws) L.refine1 L.refine2 h

/-- `SortStable` by the import comparator leaves the buffer in pool-key order -/
theorem sortedK_sortVals (cfg : Cfg K V) (L : OrderLaws cfg) (l : List V) : SortedK cfg (sortVals cfg l) := by
  unfold SortedK sortVals
  have := List.pairwise_mergeSort (le := cfg.vle) (fun a b c => L.vtrans a b c) (fun a b => L.vtotal a b) l
  exact this.imp (fun {a b} hab => L.refine1 a b hab)

theorem isSorted_of_sortedK (cfg : Cfg K V) (l : List V) (h : SortedK cfg l) : isSorted cfg l = true := by
  induction l with
  | nil => rfl
  | cons a r ih =>
    cases r with
    | nil => rfl
    | cons b r' =>
      simp only [isSorted, Bool.and_eq_true]
      unfold SortedK at h
      exact ⟨List.rel_of_pairwise_cons h (by simp), ih h.tail⟩

theorem isSorted_iff (cfg : Cfg K V) (L : KeyLaws cfg) (l : List V) : isSorted cfg l = true ↔ SortedK cfg l := by
  refine ⟨fun h => ?_, isSorted_of_sortedK cfg l⟩
  induction l with
  | nil => exact List.Pairwise.nil
  | cons a r ih =>
    obtain ⟨h1, h2⟩ := isSorted_cons cfg L a r h
    exact List.pairwise_cons.mpr ⟨h2, ih h1⟩

/-- every key of `o` is strictly before every key of `o'` in pool order (given that keys lie in
    the objects' ranges) -/
def before (cfg : Cfg K V) (o o' : Obj K) : Prop :=
  if cfg.desc then klt cfg o'.max o.min = true else klt cfg o.max o'.min = true

/-- the lister's order: by range start (min ascending / max descending) -/
def fromLe (cfg : Cfg K V) (x y : Obj K) : Prop :=
  if cfg.desc then cfg.kle y.max x.max = true else cfg.kle x.min y.min = true

def Sep (cfg : Cfg K V) (P Q : List (Obj K)) : Prop := ∀ o ∈ P, ∀ o' ∈ Q, before cfg o o'

theorem before_iff (cfg : Cfg K V) (o o' : Obj K) :
    before cfg o o' ↔ dlt cfg (ends cfg o).2 (ends cfg o').1 = true := by
  unfold before dlt ends; cases cfg.desc <;> exact Iff.rfl

theorem fromLe_iff (cfg : Cfg K V) (x y : Obj K) :
    fromLe cfg x y ↔ dle cfg (ends cfg x).1 (ends cfg y).1 = true := by
  unfold fromLe dle ends; cases cfg.desc <;> exact Iff.rfl

structure SlInv (cfg : Cfg K V) (st : SlicerSt K) (rest : List (Obj K)) : Prop where
  empty : st.group = [] → st.smin = none ∧ st.smax = none
  /-- the bounds are attained: that is what rules out the flush test that cannot fire (`mx < o.min`
      when descending, `o.max < mn` when ascending) for a list ordered by range start -/
  bounds : st.group ≠ [] → ∃ mn mx, st.smin = some mn ∧ st.smax = some mx ∧
    (∀ g ∈ st.group, cfg.kle mn g.min = true ∧ cfg.kle g.max mx = true) ∧
    (∃ g ∈ st.group, mn = g.min) ∧ (∃ g ∈ st.group, mx = g.max)
  outSep : st.out.Pairwise (Sep cfg)
  outLater : ∀ P ∈ st.out, Sep cfg P (st.group ++ rest)
  sorted : (st.group ++ rest).Pairwise (fromLe cfg)
  wf : ∀ o ∈ st.group ++ rest, cfg.kle o.min o.max = true

/-- for objects in lister order only one of the two flush tests can fire: the hull of the group begins where one
    of its members begins, `o` begins no earlier and ends after it begins, so `o` cannot end before the hull begins -/
theorem cut_before (cfg : Cfg K V) (L : KeyLaws cfg) {g gmn gmx o x : Obj K}
    (hg : cfg.kle gmn.min g.min = true ∧ cfg.kle g.max gmx.max = true)
    (hmn : fromLe cfg gmn o) (hmx : fromLe cfg gmx o) (hwf : cfg.kle o.min o.max = true) (hx : fromLe cfg o x)
    (hflush : (klt cfg o.max gmn.min || klt cfg gmx.max o.min) = true) : before cfg g x := by
  unfold before fromLe at *
  rw [Bool.or_eq_true] at hflush
  cases hd : cfg.desc <;> simp only [hd, if_true, Bool.false_eq_true, if_false] at *
  · exact BoolOrder.le_strict_le L.trans hg.2
      (hflush.resolve_left fun h => BoolOrder.strict_not_le h (L.trans _ _ _ hmn hwf)) hx
  · exact BoolOrder.le_strict_le L.trans hx
      (hflush.resolve_right fun h => BoolOrder.strict_not_le h (L.trans _ _ _ hwf hmx)) hg.1

theorem step_start (cfg : Cfg K V) (o : Obj K) (out : List (List (Obj K))) :
    slicerStep cfg ⟨[], none, none, out⟩ o = ⟨[o], some o.min, some o.max, out⟩ := rfl

theorem step_cut (cfg : Cfg K V) {g : List (Obj K)} (hg : g ≠ []) {lo hi : K} {o : Obj K}
    (out : List (List (Obj K))) (h : (klt cfg o.max lo || klt cfg hi o.min) = true) :
    slicerStep cfg ⟨g, some lo, some hi, out⟩ o = ⟨[o], some o.min, some o.max, out ++ [g]⟩ := by
  obtain ⟨c, cs, rfl⟩ := List.exists_cons_of_ne_nil hg
  simp only [slicerStep, h, ↓reduceIte, List.nil_append]

theorem step_extend (cfg : Cfg K V) {g : List (Obj K)} (hg : g ≠ []) {lo hi : K} {o : Obj K}
    (out : List (List (Obj K))) (h : (klt cfg o.max lo || klt cfg hi o.min) = false) :
    slicerStep cfg ⟨g, some lo, some hi, out⟩ o =
      ⟨g ++ [o], some (if klt cfg o.min lo then o.min else lo), some (if klt cfg hi o.max then o.max else hi), out⟩ := by
  obtain ⟨c, cs, rfl⟩ := List.exists_cons_of_ne_nil hg
  simp only [slicerStep, h, Bool.false_eq_true, ↓reduceIte]

theorem slicerStep_inv (cfg : Cfg K V) (L : KeyTotal cfg) (st : SlicerSt K) (o : Obj K) (rest : List (Obj K))
    (inv : SlInv cfg st (o :: rest)) : SlInv cfg (slicerStep cfg st o) rest := by
  have hwfo : cfg.kle o.min o.max = true := inv.wf o (by simp)
  have hsorted_o : ∀ x ∈ rest, fromLe cfg o x := by
    intro x hx
    have := List.pairwise_append.mp inv.sorted
    exact List.rel_of_pairwise_cons this.2.1 hx
  have hgo : ∀ g ∈ st.group, fromLe cfg g o := by
    intro g hg
    exact (List.pairwise_append.mp inv.sorted).2.2 g hg o (by simp)
  have hone : ∃ mn mx, some o.min = some mn ∧ some o.max = some mx ∧
      (∀ g ∈ [o], cfg.kle mn g.min = true ∧ cfg.kle g.max mx = true) ∧ (∃ g ∈ [o], mn = g.min) ∧ ∃ g ∈ [o], mx = g.max :=
    ⟨o.min, o.max, rfl, rfl, by intro g hg; rw [List.mem_singleton.mp hg]; exact ⟨L.refl _, L.refl _⟩,
      ⟨o, by simp, rfl⟩, ⟨o, by simp, rfl⟩⟩
  cases hgr : st.group with
  | nil =>
    -- empty group: o starts one
    obtain ⟨h1, h2⟩ := inv.empty hgr
    have hstep : slicerStep cfg st o = { group := [o], smin := some o.min, smax := some o.max, out := st.out } := by
      obtain ⟨g, a, b, out⟩ := st
      cases hgr; cases h1; cases h2
      exact step_start cfg o out
    rw [hstep]
    have e : st.group ++ o :: rest = [o] ++ rest := by rw [hgr]; rfl
    exact {
      empty := by intro h; cases h
      bounds := fun _ => hone
      outSep := inv.outSep
      outLater := e ▸ inv.outLater
      sorted := e ▸ inv.sorted
      wf := e ▸ inv.wf }
  | cons g0 gs =>
    have hne : st.group ≠ [] := by rw [hgr]; simp
    obtain ⟨mn, mx, hmn, hmx, hb, ⟨gmn, hgmn, hmneq⟩, ⟨gmx, hgmx, hmxeq⟩⟩ := inv.bounds hne
    by_cases hflush : (klt cfg o.max mn || klt cfg mx o.min) = true
    · -- flush: the group becomes a partition, o starts a new group
      have hstep : slicerStep cfg st o =
          { group := [o], smin := some o.min, smax := some o.max, out := st.out ++ [st.group] } := by
        obtain ⟨g, a, b, out⟩ := st
        cases hmn; cases hmx
        exact step_cut cfg hne out hflush
      rw [hstep]
      -- the old group is separated from o and everything after it
      have hsepLater : Sep cfg st.group (o :: rest) := by
        intro g hg x hx
        have hox : fromLe cfg o x := by
          rcases List.mem_cons.mp hx with rfl | hx
          · exact (fromLe_iff cfg _ _).mpr (dle_refl cfg L.toKeyLaws _)
          · exact hsorted_o x hx
        subst hmneq hmxeq
        exact cut_before cfg L.toKeyLaws (hb g hg) (hgo gmn hgmn) (hgo gmx hgmx) hwfo hox hflush
      exact {
        empty := by intro h; cases h
        bounds := fun _ => hone
        outSep := by
          rw [List.pairwise_append]
          refine ⟨inv.outSep, List.pairwise_singleton _ _, fun P hP Q hQ a ha b hb' => ?_⟩
          rw [List.mem_singleton.mp hQ] at hb'
          exact inv.outLater P hP a ha b (List.mem_append_left _ hb')
        outLater := by
          intro P hP
          rcases List.mem_append.mp hP with hP | hP
          · exact fun a ha b hb' => inv.outLater P hP a ha b (List.mem_append_right _ hb')
          · rw [List.mem_singleton.mp hP]
            exact hsepLater
        sorted := (List.pairwise_append.mp inv.sorted).2.1
        wf := fun x hx => inv.wf x (List.mem_append_right _ hx) }
    · -- no flush: o joins the group
      have hflush' : (klt cfg o.max mn || klt cfg mx o.min) = false := by simpa using hflush
      have hstep : slicerStep cfg st o =
          { group := st.group ++ [o],
            smin := some (if klt cfg o.min mn then o.min else mn),
            smax := some (if klt cfg mx o.max then o.max else mx), out := st.out } := by
        obtain ⟨g, a, b, out⟩ := st
        cases hmn; cases hmx
        exact step_extend cfg hne out hflush'
      rw [hstep]
      have e : st.group ++ o :: rest = (st.group ++ [o]) ++ rest := by
        rw [List.append_assoc]; rfl
      exact {
        empty := by intro h; simp at h
        bounds := by
          intro _
          refine ⟨_, _, rfl, rfl, ?_, ?_, ?_⟩
          · intro g hg
            simp only [List.mem_append, List.mem_singleton] at hg
            constructor
            · split
              · rename_i hlt
                have hlt' : cfg.kle o.min mn = true := (BoolOrder.strict_iff.mp hlt).1
                rcases hg with hg | hg
                · exact L.trans _ _ _ hlt' (hb g hg).1
                · subst hg; exact L.refl _
              · rename_i hnlt
                rcases hg with hg | hg
                · exact (hb g hg).1
                · subst hg; exact BoolOrder.le_of_not_strict L.total (Bool.eq_false_iff.mpr hnlt)
            · split
              · rename_i hlt
                have hlt' : cfg.kle mx o.max = true := (BoolOrder.strict_iff.mp hlt).1
                rcases hg with hg | hg
                · exact L.trans _ _ _ (hb g hg).2 hlt'
                · subst hg; exact L.refl _
              · rename_i hnlt
                rcases hg with hg | hg
                · exact (hb g hg).2
                · subst hg; exact BoolOrder.le_of_not_strict L.total (Bool.eq_false_iff.mpr hnlt)
          · by_cases hlt : klt cfg o.min mn = true
            · exact ⟨o, by simp, by simp only [hlt, if_true]⟩
            · exact ⟨gmn, by simp [hgmn], by simp only [hlt]; exact hmneq⟩
          · by_cases hlt : klt cfg mx o.max = true
            · exact ⟨o, by simp, by simp only [hlt, if_true]⟩
            · exact ⟨gmx, by simp [hgmx], by simp only [hlt]; exact hmxeq⟩
        outSep := inv.outSep
        outLater := e ▸ inv.outLater
        sorted := e ▸ inv.sorted
        wf := e ▸ inv.wf }

theorem slicer_fold_inv (cfg : Cfg K V) (L : KeyTotal cfg) (os : List (Obj K)) (st : SlicerSt K)
    (inv : SlInv cfg st os) : SlInv cfg (os.foldl (slicerStep cfg) st) [] := by
  induction os generalizing st with
  | nil => exact inv
  | cons o os ih => simp only [List.foldl_cons]; exact ih _ (slicerStep_inv cfg L st o os inv)

/-- **the slicer separates**: for objects listed by range start, each with `min ≤ max`, the
    partitions are pairwise separated in pool order -/
theorem slicer_separated (cfg : Cfg K V) (L : KeyTotal cfg) (os : List (Obj K))
    (hs : os.Pairwise (fromLe cfg)) (hwf : ∀ o ∈ os, cfg.kle o.min o.max = true) :
    (slicer cfg os).Pairwise (Sep cfg) := by
  have inv0 : SlInv cfg ({} : SlicerSt K) os :=
    { empty := fun _ => ⟨rfl, rfl⟩, bounds := fun h => absurd rfl h, outSep := by simp,
      outLater := (by intro P hP; cases hP), sorted := (by simpa using hs), wf := (by simpa using hwf) }
  have inv := slicer_fold_inv cfg L os {} inv0
  unfold slicer
  simp only []
  split
  · exact inv.outSep
  · rw [List.pairwise_append]
    refine ⟨inv.outSep, by simp, ?_⟩
    intro P hP Q hQ
    simp only [List.mem_singleton] at hQ
    subst hQ
    have := inv.outLater P hP
    simpa using this

/-- an object whose file holds key-sorted values with keys inside `[min, max]` (`object_meta_correct`; the
    writers give `isSorted`, which is `SortedK` by `isSorted_iff`) -/
def ObjFine (cfg : Cfg K V) (files : List (Nat × List V)) (o : Obj K) : Prop :=
  SortedK cfg (pay files o) ∧ ∀ v ∈ pay files o, cfg.kle o.min (cfg.key v) = true ∧ cfg.kle (cfg.key v) o.max = true

theorem before_kvle (cfg : Cfg K V) (L : KeyLaws cfg) (files : List (Nat × List V)) (o o' : Obj K)
    (hb : before cfg o o') (ho : ObjFine cfg files o) (ho' : ObjFine cfg files o')
    (x y : V) (hx : x ∈ pay files o) (hy : y ∈ pay files o') : kvle cfg x y = true :=
  dle_of_dlt cfg (dle_lt_le cfg L ((within_iff cfg o _).mp (ho.2 x hx)).2 ((before_iff cfg o o').mp hb)
    ((within_iff cfg o' _).mp (ho'.2 y hy)).1)

theorem scanParts_sorted (cfg : Cfg K V) (L : OrderLaws cfg) (files : List (Nat × List V))
    (parts : List (List (Obj K))) (r : List V) (h : scanParts cfg files parts = .ok r)
    (hsep : parts.Pairwise (Sep cfg)) (hobj : ∀ P ∈ parts, ∀ o ∈ P, ObjFine cfg files o) :
    SortedK cfg r := by
  obtain ⟨_, rfl⟩ := (scanParts_iff cfg files parts r).mp h
  have hmem : ∀ (P : List (Obj K)) (x : V), x ∈ mergeK cfg (P.map (pay files)) → ∃ o ∈ P, x ∈ pay files o :=
    fun P x hx => by
      obtain ⟨l, hl, hxl⟩ := List.mem_flatten.mp ((mergeK_perm cfg _).mem_iff.mp hx)
      obtain ⟨o, ho, rfl⟩ := List.mem_map.mp hl
      exact ⟨o, ho, hxl⟩
  -- sorted inside a partition (the merge), and every partition before the later ones (they are separated)
  refine List.pairwise_flatMap.mpr ⟨fun P hP => sortedK_mergeK cfg L _ fun l hl => ?_, hsep.imp_of_mem ?_⟩
  · obtain ⟨o, ho, rfl⟩ := List.mem_map.mp hl
    exact (hobj P hP o ho).1
  · intro P Q hP hQ hPQ x hx y hy
    obtain ⟨o, ho, hxo⟩ := hmem P x hx
    obtain ⟨o', ho', hyo'⟩ := hmem Q y hy
    exact before_kvle cfg L.toKeyLaws files o o' (hPQ o ho o' ho') (hobj P hP o ho) (hobj Q hQ o' ho') x y hxo hyo'

/-- **scan_sorted**: the unfiltered scan of a set of objects is in pool-key order (ascending or
    descending, null / missing keys largest), whatever the number of objects, their overlaps and
    the partitioning — provided the lister hands the objects over ordered by range start (what
    `sort.SliceStable` with `lessFunc` is for; checked on the real `:objects` order by the
    harness), and every object holds key-sorted values within its `[min, max]`. -/
theorem scanObjs_sorted (cfg : Cfg K V) (L : OrderLaws cfg) (T : KeyTotal cfg) (files : List (Nat × List V))
    (objs : List (Obj K)) (r : List V) (h : scanObjs cfg files objs = .ok r)
    (hl : (lister cfg objs).Pairwise (fromLe cfg))
    (hwf : ∀ o ∈ objs, cfg.kle o.min o.max = true) (hobj : ∀ o ∈ objs, ObjFine cfg files o) :
    SortedK cfg r := by
  unfold scanObjs at h
  have hperm := lister_perm cfg objs
  apply scanParts_sorted cfg L files _ r h
  · exact slicer_separated cfg T _ hl (fun o ho => hwf o (hperm.mem_iff.mp ho))
  · intro P hP o ho
    have : o ∈ (slicer cfg (lister cfg objs)).flatten := List.mem_flatten.mpr ⟨P, hP, ho⟩
    rw [slicer_flatten] at this
    exact hobj o (hperm.mem_iff.mp this)

/-- byte equality of keys coincides with equivalence in the key order (true for the int64 /
    string / null keys of the harness; not for numerically equal keys of different types) -/
def KeqLaw (cfg : Cfg K V) : Prop := ∀ a b, cfg.keq a b = (cfg.kle a b && cfg.kle b a)

/-- `lessFunc` is the lexicographic order on (range start, range end) -/
theorem listerLess_lex (cfg : Cfg K V) (T : KeyTotal cfg) (hq : KeqLaw cfg) (a b : Obj K) :
    listerLess cfg a b = lex (dlt cfg) (ends cfg a) (ends cfg b) := by
  have keqv : ∀ x y, cfg.keq x y = neither (dlt cfg) x y := by
    intro x y
    rw [hq]
    unfold neither dlt klt
    have := T.total x y
    revert this
    generalize cfg.desc = d
    generalize cfg.kle x y = a
    generalize cfg.kle y x = b
    revert d a b
    decide
  have hform : listerLess cfg a b =
      (if dlt cfg (ends cfg a).1 (ends cfg b).1 then true
       else if !cfg.keq (ends cfg a).1 (ends cfg b).1 then false
       else if cfg.keq (ends cfg a).2 (ends cfg b).2 then false
       else dlt cfg (ends cfg a).2 (ends cfg b).2) := by
    unfold listerLess ends dlt
    cases cfg.desc <;> simp
  rw [hform, keqv, keqv]
  unfold lex
  -- equivalent range ends are not strictly ordered: the third test of `lessFunc` decides nothing
  have hfact : neither (dlt cfg) (ends cfg a).2 (ends cfg b).2 = true → dlt cfg (ends cfg a).2 (ends cfg b).2 = false := by
    intro h
    unfold neither at h
    simp only [Bool.and_eq_true, Bool.not_eq_true'] at h
    exact h.1
  revert hfact
  generalize dlt cfg (ends cfg a).1 (ends cfg b).1 = L1
  generalize neither (dlt cfg) (ends cfg a).1 (ends cfg b).1 = E1
  generalize neither (dlt cfg) (ends cfg a).2 (ends cfg b).2 = E2
  generalize dlt cfg (ends cfg a).2 (ends cfg b).2 = L2
  revert L1 E1 E2 L2
  decide

theorem fromLe_of_not_dlt (cfg : Cfg K V) (T : KeyTotal cfg) (x y : Obj K)
    (h : dlt cfg (ends cfg y).1 (ends cfg x).1 = false) : fromLe cfg x y :=
  (fromLe_iff cfg x y).mpr (dle_of_not_dlt cfg T h)

/-- **the lister hands the objects over ordered by range start** -/
theorem lister_fromSorted (cfg : Cfg K V) (T : KeyTotal cfg) (hq : KeqLaw cfg) (objs : List (Obj K)) :
    (lister cfg objs).Pairwise (fromLe cfg) := by
  obtain ⟨irr, tr, nt⟩ := dlt_laws cfg T
  -- `sortObjects` is a stable sort by the lexicographic order on (range start, range end)
  have hlist : lister cfg objs = objs.mergeSort (fun a b => !lex (dlt cfg) (ends cfg b) (ends cfg a)) := by
    unfold lister
    congr
    funext a b
    rw [listerLess_lex cfg T hq]
  rw [hlist]
  refine (List.pairwise_mergeSort (le := fun a b => !lex (dlt cfg) (ends cfg b) (ends cfg a)) ?_ ?_ objs).imp ?_
  · intro a b c h1 h2
    simp only [Bool.not_eq_true'] at h1 h2 ⊢
    exact lex_negtrans (dlt cfg) nt _ _ _ h2 h1
  · intro a b
    cases h : lex (dlt cfg) (ends cfg b) (ends cfg a) with
    | false => rfl
    | true => rw [lex_asymm (dlt cfg) irr tr _ _ h]; rfl
  · intro x y hxy
    have hxy' : lex (dlt cfg) (ends cfg y) (ends cfg x) = false := by simpa using hxy
    unfold lex at hxy'
    simp only [Bool.or_eq_false_iff] at hxy'
    exact fromLe_of_not_dlt cfg T x y hxy'.1

/-! ### the seek index of one object (C14 `seek_entries_cover`) -/

/-- offsets and counts of consecutive entries chain up from `off` -/
def OffsetsOk : Nat → List (SeekEntry K × List V) → Prop
  | _, [] => True
  | off, (e, seg) :: r => e.valOff = off ∧ e.valCnt = seg.length ∧ seg ≠ [] ∧ OffsetsOk (off + seg.length) r

/-- an entry records the keys of the first and the last value it covers -/
def SegOk (cfg : Cfg K V) (p : SeekEntry K × List V) : Prop :=
  ∃ f l, p.2.head? = some f ∧ p.2.getLast? = some l ∧
    p.1.min = (if cfg.desc then cfg.mkey l else cfg.mkey f) ∧
    p.1.max = (if cfg.desc then cfg.mkey f else cfg.mkey l)

theorem mkEntry_segOk (cfg : Cfg K V) (seg : List V) (f l : V) (off : Nat)
    (hf : seg.head? = some f) (hl : seg.getLast? = some l) :
    SegOk cfg (mkEntry cfg (cfg.mkey f) (cfg.mkey l) off seg.length, seg) := by
  refine ⟨f, l, hf, hl, ?_, ?_⟩ <;> (unfold mkEntry; cases cfg.desc <;> simp)

theorem mkEntry_off (cfg : Cfg K V) (f l : K) (off cnt : Nat) :
    (mkEntry cfg f l off cnt).valOff = off ∧ (mkEntry cfg f l off cnt).valCnt = cnt := by
  unfold mkEntry; split <;> exact ⟨rfl, rfl⟩

theorem seekGo_spec (cfg : Cfg K V) (stride : Nat) (kbytes : V → Nat) (vs : List V) (trig : Nat)
    (cur : List V) (off : Nat) :
    ((seekGo cfg stride kbytes vs trig cur off).flatMap (·.2) = cur ++ vs) ∧
    OffsetsOk off (seekGo cfg stride kbytes vs trig cur off) ∧
    ∀ p ∈ seekGo cfg stride kbytes vs trig cur off, SegOk cfg p := by
  induction vs generalizing trig cur off with
  | nil =>
    unfold seekGo
    cases cur with
    | nil => exact ⟨rfl, trivial, fun p hp => by cases hp⟩
    | cons a as =>
      have h2 : (a :: as).getLast? = some ((a :: as).getLast (by simp)) := List.getLast?_eq_some_getLast (by simp)
      simp only [List.head?_cons, h2]
      refine ⟨by simp, ⟨(mkEntry_off ..).1, (mkEntry_off ..).2, by simp, trivial⟩, fun p hp => ?_⟩
      rw [List.mem_singleton.mp hp]
      exact mkEntry_segOk cfg (a :: as) a _ off rfl h2
  | cons v vs ih =>
    unfold seekGo
    by_cases hlt : trig + kbytes v < stride
    · simp only [if_pos hlt]
      obtain ⟨h1, h2, h3⟩ := ih (trig + kbytes v) (cur ++ [v]) off
      exact ⟨by rw [h1, List.append_assoc]; rfl, h2, h3⟩
    · simp only [if_neg hlt]
      obtain ⟨h1, h2, h3⟩ := ih 0 [] (off + (cur ++ [v]).length)
      cases hh : (cur ++ [v]).head? with
      | none => simp at hh
      | some f =>
        simp only []
        refine ⟨by rw [List.flatMap_cons, h1, List.nil_append, List.append_assoc]; rfl,
          ⟨(mkEntry_off ..).1, (mkEntry_off ..).2, by simp, h2⟩, fun p hp => ?_⟩
        rcases List.mem_cons.mp hp with hp | hp
        · rw [hp]; exact mkEntry_segOk cfg (cur ++ [v]) f v off hh (by simp)
        · exact h3 p hp

theorem flatMap_sorted_pieces (cfg : Cfg K V) (L : KeyLaws cfg) (segs : List (SeekEntry K × List V))
    (h : isSorted cfg (segs.flatMap (·.2)) = true) : ∀ p ∈ segs, isSorted cfg p.2 = true := by
  intro p hp
  rw [isSorted_iff cfg L] at h ⊢
  exact List.Pairwise.sublist (List.sublist_flatten_of_mem (List.mem_map_of_mem hp)) (List.flatMap_def ▸ h)

end Zed.Lake

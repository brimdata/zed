/-
  Sort lifted into the scatter legs (C08): when the optimizer pushes a `sort` into every leg of a
  scatter and fans in with `merge` under the same comparator, the merged output is sorted and is a
  permutation of the legs' contents — for every tie-breaking of the merge.  The comparator of the
  legs' sort has to be the comparator of the merge: a counterexample is given otherwise.
-/
import Zed.Model.ParScatter
import Zed.Proofs.ParScatter
namespace Zed.Proofs.ParSortLift
open Zed.Par Zed.Agg
variable {ρ : Type}

/-- a merge neither adds, drops nor duplicates: its output is a permutation of the legs' contents -/
theorem kmerge_perm (le : ρ → ρ → Bool) {legs : List (List ρ)} {out : List ρ}
    (h : KMerge le legs out) : out.Perm legs.flatten :=
  Zed.MergeRun.perm le (Zed.Proofs.ParScatter.KMerge.mergeRun h)

/-- sort lifted into the legs: if every leg is sorted under the MERGE's comparator (of whose laws
    reflexivity and transitivity are used), every merge of the legs — any tie-breaking — is sorted -/
theorem kmerge_sorted (le : ρ → ρ → Bool) (hle : TotalPreorder le) {legs : List (List ρ)} {out : List ρ}
    (hs : ∀ l ∈ legs, l.Pairwise (fun x y => le x y = true))
    (h : KMerge le legs out) : out.Pairwise (fun x y => le x y = true) :=
  (Zed.merge_sorted le hle.trans hle.refl legs out (Zed.Proofs.ParScatter.KMerge.mergeRun h) hs).1

/-- the hypothesis is needed: a leg sorted under ANOTHER comparator yields an unsorted merge.
    Instance: legs [[2, 1], [3]] (the first leg is sorted descending); every merge must emit the
    minimal head at each step: 2 (heads 2, 3), then 1 (heads 1, 3), then 3. -/
theorem not_kmerge_sorted_foreign_order :
    ∃ (legs : List (List Int)) (out : List Int),
      KMerge (fun a b => decide (a ≤ b)) legs out ∧ ¬ out.Pairwise (fun x y => decide (x ≤ y) = true) := by
  refine ⟨[[2, 1], [3]], [2, 1, 3], ?_, by decide⟩
  refine KMerge.step (i := 0) (t := [1]) rfl (by decide) ?_
  refine KMerge.step (i := 0) (t := []) rfl (by decide) ?_
  refine KMerge.step (i := 1) (t := []) rfl (by decide) ?_
  exact KMerge.done (by decide)

private def exLe : Int → Int → Bool := fun a b => decide (a ≤ b)
private def exLegs : List (List Int) := [[1, 3, 3, 7], [2, 3, 5], [], [3, 7, 7]]

private theorem exLegs_sorted : ∀ l ∈ exLegs, l.Pairwise (fun x y => exLe x y = true) := by decide

example : ∀ l ∈ exLegs, l.Pairwise (fun x y => exLe x y = true) := exLegs_sorted

example : kmergeFn exLe 10 exLegs = [1, 2, 3, 3, 3, 3, 5, 7, 7, 7] := by decide +kernel

/-- all hypotheses of `kmerge_sorted` / `kmerge_perm` hold on the instance -/
example : (kmergeFn exLe 10 exLegs).Pairwise (fun x y => exLe x y = true) ∧
    (kmergeFn exLe 10 exLegs).Perm exLegs.flatten :=
  have hm := Zed.Proofs.ParScatter.kmergeFn_isKMerge exLe intLe_totalPreorder 10 exLegs (by decide)
  ⟨kmerge_sorted exLe intLe_totalPreorder exLegs_sorted hm, kmerge_perm exLe hm⟩

/-- another legal merge of the same legs, with the ties broken differently (last leg first) -/
example : KMerge exLe [[1, 3], [3]] [1, 3, 3] ∧
    [1, 3, 3].Pairwise (fun x y => exLe x y = true) := by
  have hm : KMerge exLe [[1, 3], [3]] [1, 3, 3] := by
    refine KMerge.step (i := 0) (t := [3]) rfl (by decide) ?_
    refine KMerge.step (i := 1) (t := []) rfl (by decide) ?_
    refine KMerge.step (i := 0) (t := []) rfl (by decide) ?_
    exact KMerge.done (by decide)
  exact ⟨hm, kmerge_sorted exLe intLe_totalPreorder (by decide) hm⟩

end Zed.Proofs.ParSortLift

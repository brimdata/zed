import Zed.Model.ZsonAnalyze
/-!
  C02 — the two regenerated primitive tables list the same (id, name) pairs, and neither an id nor
  a name occurs twice: a lookup by id or by name finds the entry asked for.  And `normalizeElems` on a union.
-/
namespace Zed.Zson
open Generated

theorem find?_key_of_nodup {α κ} [BEq κ] [LawfulBEq κ] (k : α → κ) : (l : List α) → (l.map k).Nodup →
    ∀ p ∈ l, l.find? (fun q => k q == k p) = some p
  | a :: r, hn, p, hp => by
    rw [List.map_cons, List.nodup_cons] at hn
    rcases List.mem_cons.mp hp with rfl | hr
    · exact List.find?_cons_of_pos (h := beq_self_eq_true _)
    · have hne : (k a == k p) = false :=
        beq_eq_false_iff_ne.mpr fun e => hn.1 (e ▸ List.mem_map_of_mem hr)
      rw [List.find?_cons_of_neg (h := by simp [hne])]
      exact find?_key_of_nodup k r hn.2 p hr

theorem mapM_ok {α β} (f : α → Except Err β) (g : α → β) : (l : List α) → (∀ x ∈ l, f x = .ok (g x)) →
    l.mapM f = .ok (l.map g)
  | [], _ => rfl
  | x :: r, h => by
    simp [List.mapM_cons, h x (by simp), mapM_ok f g r (fun y hy => h y (by simp [hy])), bind, Except.bind, pure, Except.pure]

theorem indexOf_of_mem : (ts : Tys) → (m : Ty) → m ∈ ts.toList → ∃ k, ts.indexOf m = some k
  | .nil, m, h => by simp [Tys.toList] at h
  | .cons t r, m, h => by
    unfold Tys.indexOf
    by_cases ht : t = m
    · exact ⟨0, by simp [ht]⟩
    · have hm : m ∈ r.toList := by
        rcases List.mem_cons.mp (by simpa [Tys.toList] using h) with h1 | h1
        · exact absurd h1.symm ht
        · exact h1
      obtain ⟨k, hk⟩ := indexOf_of_mem r m hm
      exact ⟨k + 1, by simp [ht, hk]⟩

/-- `normalizeElems`' third branch, on nulls and members of the union built. -/
theorem mapM_convertUnion (M : Tys) (tvs : List TV)
    (h : ∀ tv ∈ tvs, tv.1 = tyNull ∨ ∃ k, M.indexOf tv.1 = some k) :
    tvs.mapM (fun tv => (convertUnion tv M (.union M)).map (·.2)) =
      .ok (tvs.map fun tv => if tv.1 = tyNull then Val.null else .union ((M.indexOf tv.1).getD 0) tv.2) := by
  apply mapM_ok
  intro tv htv
  by_cases hn : tv.1 = tyNull
  · simp [convertUnion, hn, Except.map]
  · obtain ⟨k, hk⟩ := (h tv htv).resolve_left hn
    simp [convertUnion, hn, hk, Except.map]

/-- two or more element types; the model's `.error .notInUnion` arm is dead: `lookupUnion` returns a union. -/
theorem normalizeElems_many (tvs : List TV) {a b : Ty} {rest : List Ty}
    (h : uniqueTypes (tvs.map (·.1)) = a :: b :: rest) {M : Tys} (hM : lookupUnion (a :: b :: rest) = .union M) :
    normalizeElems tvs =
      (tvs.mapM fun tv => (convertUnion tv M (.union M)).map (·.2)).map fun vs => (vs, .union M) := by
  unfold normalizeElems
  rw [h]
  simp only [hM]
  cases tvs.mapM fun tv => (convertUnion tv M (.union M)).map (·.2) <;> rfl

theorem primTables_flip : C02.lookupPrimitive = C02.primitiveName.map (fun p => (p.2, p.1)) := rfl

theorem primIds_nodup : (C02.primitiveName.map (·.1)).Nodup := by decide +kernel

theorem primNames_nodup : (C02.primitiveName.map (fun p => ascii p.2)).Nodup := by decide +kernel

theorem lookupPrimitive_ascii {p : Nat × String} (hp : p ∈ C02.primitiveName) :
    lookupPrimitive (ascii p.2) = some p.1 := by
  unfold lookupPrimitive
  rw [primTables_flip, List.find?_map]
  exact congrArg (fun o => (o.map fun q => (q.2, q.1)).map (·.2))
    (find?_key_of_nodup (fun q : Nat × String => ascii q.2) _ primNames_nodup p hp)

theorem primName_of_mem {p : Nat × String} (hp : p ∈ C02.primitiveName) : primName p.1 = ascii p.2 := by
  unfold primName
  rw [find?_key_of_nodup (fun q : Nat × String => q.1) _ primIds_nodup p hp]

theorem lookup_null : lookupPrimitive (ascii "null") = some C02.idNull :=
  lookupPrimitive_ascii (p := (C02.idNull, "null")) (by decide)

theorem convertValue_prim_none (st : AState) (cls : Name) (text : Bytes) (id : Nat)
    (h : lookupPrimitive cls = some id) :
    convertValue st (.implied (.prim cls text)) none =
      .ok (st, (.prim id, if id = C02.idNull then .null else .prim text)) := by
  simp only [convertValue, viaUnion, convertAny, h]

end Zed.Zson

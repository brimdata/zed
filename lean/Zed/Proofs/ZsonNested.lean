import Zed.Proofs.ZsonStream
/-!
  C02 — named types *inside* values: records, arrays and sets whose fields / elements are of
  named types over plain types; first occurrences extend the formatter's typedefs and the
  analyzer's name table alike, later occurrences are written by bare name; carried over a whole
  value and over a stream.
-/
namespace Zed.Zson
open Generated

/-- the coupling invariant against a binding table `b` (one name, one type):
    `CoupledQ fun n t => assoc n b = some t`, written out. -/
def CoupledB (b : List (Name × Ty)) (fst : FState) (a : AState) : Prop :=
  ∀ n t, Bound fst n t → assoc n b = some t ∧ alookup n a.names = some t

/-- the whole-value form and the nested form of writing a value of a named type coincide. -/
theorem fmtTop_named_eq (fst : FState) (n : Name) (u : Ty) (v' : Val) (e : Bool)
    (hu : (e && u.under.isUnion) = false) :
    fmtTop fst (.named n u) (.named v') =
      ((fmtValue fst (.named n u) (.named v') false false true e).1,
        mkVal (fmtValue fst (.named n u) (.named v') false false true e).2.1
          (fmtValue fst (.named n u) (.named v') false false true e).2.2) := by
  have he : fmtValue fst (.named n u) (.named v') false false true e =
      fmtValue fst (.named n u) (.named v') false false true false := by
    cases e
    · rfl
    · exact fmtValue_elem_underNotUnion _ _ _ _ _ _ (by simpa [Ty.under] using hu)
  rw [he]
  exact fmtTop_shaped fst _ _ (.named n u v') rfl (Or.inr rfl)

/-- one value of a named type inside a value: both tables evolve alike. -/
theorem named_step (b : List (Name × Ty)) (fst : FState) (a : AState) (n : Name) (u : Ty) (v' : Val)
    (hinv : CoupledB b fst a) (hok : namedNodeOK b n u v' = true) :
    ∃ fst1 a1 x, (fmtTop fst (.named n u) (.named v')).1 = fst1 ∧
      convertValue a (fmtTop fst (.named n u) (.named v')).2 none = .ok (a1, (.named n u, x)) ∧
      wrapAll (.named n u) x = .named v' ∧ CoupledB b fst1 a1 := by
  simp only [namedNodeOK, Bool.and_eq_true, Bool.not_eq_true', decide_eq_true_eq] at hok
  obtain ⟨⟨⟨hg, hku⟩, _⟩, hbn⟩ := hok
  obtain ⟨fst1, a1, h1, h2, hinv1⟩ := named_occurrence (fun n t => assoc n b = some t) fst a n u v' hinv hbn
    (fun t ht => by rw [hbn] at ht; exact (Option.some.inj ht).symm) hg hku
  simp only [analyzeTop] at h2
  cases hc : convertValue a (fmtTop fst (.named n u) (.named v')).2 none with
  | error e => simp [hc, Except.map] at h2
  | ok r =>
    obtain ⟨s, t, x⟩ := r
    simp only [hc, Except.map, Except.ok.injEq, Prod.mk.injEq] at h2
    obtain ⟨rfl, rfl, hx⟩ := h2
    exact ⟨fst1, s, x, h1, rfl, hx, hinv1⟩

/-- a value with named types inside, written at a position where nothing encloses it
    (`parentKnown = false`, no enclosing decorator): both tables evolve alike, and the analysis
    returns the type and — up to the `named` wrappers `wrapAll` restores — the value. -/
def GoodS (b : List (Name × Ty)) (t : Ty) (v : Val) (e : Bool) : Prop :=
  ∀ (fst : FState) (a : AState), CoupledB b fst a → ∃ any ds fst1 a1 x,
    fmtValue fst t v false false true e = (fst1, any, ds) ∧ CoupledB b fst1 a1 ∧
    convertValue a (mkVal any ds) none = .ok (a1, (t, x)) ∧ wrapAll t x = v

def GoodSFields (b : List (Name × Ty)) (fs : Fields) (vs : Vals) : Prop :=
  ∀ (fst : FState) (a : AState), CoupledB b fst a → ∃ afs fst1 a1 xs,
    fmtFields fst fs vs false false = (fst1, afs) ∧ afs.names = fs.names ∧ CoupledB b fst1 a1 ∧
    convertFields a afs none = .ok (a1, xs) ∧ xs.map (·.1) = fieldTypes fs ∧
    wrapFields fs (Vals.ofList (xs.map (·.2))) = vs

def GoodSElems (b : List (Name × Ty)) (et : Ty) (vs : Vals) : Prop :=
  ∀ (fst : FState) (a : AState), CoupledB b fst a → ∃ asts fst1 a1 xs,
    fmtElems fst et vs false false = (fst1, asts) ∧ CoupledB b fst1 a1 ∧
    convertElems a asts none = .ok (a1, xs.map (fun x => (et, x))) ∧ xs.length = vs.length ∧
    (Vals.ofList xs).mapV (wrapAll et) = vs

theorem goodS_plain (b : List (Name × Ty)) (t : Ty) (v : Val) (e : Bool) (hp : plainTy t = true)
    (hw : wfTy t = true) (hv : wfVal t v = true) (he : errOK v = true) (hu : (e && t.isUnion) = false) :
    GoodS b t v e := by
  intro fst a hinv
  obtain ⟨any, ds, hf, _, hA, _⟩ := goodV_all v t e hp hw hv he false fst a
  refine ⟨any, ds, fst, a, strip v, hf, hinv, ?_, wrapAll_strip v t hv⟩
  rw [hA]; simp [expA, hu]

theorem goodS_named (b : List (Name × Ty)) (n : Name) (u : Ty) (v' : Val) (e : Bool)
    (hok : namedNodeOK b n u v' = true) (hu : (e && u.under.isUnion) = false) :
    GoodS b (.named n u) (.named v') e := by
  intro fst a hinv
  obtain ⟨fst1, a1, x, h1, h2, h3, h4⟩ := named_step b fst a n u v' hinv hok
  rw [fmtTop_named_eq fst n u v' e hu] at h1 h2
  exact ⟨_, _, fst1, a1, x, Prod.ext h1 rfl, h4, h2, h3⟩

theorem goodSFields_nil (b : List (Name × Ty)) : GoodSFields b .nil .nil := by
  intro fst a hinv
  exact ⟨.nil, fst, a, [], by simp [fmtFields], rfl, hinv, by simp [convertFields], rfl, by simp [Vals.ofList, wrapFields]⟩

theorem goodSFields_cons (b : List (Name × Ty)) (n : Name) (t : Ty) (fr : Fields) (v : Val) (vr : Vals)
    (h1 : GoodS b t v false) (h2 : GoodSFields b fr vr) : GoodSFields b (.cons n t fr) (.cons v vr) := by
  intro fst a hinv
  obtain ⟨any, ds, fst1, a1, x, hf, hinv1, hA, hx⟩ := h1 fst a hinv
  obtain ⟨afs, fst2, a2, xs, hf2, hn, hinv2, hA2, ht2, hx2⟩ := h2 fst1 a1 hinv1
  refine ⟨.cons n (mkVal any ds) afs, fst2, a2, (t, x) :: xs, ?_, ?_, hinv2, ?_, ?_, ?_⟩
  · simp [fmtFields, hf, hf2]
  · simp [AVFields.names, Fields.names, hn]
  · simp [convertFields, hA, hA2, bind, Except.bind, pure, Except.pure]
  · simp [fieldTypes, ht2]
  · simp [Vals.ofList, wrapFields, hx, hx2]

theorem goodSElems_nil (b : List (Name × Ty)) (et : Ty) : GoodSElems b et .nil := by
  intro fst a hinv
  exact ⟨.nil, fst, a, [], by simp [fmtElems], hinv, by simp [convertElems], rfl, by simp [Vals.ofList, Vals.mapV]⟩

theorem goodSElems_cons (b : List (Name × Ty)) (et : Ty) (v : Val) (vr : Vals)
    (h1 : GoodS b et v true) (h2 : GoodSElems b et vr) : GoodSElems b et (.cons v vr) := by
  intro fst a hinv
  obtain ⟨any, ds, fst1, a1, x, hf, hinv1, hA, hx⟩ := h1 fst a hinv
  obtain ⟨asts, fst2, a2, xs, hf2, hinv2, hA2, hl2, hx2⟩ := h2 fst1 a1 hinv1
  refine ⟨.cons (mkVal any ds) asts, fst2, a2, x :: xs, ?_, hinv2, ?_, ?_, ?_⟩
  · simp [fmtElems, hf, hf2]
  · simp [convertElems, hA, hA2, bind, Except.bind, pure, Except.pure]
  · simp [Vals.length, hl2]
  · simp [Vals.ofList, Vals.mapV, hx, hx2]

theorem nameOf_record (st : FState) (fs : Fields) : st.nameOf (.record fs) = none := rfl
theorem hasName_record (st : FState) (fs : Fields) : st.hasName (.record fs) = false := rfl

theorem decorateM_selfdesc_nonnamed (st : FState) (t : Ty) (hn : t.isNamed = false)
    (hs : selfDescribing t = true) : decorateM st t false false = (st, []) := by
  unfold decorateM
  have hno : st.nameOf t = none := by cases t <;> first | rfl | cases hn
  by_cases hi : implied t = true
  · simp [hi]
  · simp only [Bool.false_or, Bool.false_and, Bool.not_false, Bool.true_and, hi, Bool.false_eq_true, if_false, hno, hs,
      Bool.and_self, if_true]
    cases t <;> simp_all [Ty.isNamed]

theorem goodS_record (b : List (Name × Ty)) (fs : Fields) (vs : Vals) (e : Bool) (hd : fs.hasDup = false)
    (hF : GoodSFields b fs vs) : GoodS b (.record fs) (.record vs) e := by
  intro fst a hinv
  obtain ⟨afs, fst1, a1, xs, hf, hn, hinv1, hA, ht, hx⟩ := hF fst a hinv
  have hfmt : fmtValue fst (.record fs) (.record vs) false false true e = (fst1, .record afs, []) := by
    simp [fmtValue, hasName_record, hf, finish,
      decorateM_selfdesc_nonnamed fst1 (.record fs) rfl rfl]
  refine ⟨_, _, fst1, a1, .record (Vals.ofList (xs.map (·.2))), hfmt, hinv1, ?_, by simp [wrapAll, hx]⟩
  simp [convertValue, viaUnion, convertAny, hA, ht, hn, mkFields_self, hd, bind, Except.bind, pure,
    Except.pure]

theorem goodS_vec (s : Bool) (b : List (Name × Ty)) (et : Ty) (x0 : Val) (r : Vals) (e : Bool)
    (hu : et.under.isUnion = false) (hE : GoodSElems b et (.cons x0 r)) :
    GoodS b (vecTy s et) (vecVal s (.cons x0 r)) e := by
  intro fst a hinv
  obtain ⟨asts, fst1, a1, xs, hf, hinv1, hA, hl, hx⟩ := hE fst a hinv
  have hne : xs ≠ [] := by intro h; subst h; simp [Vals.length] at hl
  have hfmt : fmtValue fst (vecTy s et) (vecVal s (.cons x0 r)) false false true e = (fst1, vecAny s asts, []) := by
    have hh : fst.hasName (vecTy s et) = false := by cases s <;> rfl
    have he : emptyC (vecVal s (.cons x0 r)) = false := by cases s <;> rfl
    simp [fmtValue_vec, hh, hf, finish, he, needsDecoration_underNotUnion et _ hu,
      decorateM_selfdesc_nonnamed fst1 (vecTy s et) (by cases s <;> rfl) (by cases s <;> rfl)]
  refine ⟨_, _, fst1, a1, vecVal s (Vals.ofList xs), hfmt, hinv1, ?_, by cases s <;> simp [vecTy, vecVal, wrapAll, hx]⟩
  have hemp : (xs.map (fun x => (et, x))).isEmpty = false := by cases xs <;> simp_all
  have hnorm : normalizeElems (xs.map fun x => (et, x)) = .ok (xs, et) := by simpa using norm_nonunion et xs id hne
  simp only [mkVal_nil, convertValue, viaUnion, convertAny_vec_none, hA, Except.bind, hemp, hnorm]
  simp

theorem spineOK_other {b : List (Name × Ty)} {t : Ty} {v : Val} (hnp : ¬ plainTy t = true)
    (h1 : ∀ (v' : Val) (n : Name) (u : Ty), v = .named v' → t = .named n u → False)
    (h2 : ∀ (vs : Vals) (fs : Fields), v = .record vs → t = .record fs → False)
    (h3 : ∀ (x : Val) (r : Vals) (et : Ty), v = .array (.cons x r) → t = .array et → False)
    (h4 : ∀ (x : Val) (r : Vals) (et : Ty), v = .set (.cons x r) → t = .set et → False) :
    spineOK b t v ≠ true := by
  intro h
  unfold spineOK at h
  rw [if_neg hnp] at h
  split at h
  · exact h1 _ _ _ rfl rfl
  · exact h2 _ _ rfl rfl
  · exact h3 _ _ _ rfl rfl
  · exact h4 _ _ _ rfl rfl
  · cases h

/-- by the induction principle of `spineOK` itself. -/
theorem goodS_spine (b : List (Name × Ty)) :
    (∀ t v, spineOK b t v = true → ∀ e, (e && t.under.isUnion) = false → GoodS b t v e) ∧
    (∀ et vs, spineElems b et vs = true → et.under.isUnion = false → GoodSElems b et vs) ∧
    (∀ fs vs, spineFields b fs vs = true → GoodSFields b fs vs) := by
  apply spineOK.mutual_induct
  · intro v t hp h e hu
    unfold spineOK at h
    simp only [hp, if_true, Bool.and_eq_true] at h
    exact goodS_plain b t v e hp h.1.1 h.1.2 h.2 (by rwa [under_plain t hp] at hu)
  · intro v' n u hnp h e hu
    unfold spineOK at h
    rw [if_neg hnp] at h
    exact goodS_named b n u v' e h hu
  · intro vs fs hnp ih h e _
    unfold spineOK at h
    simp only [if_neg hnp, Bool.and_eq_true, Bool.not_eq_true'] at h
    exact goodS_record b fs vs e h.2 (ih h.1)
  · intro x r et hnp ih h e _
    unfold spineOK at h
    simp only [if_neg hnp, Bool.and_eq_true, Bool.not_eq_true'] at h
    exact goodS_vec false b et x r e h.1 (ih h.2 h.1)
  · intro x r et hnp ih h e _
    unfold spineOK at h
    simp only [if_neg hnp, Bool.and_eq_true, Bool.not_eq_true'] at h
    exact goodS_vec true b et x r e h.1 (ih h.2 h.1)
  · exact fun v t hnp h1 h2 h3 h4 h => absurd h (spineOK_other hnp h1 h2 h3 h4)
  · exact fun et _ _ => goodSElems_nil b et
  · intro et v r ih1 ih2 h hu
    simp only [spineElems, Bool.and_eq_true] at h
    exact goodSElems_cons b et v r (ih1 h.1 true (by simp [hu])) (ih2 h.2 hu)
  · exact fun _ => goodSFields_nil b
  · intro v vr n t fr ih1 ih2 h
    simp only [spineFields, Bool.and_eq_true, Bool.not_eq_true'] at h
    exact goodSFields_cons b n t fr v vr (ih1 h.1.2 false (by simp)) (ih2 h.2)
  · intro vs fs h1 h2 h
    unfold spineFields at h
    split at h
    · exact (h1 rfl rfl).elim
    · exact (h2 _ _ _ _ _ rfl rfl).elim
    · cases h

theorem goodSFields_all (b : List (Name × Ty)) : (vs : Vals) → ∀ (fs : Fields), spineFields b fs vs = true →
    GoodSFields b fs vs :=
  fun vs fs h => (goodS_spine b).2.2 fs vs h

theorem goodSElems_all (b : List (Name × Ty)) : (vs : Vals) → ∀ (et : Ty), spineElems b et vs = true →
    et.under.isUnion = false → GoodSElems b et vs :=
  fun vs et h hu => (goodS_spine b).2.1 et vs h hu

theorem fmtTop_spine (b : List (Name × Ty)) (fst : FState) : ∀ (t : Ty) (v : Val), spineOK b t v = true →
    ¬ plainTy t = true → fmtTop fst t v =
      ((fmtValue fst t v false false true false).1,
        mkVal (fmtValue fst t v false false true false).2.1 (fmtValue fst t v false false true false).2.2) := by
  have hni {t : Ty} (hp : ¬ plainTy t = true) : implied t = false :=
    Bool.eq_false_iff.mpr fun hi => hp (implied_plain t hi)
  apply spineOK.fun_cases
  · exact fun _ _ hp _ hnp => absurd hp hnp
  · exact fun v' n u _ _ _ => fmtTop_named_eq fst n u v' false rfl
  · intro vs fs hnp _ _
    rw [fmtTop_shaped fst _ _ (.record fs vs) rfl (Or.inl rfl), hni hnp]
  · intro x r et hnp _ _
    rw [fmtTop_shaped fst _ _ (.array et _) rfl (Or.inl rfl), hni hnp]
  · intro x r et hnp _ _
    rw [fmtTop_shaped fst _ _ (.set et _) rfl (Or.inl rfl), hni hnp]
  · exact fun t v hnp h1 h2 h3 h4 h _ => absurd h (spineOK_other hnp h1 h2 h3 h4)

/-- one value of a stream: a plain value, or a value with named types inside. -/
theorem spine_step (b : List (Name × Ty)) (fst : FState) (a : AState) (t : Ty) (v : Val)
    (hinv : CoupledB b fst a) (hok : spineOK b t v = true) (hb : bareEmpty v = false) :
    ∃ fst1 a1, (fmtTop fst t v).1 = fst1 ∧ analyzeTop a (fmtTop fst t v).2 = .ok (a1, (t, v)) ∧
      CoupledB b fst1 a1 := by
  by_cases hp : plainTy t = true
  · have h := hok
    unfold spineOK at h
    simp only [hp, if_true, Bool.and_eq_true] at h
    obtain ⟨h1, h2⟩ := roundtrip_plain fst a t v hp h.1.1 h.1.2 hb h.2
    exact ⟨fst, a, h1, h2, hinv⟩
  · obtain ⟨any, ds, fst1, a1, x, hf, hinv1, hA, hx⟩ := (goodS_spine b).1 t v hok false rfl fst a hinv
    rw [fmtTop_spine b fst t v hok hp, hf]
    exact ⟨fst1, a1, rfl, by simp [analyzeTop, hA, Except.map, hx], hinv1⟩

theorem stream_roundtrip_nested (reset : Bool) (b : List (Name × Ty)) (items : List (Ty × Val))
    (hok : ∀ x ∈ items, itemOKB b x = true) :
    ∀ (fst : FState) (a : AState), CoupledB b fst a →
      analyzeStream a (fmtStream reset fst items) = .ok items := by
  refine stream_of_step reset (CoupledB b) (fun x => itemOKB b x = true) (fun _ _ => coupledQ_reset)
    (fun fst a t v hinv hitem => ?_) items hok
  simp only [itemOKB, Bool.and_eq_true, Bool.not_eq_true'] at hitem
  exact spine_step b fst a t v hinv hitem.1 hitem.2

end Zed.Zson

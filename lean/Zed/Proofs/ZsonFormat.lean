import Zed.Model.ZsonGuard
/-!
  C02 — the formatter: what the `decorate` and `elem` flags of `fmtValue` change, the whole-value entry;
  arrays and sets written as one case with a flag (`vecTy`), for the formatter and for `convertAny`.
-/
namespace Zed.Zson
open Generated

/-- `v` is not null and has the constructor `t` asks for. -/
inductive Shaped : Ty → Val → Prop
  | prim (id text) : Shaped (.prim id) (.prim text)
  | typeval (id ty) : Shaped (.prim id) (.typeval ty)
  | record (fs vs) : Shaped (.record fs) (.record vs)
  | array (et vs) : Shaped (.array et) (.array vs)
  | set (et vs) : Shaped (.set et) (.set vs)
  | map (kt vt es) : Shaped (.map kt vt) (.map es)
  | union (ts tag v) : Shaped (.union ts) (.union tag v)
  | enum (syms sel) : Shaped (.enum syms) (.enum sel)
  | error (t v) : Shaped (.error t) (.error v)
  | named (n t v) : Shaped (.named n t) (.named v)

theorem shaped_of_wf {t : Ty} {v : Val} (hv : wfVal t v = true) (hn : v.isNull = false) : Shaped t v := by
  cases v <;> cases t <;> first | constructor | simp [wfVal, Val.isNull] at hv hn

theorem isNull_of_ne_null {v : Val} (h : v ≠ .null) : v.isNull = false := by
  cases v <;> first | rfl | exact absurd rfl h

/-- the `null` flag `formatValue` hands to `decorate`: an empty array, set or map. -/
def emptyC : Val → Bool
  | .array .nil => true
  | .set .nil => true
  | .map .nil => true
  | _ => false

theorem fmtValue_decorate (st : FState) (t : Ty) (v : Val) (pk pi : Bool) (h : Shaped t v) :
    fmtValue st t v pk pi true false =
      ((decorateM (fmtValue st t v pk pi false false).1 t pk (emptyC v)).1,
       (fmtValue st t v pk pi false false).2.1,
       (fmtValue st t v pk pi false false).2.2 ++
         (decorateM (fmtValue st t v pk pi false false).1 t pk (emptyC v)).2) := by
  cases h with
  | array et vs | set et vs => cases vs <;> rfl
  | map kt vt es => cases es <;> rfl
  | _ => rfl

theorem emptyC_of_bareEmpty {v : Val} (h : bareEmpty v = false) : emptyC v = false := by
  cases v with
  | array vs | set vs => cases vs <;> simp_all [bareEmpty, emptyC]
  | map es => cases es <;> simp_all [bareEmpty, emptyC]
  | _ => rfl

theorem fmtValue_noOwnDeco (st : FState) (t : Ty) (v : Val) (pk pi : Bool) (h : Shaped t v)
    (hod : noOwnDeco t v = true) (hu : t.isUnion = false) (hn : t.isNamed = false) :
    (fmtValue st t v pk pi false false).2.2 = [] := by
  cases h with
  | union ts tag v => cases hu
  | named n t v => cases hn
  | array et vs | set et vs =>
    simp only [noOwnDeco, Bool.not_eq_true'] at hod
    simp only [fmtValue, finish, hod, Bool.and_false, Bool.false_eq_true, if_false]
  | map kt vt es =>
    simp only [noOwnDeco, Bool.not_eq_true'] at hod
    simp only [fmtValue, finish, hod, Bool.false_eq_true, if_false]
  | _ => rfl

theorem needsDecoration_underNotUnion (et : Ty) (seen : List Ty) (h : et.under.isUnion = false) :
    needsDecoration et seen = false := by
  unfold needsDecoration
  cases hu : et.under <;> simp_all [unionLen, Ty.isUnion]

theorem fmtValue_elem_underNotUnion (fst : FState) (t : Ty) (v : Val) (pk pi d : Bool)
    (h1 : t.under.isUnion = false) : fmtValue fst t v pk pi d true = fmtValue fst t v pk pi d false := by
  cases v with
  | null => simp [fmtValue, h1]
  | named v' =>
    cases t with
    | named n u => simp only [Ty.under] at h1; simp [fmtValue, h1]
    | _ => rfl
  | union tag v' => cases t <;> first | rfl | cases h1
  | _ => rfl

/-- not for an empty container: the entry point tells `decorate` that such a value is not null. -/
theorem fmtTop_shaped (st : FState) (t : Ty) (v : Val) (h : Shaped t v) (he : emptyC v = false)
    (hk : st.hasName t = false ∨ t.isNamed = true) :
    fmtTop st t v =
      ((fmtValue st t v false (implied t) true false).1,
       mkVal (fmtValue st t v false (implied t) true false).2.1 (fmtValue st t v false (implied t) true false).2.2) := by
  have hnull : v.isNull = false := by cases h <;> rfl
  have hpk : fmtValue st t v (st.hasName t) (implied t) false false =
      fmtValue st t v false (implied t) false false := by
    rcases hk with hk | hk
    · rw [hk]
    · cases h with
      | named n u v' =>
        simp only [fmtValue, finish, Bool.or_self, Bool.false_or, Bool.false_and, Bool.false_eq_true, if_false]
      | _ => cases hk
  rw [fmtValue_decorate st t v false _ h, he]
  simp only [fmtTop, hnull, hpk]

theorem fmtTop_null (st : FState) (t : Ty) (hk : st.hasName t = false) :
    fmtTop st t .null =
      ((fmtValue st t .null false (implied t) true false).1,
       mkVal (fmtValue st t .null false (implied t) true false).2.1
         (fmtValue st t .null false (implied t) true false).2.2) := by
  unfold fmtTop
  rw [hk]
  cases implied t <;> rfl

/-- arrays (`false`) and sets (`true`) are written and read by the same code. -/
def vecTy : Bool → Ty → Ty
  | false, et => .array et
  | true, et => .set et
def vecVal : Bool → Vals → Val
  | false, vs => .array vs
  | true, vs => .set vs
def vecAny : Bool → AVals → AAny
  | false, as => .array as
  | true, as => .set as

theorem fmtValue_vec (s : Bool) (st : FState) (et : Ty) (vs : Vals) (pk pi d e : Bool) :
    fmtValue st (vecTy s et) (vecVal s vs) pk pi d e =
      (let r := fmtElems st et vs (pk || st.hasName (vecTy s et)) pi
       let null := emptyC (vecVal s vs)
       let r2 := if !null && needsDecoration et (seenTypes et vs []) then decorateM r.1 (vecTy s et) false true
         else (r.1, [])
       finish r2.1 (vecTy s et) pk d null (vecAny s r.2) r2.2) := by
  cases s <;> cases vs <;> rfl

theorem convertAny_vec_some (s : Bool) (st : AState) (asts : AVals) (c et : Ty) (h : c.under = vecTy s et) :
    convertAny st (vecAny s asts) (some c) =
      (convertElems st asts (some et)).bind fun r => .ok (r.1, (c, vecVal s (Vals.ofList (r.2.map (·.2))))) := by
  cases s <;> (simp only [vecAny, convertAny, h, vecTy]; rfl)

theorem convertAny_vec_none (s : Bool) (st : AState) (asts : AVals) :
    convertAny st (vecAny s asts) none =
      (convertElems st asts none).bind fun r =>
        if r.2.isEmpty then .ok (r.1, (vecTy s tyNull, vecVal s .nil))
        else (normalizeElems r.2).bind fun ei => .ok (r.1, (vecTy s ei.2, vecVal s (Vals.ofList ei.1))) := by
  cases s <;> rfl

end Zed.Zson

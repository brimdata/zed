import Zed.Proofs.FuseMergeLemmas
/-!
  C20: for two clean (union-free, map-free) types, both fit their merge, hence what `mixinAll` makes of them.
-/
namespace Zed.Fuse

def FitsJoin (m : Ty → Ty → Option Ty) : Prop :=
  ∀ a b c, m a b = some c → clean a = true → clean b = true → fitsN a c = true ∧ fitsN b c = true

theorem fits_of_fitsN {a T : Ty} (he : a.isError = false) (h : fitsN a T = true) : fits a T = true := by
  simp [fits, he, h]

theorem fits_of_under_eq {a T : Ty} (h : a.under = T.under) : fitsN a T = true := by
  simp [fitsN, fitsHead, h]

theorem fitsN_of_null {a T : Ty} (h : a.under = tyNull) : fitsN a T = true := by
  simp [fitsN, fitsHead, h]

theorem findIdx_isSome_of_mem (p : Ty → Bool) (ms : Tys) (m : Ty) (h : m ∈ ms.toList) (hp : p m = true) :
    (ms.findIdx p).isSome = true := by
  fun_induction Tys.findIdx p ms with
  | case1 => nomatch h
  | case2 t r ht => rfl
  | case3 t r ht ih =>
    rw [Option.isSome_map]
    rcases List.mem_cons.1 h with rfl | h
    · exact absurd hp ht
    · exact ih h

theorem bestUnionTag_of_mem {a T : Ty} {ms : Tys} (hT : T.under = .union ms) (h : a ∈ ms.toList) :
    (bestUnionTag a T).isSome = true := by
  unfold bestUnionTag
  simp only [hT]
  have := findIdx_isSome_of_mem (· == a) ms a h (by simp)
  cases hf : ms.findIdx (· == a) with
  | some i => simp
  | none => simp [hf] at this

theorem fitsU_under (orig T : Ty) (cur : Ty) : fitsU orig cur T = fitsU orig cur.under T := by
  fun_induction Ty.under cur with
  | case1 n t ih => simpa only [fitsU] using ih
  | case2 t _ => rfl

theorem fitsN_of_fitsU {a T : Ty} (hm : T.isMap = false) (hp : T.isPrim = false)
    (h : fitsU a a.under T = true) : fitsN a T = true := by
  simp [fitsN, fitsHead, hm, hp, fitsU_under a T a, h]

theorem fitsU_of_tag {orig T : Ty} (hb : (bestUnionTag orig T).isSome = true) (cur : Ty)
    (hc : cur.isUnion = false) : fitsU orig cur.under T = true := by
  unfold Ty.isUnion at hc
  cases hu : cur.under with
  | named n t => exact absurd hu (under_not_named cur n t)
  | union ms => simp [hu] at hc
  | _ => simp [fitsU, hb]

theorem clean_under (a : Ty) : clean a = true → clean a.under = true := by
  fun_induction Ty.under a with
  | case1 n t ih => intro h; exact ih (by simpa only [clean] using h)
  | case2 t _ => exact id

theorem clean_shape {a : Ty} (h : clean a = true) :
    a.isUnion = false ∧ a.isMap = false ∧ a.isError = false := by
  have := clean_under a h
  unfold Ty.isUnion Ty.isMap Ty.isError
  cases hu : a.under with
  | union _ | map _ _ | error _ => simp [hu, clean] at this
  | _ => exact ⟨rfl, rfl, rfl⟩

theorem fitsN_member {a T : Ty} {ms : Tys} (hc : clean a = true) (hT : T.under = .union ms)
    (h : a ∈ ms.toList) : fitsN a T = true := by
  exact fitsN_of_fitsU (by simp [Ty.isMap, hT]) (by simp [Ty.isPrim, hT])
    (fitsU_of_tag (bestUnionTag_of_mem hT h) a (clean_shape hc).1)

theorem mem_lookupUnion (ts : List Ty) (t : Ty) (h : t ∈ ts) :
    ∃ ms, (lookupUnion ts).under = .union ms ∧ t ∈ ms.toList :=
  ⟨_, rfl, by rw [Tys.toList_ofList, mem_sortTypes]; exact h⟩

/-- the type of a field of the merged record, from its types in the two inputs -/
def joinAt (m : Ty → Ty → Option Ty) : Option Ty → Option Ty → Option Ty
  | some u, none => some u
  | none, some t => some t
  | none, none => none
  | some u, some t => if u = t then some u else m u t

/-- `lookup` after one step of the field loop -/
theorem mergeFieldInto_lookup (m : Ty → Ty → Option Ty) (name : Name) (t : Ty) (acc acc' : Fields)
    (h : mergeFieldInto m name t acc = some acc') (n : Name) :
      acc'.lookup n = if n = name then joinAt m (acc.lookup name) (some t) else acc.lookup n := by
  fun_induction mergeFieldInto m name t acc generalizing acc' with
  | case1 =>
    obtain rfl := Option.some.inj h
    by_cases hn : n = name
    · simp [Fields.lookup, hn, joinAt]
    · simp [Fields.lookup, hn, Ne.symm hn]
  | case2 rest =>
    obtain rfl := Option.some.inj h
    by_cases hn : n = name
    · simp [Fields.lookup, hn, joinAt]
    · simp [hn]
  | case3 u rest hu =>
    obtain ⟨w, hw, rfl⟩ := Option.map_eq_some_iff.1 h
    by_cases hn : n = name
    · simp [Fields.lookup, hn, joinAt, hu, hw]
    · simp [Fields.lookup, hn, Ne.symm hn]
  | case4 k u rest hk ih =>
    obtain ⟨r', hr, rfl⟩ := Option.map_eq_some_iff.1 h
    have ih := ih r' hr
    by_cases hn : n = name
    · subst hn
      simpa only [Fields.lookup, hk, if_false, if_true] using ih
    · simp only [hn, if_false] at ih ⊢
      simp only [Fields.lookup, ih]

theorem mergeFieldInto_names (m : Ty → Ty → Option Ty) (name : Name) (t : Ty) (acc acc' : Fields)
    (h : mergeFieldInto m name t acc = some acc') :
      acc'.names = acc.names ++ (if name ∈ acc.names then [] else [name]) := by
  fun_induction mergeFieldInto m name t acc generalizing acc' with
  | case1 => obtain rfl := Option.some.inj h; simp [Fields.names]
  | case2 rest => obtain rfl := Option.some.inj h; simp [Fields.names]
  | case3 u rest hu =>
    obtain ⟨w, _, rfl⟩ := Option.map_eq_some_iff.1 h
    simp [Fields.names]
  | case4 n u rest hn ih =>
    obtain ⟨r', hr, rfl⟩ := Option.map_eq_some_iff.1 h
    simp only [Fields.names, ih r' hr, List.mem_cons, Ne.symm hn, false_or, List.cons_append]

theorem mergeFields_lookup (m : Ty → Ty → Option Ty) (fb acc fc : Fields) (hnd : fb.names.Nodup)
    (h : mergeFields m acc fb = some fc) (n : Name) :
    fc.lookup n = joinAt m (acc.lookup n) (fb.lookup n) := by
  fun_induction mergeFields m acc fb with
  | case1 acc =>
    obtain rfl := Option.some.inj h
    cases acc.lookup n <;> rfl
  | case2 acc k t rest ih =>
    obtain ⟨acc', h1, h2⟩ := Option.bind_eq_some_iff.1 h
    simp only [Fields.names, List.nodup_cons] at hnd
    rw [ih acc' hnd.2 h2, mergeFieldInto_lookup m k t acc acc' h1 n]
    by_cases hn : n = k
    · subst hn
      have hr : rest.lookup n = none := (lookup_eq_none_iff rest n).2 hnd.1
      simp only [if_true, hr, Fields.lookup]
      cases joinAt m (acc.lookup n) (some t) <;> rfl
    · simp [hn, Fields.lookup, Ne.symm hn]

theorem fitsFields_of (fc : Fields) : (fa : Fields) →
    (∀ i n t, fa.get? i = some (n, t) → ∃ u, fc.lookup n = some u ∧ fitsN t u = true) →
    fitsFields fa fc = true
  | .nil, _ => rfl
  | .cons n t r, h => by
    obtain ⟨⟨u, h1, h2⟩, hr⟩ := forall_get?_cons.1 h
    simp only [fitsFields, h1, fitsFields_of fc r hr, Bool.and_true]
    exact h2

theorem cleanF_get? {fs : Fields} (hc : cleanF fs = true) {i : Nat} {n : Name} {t : Ty}
    (h : fs.get? i = some (n, t)) : clean t = true := by
  fun_induction Fields.get? fs i with
  | case1 => nomatch h
  | case2 k u r =>
    simp only [cleanF, Bool.and_eq_true] at hc
    obtain ⟨-, rfl⟩ := Prod.mk.inj (Option.some.inj h)
    exact hc.1
  | case3 k u r i ih =>
    simp only [cleanF, Bool.and_eq_true] at hc
    exact ih hc.2 h

/-- a record type fitsN a record target that has all its fields, each fitting -/
theorem fitsN_record {a T : Ty} {fa fo : Fields} (ha : a.under = .record fa) (hT : T.under = .record fo)
    (hna : fa.names.Nodup) (hno : fo.names.Nodup) (hf : fitsFields fa fo = true) : fitsN a T = true :=
  fitsN_of_fitsU (by simp [Ty.isMap, hT]) (by simp [Ty.isPrim, hT]) (by simp [ha, fitsU, hT, hna, hno, hf])

theorem mergeFields_names (m : Ty → Ty → Option Ty) (fb acc fc : Fields)
    (h : mergeFields m acc fb = some fc) :
    (acc.names.Nodup → fc.names.Nodup) ∧ (∀ n ∈ acc.names, n ∈ fc.names) ∧ (∀ n ∈ fb.names, n ∈ fc.names) := by
  fun_induction mergeFields m acc fb with
  | case1 acc => obtain rfl := Option.some.inj h; exact ⟨id, fun _ h => h, fun _ h => nomatch h⟩
  | case2 acc k t rest ih =>
    obtain ⟨acc', h1, h2⟩ := Option.bind_eq_some_iff.1 h
    obtain ⟨i0, i1, i2⟩ := ih acc' h2
    have hn := mergeFieldInto_names m k t acc acc' h1
    have hsub : ∀ n ∈ acc.names, n ∈ acc'.names := fun n hn' => hn ▸ List.mem_append_left _ hn'
    have hk : k ∈ acc'.names := by
      rw [hn]
      by_cases hk : k ∈ acc.names
      · exact List.mem_append_left _ hk
      · simp [hk]
    refine ⟨fun ha => i0 ?_, fun n hn' => i1 n (hsub n hn'), fun n hn' => ?_⟩
    · rw [hn]
      by_cases hk : k ∈ acc.names
      · simpa [hk] using ha
      · simp only [hk, if_false]
        rw [List.nodup_append]
        exact ⟨ha, by simp, by intro a ha' b hb; simp at hb; subst hb; exact fun e => hk (e ▸ ha')⟩
    · simp only [Fields.names, List.mem_cons] at hn'
      rcases hn' with rfl | hn'
      · exact i1 _ hk
      · exact i2 n hn'

theorem fitsN_inner {a T x z : Ty} (ha : a.inner? = some x) (hT : T.inner? = some z) (h : fitsN x z = true) :
    fitsN a T = true := by
  have hm : T.isMap = false := by
    rcases inner?_eq_some.1 hT with hu | hu <;> simp only [Ty.isMap, hu]
  have hp : T.isPrim = false := by
    rcases inner?_eq_some.1 hT with hu | hu <;> simp only [Ty.isPrim, hu]
  refine fitsN_of_fitsU hm hp ?_
  unfold fitsN at h
  rcases inner?_eq_some.1 ha with hu | hu <;> simp [hu, fitsU, hT, h]

theorem fitsN_refl (t : Ty) : fitsN t t = true := fits_of_under_eq rfl

theorem clean_inner {a x : Ty} (hc : clean a = true) (h : a.inner? = some x) : clean x = true := by
  have := clean_under a hc
  rcases inner?_eq_some.1 h with hu | hu <;> simpa only [hu, clean] using this

theorem joinAt_fits {m : Ty → Ty → Option Ty} (hm : FitsJoin m) {u? t? : Option Ty} {w : Ty}
    (h : joinAt m u? t? = some w) (cu : ∀ u, u? = some u → clean u = true)
    (ct : ∀ t, t? = some t → clean t = true) :
    (∀ u, u? = some u → fitsN u w = true) ∧ (∀ t, t? = some t → fitsN t w = true) := by
  cases u? with
  | none =>
    cases t? with
    | none => simp [joinAt] at h
    | some t => obtain rfl := Option.some.inj h; simp [fitsN_refl]
  | some u =>
    cases t? with
    | none => obtain rfl := Option.some.inj h; simp [fitsN_refl]
    | some t =>
      simp only [joinAt] at h
      split at h
      next hut => obtain rfl := Option.some.inj h; simp [hut, fitsN_refl]
      next => simpa using hm u t w h (cu u rfl) (ct t rfl)

theorem mergeFields_fits {m : Ty → Ty → Option Ty} (hm : FitsJoin m) {fa fb fc : Fields}
    (ca : cleanF fa = true) (na : fa.names.Nodup) (cb : cleanF fb = true) (nb : fb.names.Nodup)
    (h : mergeFields m fa fb = some fc) :
    fc.names.Nodup ∧ fitsFields fa fc = true ∧ fitsFields fb fc = true := by
  have hL := mergeFields_lookup m fb fa fc nb h
  obtain ⟨hnd, sa, sb⟩ := mergeFields_names m fb fa fc h
  have look : ∀ nm ∈ fc.names, ∃ w, fc.lookup nm = some w := fun nm hm =>
    Option.ne_none_iff_exists'.1 fun e => (lookup_eq_none_iff fc nm).1 e hm
  have clean_lookup : ∀ {fs : Fields}, cleanF fs = true → ∀ {n t}, fs.lookup n = some t → clean t = true :=
    fun hc _ _ h => let ⟨_, hi, _⟩ := lookup_some_get? h; cleanF_get? hc hi
  have key : ∀ nm w, fc.lookup nm = some w →
      (∀ u, fa.lookup nm = some u → fitsN u w = true) ∧ (∀ t, fb.lookup nm = some t → fitsN t w = true) :=
    fun nm w hw => joinAt_fits hm (by rw [← hL nm]; exact hw) (fun _ => clean_lookup ca) (fun _ => clean_lookup cb)
  refine ⟨hnd na, fitsFields_of fc fa ?_, fitsFields_of fc fb ?_⟩
  · intro i nm t hi
    obtain ⟨w, hw⟩ := look nm (sa nm (get?_mem_names hi))
    exact ⟨w, hw, (key nm w hw).1 t (nodup_get?_lookup na hi).1⟩
  · intro i nm t hi
    obtain ⟨w, hw⟩ := look nm (sb nm (get?_mem_names hi))
    exact ⟨w, hw, (key nm w hw).2 t (nodup_get?_lookup nb hi).1⟩

/-- **Both inputs fit their merge**, for clean inputs and every fuel at which `merge` answers. -/
theorem merge_fitsJoin (n : Nat) : FitsJoin (merge n) := by
  refine merge_induct
    (P := fun a b c => clean a = true → clean b = true → fitsN a c = true ∧ fitsN b c = true)
    ?_ ?_ ?_ ?_ ?_ ?_ n
  · exact fun a b ha _ _ => ⟨fitsN_of_null ha, fitsN_refl _⟩
  · exact fun a b hb _ _ => ⟨fitsN_refl _, fitsN_of_null hb⟩
  · intro m hm a b fa fb fc hfa hfb h1 ca cb
    have cua := clean_under a ca
    have cub := clean_under b cb
    rw [hfa] at cua; rw [hfb] at cub
    simp only [clean, Bool.and_eq_true, decide_eq_true_eq] at cua cub
    obtain ⟨hnc, f1, f2⟩ := mergeFields_fits hm cua.1 cua.2 cub.1 cub.2 h1
    exact ⟨fitsN_record hfa rfl cua.2 hnc f1, fitsN_record hfb rfl cub.2 hnc f2⟩
  · intro a b c x y z hx hy hz ih ca cb
    obtain ⟨f1, f2⟩ := ih (clean_inner ca hx) (clean_inner cb hy)
    exact ⟨fitsN_inner hx hz f1, fitsN_inner hy hz f2⟩
  · intro a b k v k' v' kk vv hx _ _ _ ca
    exact absurd (clean_under a ca) (by simp [hx, clean])
  · -- neither side is a union: the two-member union
    intro m _ a b c h ca cb
    have hau := (clean_shape ca).1
    have hbu := (clean_shape cb).1
    unfold mergeUnion at h
    split at h
    next as has => simp [Ty.isUnion, has] at hau
    next =>
      simp only [hbu, Bool.false_eq_true, if_false, Option.some.injEq] at h
      subst h
      obtain ⟨ms, m1, m2⟩ := mem_lookupUnion [a, b] a (by simp)
      obtain ⟨ms', m1', m2'⟩ := mem_lookupUnion [a, b] b (by simp)
      exact ⟨fitsN_member ca m1 m2, fitsN_member cb m1' m2'⟩

theorem merge_fits {n : Nat} {a b c : Ty} (ha : clean a = true) (hb : clean b = true)
    (h : merge n a b = some c) : fits a c = true ∧ fits b c = true :=
  let ⟨f1, f2⟩ := merge_fitsJoin n a b c h ha hb
  ⟨fits_of_fitsN (clean_shape ha).2.2 f1, fits_of_fitsN (clean_shape hb).2.2 f2⟩

theorem fits_self (a : Ty) : fits a a = true := by
  simp [fits, fitsN_refl]

theorem mixinAll_fits_of_le_two (fuel : Nat) : (l : List Ty) → (∀ t ∈ l, clean t = true) →
    l.length ≤ 2 → ∀ T, mixinAll fuel none l = some (some T) → ∀ t ∈ l, fits t T = true
  | [], _, _, _, _ => by simp
  | [x], hc, _, T, hT => by
    simp only [mixinAll, mixin, Option.bind_some, Option.some.injEq] at hT
    subst hT
    simpa using fits_self x
  | [x, y], hc, _, T, hT => by
    simp only [mixinAll, mixin, Option.bind_some, Option.bind_eq_some_iff, Option.map_eq_some_iff] at hT
    obtain ⟨s, ⟨c, hm, rfl⟩, hs⟩ := hT
    obtain rfl := Option.some.inj (Option.some.inj hs)
    simpa using merge_fits (hc x (by simp)) (hc y (by simp)) hm
  | _ :: _ :: _ :: _, _, hl, _, _ => by simp at hl

end Zed.Fuse

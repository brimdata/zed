import Zed.Model.VecLoad
import Zed.Proofs.VngColumns
/-! The vector read path below the type induction: null flattening, slot filling, leaves. -/
namespace Zed.Vng
open Zed.Generated.C03

theorem place_length {α : Type} (F : List Bool) (xs : List α) : (place F xs).length = F.length := by
  induction F generalizing xs with
  | nil => rfl
  | cons b f ih => cases b <;> cases xs <;> simp [place, ih]

/-- a bitmap pointer agrees with the list `F` from slot `off` on. -/
def AgreesFrom (b : Bitmap) (off : Nat) (F : List Bool) : Prop :=
  ∀ i, i < F.length → b.get (off + i) = F.getD i false

/-- `= AgreesFrom b 0 F` (`Rep.agrees`); the proofs carry `Rep b F`. -/
def Agrees (b : Bitmap) (F : List Bool) : Prop := AgreesFrom b 0 F

theorem AgreesFrom.tail {b : Bitmap} {off : Nat} {x : Bool} {F : List Bool}
    (h : AgreesFrom b off (x :: F)) : b.get off = x ∧ AgreesFrom b (off + 1) F := by
  refine ⟨by simpa using h 0 (by simp), ?_⟩
  intro i hi
  have := h (i + 1) (by simp; omega)
  simpa [Nat.add_assoc, Nat.add_comm 1 i] using this

theorem Agrees.some (F : List Bool) : Agrees (some F) F := by
  intro i _; simp [Bitmap.get]

theorem Agrees.none (n : Nat) : Agrees none (List.replicate n false) := by
  intro i hi
  simp only [List.length_replicate] at hi
  simp [Bitmap.get, List.getD_eq_getElem?_getD, hi]

/-- `convolve` is placement of the child's bits, parent nulls staying null. -/
theorem convolve_eq_place (P C : List Bool) (h : P.count false = C.length) :
    convolve P C = (place P C).map (·.getD true) := by
  induction P generalizing C with
  | nil => rfl
  | cons b f ih =>
    cases b with
    | true => simp [convolve, place, ih C (by simpa using h)]
    | false =>
      cases C with
      | nil => simp at h
      | cons c cs => simp [convolve, place, ih cs (by simpa using h)]

/-- slot filling is placement. -/
theorem fillSlots_eq_place {α : Type} (dflt : α) (F : List Bool) (b : Bitmap) (off : Nat) (xs : List α)
    (h : AgreesFrom b off F) :
    fillSlots dflt F.length off b xs = (place F xs).map (·.getD dflt) := by
  induction F generalizing off xs with
  | nil => rfl
  | cons x f ih =>
    obtain ⟨h0, h1⟩ := h.tail
    cases x with
    | true => simp [fillSlots, h0, place, ih (off + 1) xs h1]
    | false =>
      cases xs with
      | nil => simp [fillSlots, h0, place, ih (off + 1) [] h1]
      | cons y ys => simp [fillSlots, h0, place, ih (off + 1) ys h1]

/-- expanding the column of a nullable node into its parent's slots. -/
def expandVal (F : List Bool) (vs : List Val) : List Val := (place F vs).map Val.ofOpt

theorem expandVal_length (F : List Bool) (vs : List Val) : (expandVal F vs).length = F.length := by
  simp [expandVal, place_length]

theorem convolve_length (P C : List Bool) : (convolve P C).length = P.length := by
  induction P generalizing C with
  | nil => rfl
  | cons b f ih => cases b <;> cases C <;> simp [convolve, ih]

theorem convolve_count_true (P C : List Bool) (h : P.count false = C.length) :
    (convolve P C).count true = P.count true + C.count true := by
  induction P generalizing C with
  | nil => cases C <;> simp_all [convolve]
  | cons b f ih =>
    cases b with
    | true => simp [convolve, ih C (by simpa using h)]; omega
    | false =>
      cases C with
      | nil => simp at h
      | cons c cs => cases c <;> simp [convolve, ih cs (by simpa using h)] <;> omega

theorem count_false_isNull (vs : List Val) : (vs.map Val.isNull).count false = (nonNull vs).length := by
  induction vs with
  | nil => rfl
  | cons v vs ih => cases v <;> simp_all [nonNull, List.filterMap_cons]

/-- placing a column with its own nulls into the parent's slots is placing its non-null values
    into the slots of the convolved bitmap. -/
theorem expandVal_convolve (P : List Bool) (vs : List Val) (hlen : P.count false = vs.length) :
    expandVal P vs = expandVal (convolve P (vs.map Val.isNull)) (nonNull vs) := by
  induction P generalizing vs with
  | nil => rfl
  | cons b f ih =>
    cases b with
    | true =>
      have := ih vs (by simpa using hlen)
      simp only [expandVal] at this ⊢
      simp only [convolve, place, List.map_cons, this]
    | false =>
      cases vs with
      | nil => simp at hlen
      | cons v vs =>
        have := ih vs (by simpa using hlen)
        simp only [expandVal, nonNull] at this ⊢
        cases v <;> simp [place, convolve, List.filterMap_cons, this]

theorem convolve_count_false (P : List Bool) (vs : List Val) (hlen : P.count false = vs.length) :
    (convolve P (vs.map Val.isNull)).count false = (nonNull vs).length := by
  have h1 := count_true_false (convolve P (vs.map Val.isNull))
  have h2 := count_true_false P
  have h3 := count_true_false (vs.map Val.isNull)
  rw [convolve_count_true P _ (by rw [List.length_map]; exact hlen), convolve_length] at h1
  rw [List.length_map] at h3
  rw [← count_false_isNull]
  omega

/-- number of value slots before `slot`. -/
def rank (F : List Bool) (slot : Nat) : Nat := (F.take slot).count false

theorem rank_cons_succ (b : Bool) (f : List Bool) (s : Nat) :
    rank (b :: f) (s + 1) = (if b = false then 1 else 0) + rank f s := by
  cases b <;> simp [rank] <;> omega

theorem place_getElem {α : Type} (F : List Bool) (xs : List α) (slot : Nat) (hs : slot < F.length)
    (hlen : F.count false = xs.length) :
    (place F xs)[slot]? = some (if F.getD slot false = true then none else xs[rank F slot]?) ∧
    (F.getD slot false = false → rank F slot < xs.length) := by
  induction F generalizing xs slot with
  | nil => cases hs
  | cons b f ih =>
    cases slot with
    | zero =>
      cases b
      · cases xs with
        | nil => simp at hlen
        | cons x xs => exact ⟨rfl, fun _ => Nat.succ_pos _⟩
      · exact ⟨rfl, fun h => by cases h⟩
    | succ s =>
      cases b with
      | true =>
        have := ih xs s (Nat.lt_of_succ_lt_succ hs) (by simpa using hlen)
        simpa only [place, List.getElem?_cons_succ, List.getD_cons_succ, rank_cons_succ, Nat.zero_add,
          Bool.true_eq_false, if_false] using this
      | false =>
        cases xs with
        | nil => simp at hlen
        | cons x xs =>
          obtain ⟨h1, h2⟩ := ih xs s (Nat.lt_of_succ_lt_succ hs) (by simpa using hlen)
          simp only [place, List.getElem?_cons_succ, List.getD_cons_succ, rank_cons_succ, if_true,
            Nat.add_comm 1, List.length_cons]
          exact ⟨h1, fun h => Nat.succ_lt_succ (h2 h)⟩

/-- how a bitmap pointer represents a list of bits. -/
inductive Rep : Bitmap → List Bool → Prop where
  | some (F : List Bool) : Rep (some F) F
  | none (n : Nat) : Rep none (List.replicate n false)

theorem Rep.get {b : Bitmap} {F : List Bool} (h : Rep b F) (slot : Nat) (hs : slot < F.length) :
    b.get slot = F.getD slot false := by
  cases h with
  | some F => simp [Bitmap.get]
  | none n =>
    simp only [List.length_replicate] at hs
    simp [Bitmap.get, List.getD_eq_getElem?_getD, hs]

theorem Rep.agrees {b : Bitmap} {F : List Bool} (h : Rep b F) : AgreesFrom b 0 F := by
  intro i hi; simpa using h.get i hi

theorem convolve_parent_noNull (n : Nat) (C : List Bool) (h : C.length = n) :
    convolve (List.replicate n false) C = C := by
  induction n generalizing C with
  | zero => cases C <;> simp_all [convolve]
  | succ n ih =>
    cases C with
    | nil => simp at h
    | cons c cs => simp [List.replicate_succ, convolve, ih cs (by simpa using h)]

theorem Rep.flatten {P : Bitmap} {Fp : List Bool} (h : Rep P Fp) (runs : List Nat) (k : Nat)
    (hl : (nullsFetch false runs).length = Fp.count false) :
    Rep (flattenNulls P (Option.some (runs, k))) (convolve Fp (nullsFetch false runs)) := by
  cases h with
  | some F => exact Rep.some _
  | none n =>
    simp only [flattenNulls]
    rw [convolve_parent_noNull n _ (by simpa using hl)]
    exact Rep.some _

theorem map_isNone_toOpt (vs : List Val) : (vs.map Val.toOpt).map Option.isNone = vs.map Val.isNull := by
  induction vs with
  | nil => rfl
  | cons v vs ih => cases v <;> simp [ih]

theorem any_of_count (F : List Bool) : F.any id = decide (F.count true > 0) := by
  induction F with
  | nil => simp
  | cons b f ih => cases b <;> simp [ih]

theorem eq_replicate_of_any_false (F : List Bool) (h : F.any id = false) :
    F = List.replicate F.length false :=
  List.eq_replicate_iff.mpr ⟨rfl, fun b hb => by
    cases b
    · rfl
    · rw [List.any_eq_false] at h; exact absurd rfl (h true hb)⟩

theorem convolve_child_noNull (P : List Bool) :
    convolve P (List.replicate (P.count false) false) = P := by
  induction P with
  | nil => rfl
  | cons b f ih => cases b <;> simp [convolve, List.replicate_succ, ih]

theorem convolve_any (P : List Bool) (vs : List Val) (hlen : P.count false = vs.length) :
    (convolve P (vs.map Val.isNull)).any id = (P.any id || vs.any Val.isNull) := by
  have hv : vs.any Val.isNull = (vs.map Val.isNull).any id := by simp [List.any_map, Function.comp_def]
  rw [hv, any_of_count, any_of_count, any_of_count,
    convolve_count_true P _ (by rw [List.length_map]; exact hlen),
    ← Bool.decide_or]
  exact decide_eq_decide.mpr Nat.add_pos_iff_pos_or_pos

/-- **the `Nulls` wrapper on the vector path.**  Loading a `NullsEncoder`'s output under the
    parent bitmap `Fp` is loading the wrapped column under the convolved bitmap (also when the
    `Nulls` node is omitted: the convolved bitmap is then the parent's). -/
theorem load_nullsWrap (vs : List Val) (P : Bitmap) (Fp : List Bool)
    (hR : Rep P Fp) (hlen : Fp.count false = vs.length) :
    ∃ own, Rep (flattenNulls P own) (convolve Fp (vs.map Val.isNull)) ∧
      ∀ c, load (nullsWrap vs c) P (Fp.count true) none =
        load c P ((convolve Fp (vs.map Val.isNull)).count true) own := by
  have hfetch := nullsFetch_nullsEncode (vs.map Val.toOpt)
  have hcount := nullsEncode_count (vs.map Val.toOpt)
  rw [map_isNone_toOpt] at hfetch hcount
  have hct := convolve_count_true Fp (vs.map Val.isNull) (by rw [List.length_map]; exact hlen)
  by_cases h0 : (nullsEncode (vs.map Val.toOpt)).count = 0
  · have hall := eq_replicate_of_any_false (vs.map Val.isNull)
      (by rw [any_of_count, ← hcount, h0]; rfl)
    rw [List.length_map, ← hlen] at hall
    refine ⟨none, by rw [hall, convolve_child_noNull]; exact hR, fun c => ?_⟩
    rw [hct, ← hcount, h0, Nat.add_zero, nullsWrap, if_pos h0]
  · refine ⟨some ((nullsEncode (vs.map Val.toOpt)).runs, (nullsEncode (vs.map Val.toOpt)).count),
      ?_, fun c => ?_⟩
    · have := hR.flatten (nullsEncode (vs.map Val.toOpt)).runs (nullsEncode (vs.map Val.toOpt)).count
        (by rw [hfetch]; simpa using hlen.symm)
      rwa [hfetch] at this
    · rw [nullsWrap, if_neg h0, load, hct, hcount]

/-- `v` has one slot per bit of `F`: null where the bit is set, the values `nn` in order at the others. -/
def SlotSpec (v : Vec) (F : List Bool) (nn : List Val) : Prop :=
  v.len = F.length ∧ ∀ slot, slot < F.length → serialize v slot = (expandVal F nn)[slot]?

theorem rank_lt {α : Type} {F : List Bool} {xs : List α} (hlen : F.count false = xs.length)
    {slot : Nat} (hs : slot < F.length) (hf : F.getD slot false = false) : rank F slot < xs.length :=
  (place_getElem F xs slot hs hlen).2 hf

theorem count_true_add {F : List Bool} {n : Nat} (h : F.count false = n) :
    F.count true + n = F.length := by
  rw [← h]; exact count_true_false F

theorem expandVal_getElem (F : List Bool) (nn : List Val) (slot : Nat) (hs : slot < F.length)
    (hlen : F.count false = nn.length) :
    (expandVal F nn)[slot]? =
      some (if F.getD slot false = true then Val.null else Val.ofOpt nn[rank F slot]?) := by
  obtain ⟨h1, _⟩ := place_getElem F nn slot hs hlen
  simp only [expandVal, List.getElem?_map, h1, Option.map_some]
  cases h : F.getD slot false <;> simp

theorem serialize_flat (t : Ty) (vals : List Bytes) (nulls : Bitmap) (slot : Nat) :
    serialize (.flat t vals nulls) slot =
      if nulls.get slot then some .null else (vals[slot]?).map Val.prim := rfl

theorem serialize_dict (t : Ty) (es : List Bytes) (idx : List Nat) (nulls : Bitmap) (slot : Nat) :
    serialize (.dict t es idx nulls) slot =
      if nulls.get slot then some .null
      else match idx[slot]? with
        | none => none
        | some i => (es[i]?).map Val.prim := rfl

theorem serialize_const (t : Ty) (v : Bytes) (len : Nat) (nulls : Bitmap) (slot : Nat) :
    serialize (.const t v len nulls) slot =
      if nulls.get slot then some .null else if slot < len then some (.prim v) else none := rfl

theorem serialize_record (fs : FVecs) (len : Nat) (nulls : Bitmap) (slot : Nat) :
    serialize (.record fs len nulls) slot =
      if nulls.get slot then some .null
      else (serializeFields fs slot).map fun xs => .cont (Vals.ofList xs) := rfl

theorem serialize_error (v : Vec) (nulls : Bitmap) (slot : Nat) :
    serialize (.error v nulls) slot = if nulls.get slot then some .null else serialize v slot := rfl

/-- how every nullable vector serialises a slot: null where its bitmap says so, otherwise
    what it holds there, which has to be the `rank`-th value of the dense column. -/
theorem slot_spec {nulls : Bitmap} {F : List Bool} {nn : List Val} (hR : Rep nulls F)
    (hFc : F.count false = nn.length) {slot : Nat} (hs : slot < F.length) (g : Option Val)
    (hg : F.getD slot false = false → ∀ hk : rank F slot < nn.length, g = some nn[rank F slot]) :
    (if nulls.get slot then some Val.null else g) = (expandVal F nn)[slot]? := by
  rw [hR.get slot hs, expandVal_getElem F nn slot hs hFc]
  cases hf : F.getD slot false with
  | true => rfl
  | false =>
    have hk := rank_lt hFc hs hf
    rw [if_neg Bool.false_ne_true, if_neg Bool.false_ne_true, hg hf hk, List.getElem?_eq_getElem hk]
    rfl

theorem fillSlots_getElem {α : Type} (dflt : α) {b : Bitmap} {F : List Bool} (hR : Rep b F)
    (xs : List α) (hlen : F.count false = xs.length) {slot : Nat} (hs : slot < F.length)
    (hf : F.getD slot false = false) :
    (fillSlots dflt F.length 0 b xs)[slot]? = xs[rank F slot]? := by
  rw [fillSlots_eq_place dflt F b 0 xs hR.agrees, List.getElem?_map,
    (place_getElem F xs slot hs hlen).1, hf, if_neg Bool.false_ne_true, Option.map_some,
    List.getElem?_eq_getElem (rank_lt hlen hs hf)]
  rfl

theorem fillSlots_length {α : Type} (dflt : α) {b : Bitmap} {F : List Bool} (hR : Rep b F)
    (xs : List α) : (fillSlots dflt F.length 0 b xs).length = F.length := by
  rw [fillSlots_eq_place dflt F b 0 xs hR.agrees, List.length_map, place_length]

theorem fillSlots_none {α : Type} (dflt : α) (xs : List α) (slot : Nat) :
    fillSlots dflt xs.length slot none xs = xs := by
  induction xs generalizing slot with
  | nil => rfl
  | cons x xs ih => simp only [List.length_cons, fillSlots, Bitmap.get, Bool.false_eq_true, if_false, ih]

theorem dictBuild_pointwise (es : List (Bytes × Nat)) (sel : List Nat) (bytes : List Bytes)
    (h : dictBuild es sel = some bytes) :
    sel.length = bytes.length ∧
    ∀ k, k < sel.length → ((es.map (·.1))[sel.getD k 0]?) = bytes[k]? := by
  induction sel generalizing bytes with
  | nil => cases h; exact ⟨rfl, fun k hk => absurd hk (Nat.not_lt_zero k)⟩
  | cons s r ih =>
    rw [dictBuild] at h
    cases he : es[s]? with
    | none => rw [he] at h; cases h
    | some e =>
      rw [he] at h
      obtain ⟨bs, hr, rfl⟩ := Option.map_eq_some_iff.mp h
      obtain ⟨i1, i2⟩ := ih bs hr
      refine ⟨congrArg Nat.succ i1, fun k hk => ?_⟩
      cases k with
      | zero => exact List.getElem?_map.trans (congrArg (Option.map (·.1)) he)
      | succ k => exact i2 k (Nat.lt_of_succ_lt_succ hk)

theorem allTrue_of_count_false_zero (F : List Bool) (h : F.count false = 0) (slot : Nat)
    (hs : slot < F.length) : F.getD slot false = true := by
  rw [List.getD_eq_getElem?_getD, List.getElem?_eq_getElem hs, Option.getD_some]
  cases hf : F[slot] with
  | true => rfl
  | false => exact absurd (hf ▸ List.getElem_mem hs) (List.count_eq_zero.mp h)

theorem loadLeaf_some {t : Ty} {p : PCol} {n : Nat} {b : Bitmap} {v : Vec}
    (h : loadLeaf t p n b = some v) :
    (∃ x, v = .const t x n b) ∨ (∃ es idx, v = .dict t es idx b) ∨ v = .constNull n ∨
      ∃ vals, v = .flat t vals b := by
  unfold loadLeaf at h
  cases p with
  | const x c =>
    cases hE : isEnumTy t <;> rw [hE] at h <;> exact Or.inl ⟨x, (Option.some.inj h).symm⟩
  | dict es sel c =>
    cases hE : isEnumTy t <;> rw [hE] at h
    · exact Or.inr (Or.inl ⟨_, _, (Option.some.inj h).symm⟩)
    · cases h
  | plain vals c =>
    cases hE : isEnumTy t <;> rw [hE] at h
    · cases hN : isNullTy t <;> simp only [hN, Bool.false_eq_true, if_false, if_true] at h
      · by_cases hc : c = 0 <;> simp only [hc, if_false, if_true] at h
        · exact Or.inr (Or.inr (Or.inr ⟨_, (Option.some.inj h).symm⟩))
        · cases hA : (isNetTy t && !netAllocated) <;>
            simp only [hA, Bool.false_eq_true, if_false, if_true] at h
          · exact Or.inr (Or.inr (Or.inr ⟨_, (Option.some.inj h).symm⟩))
          · cases h
      · exact Or.inr (Or.inr (Or.inl (Option.some.inj h).symm))
    · cases h

theorem isNullTy_eq {t : Ty} (h : isNullTy t = true) : t = .prim 29 := by
  unfold isNullTy at h
  split at h
  · rfl
  · cases h

theorem loadVals_alloc : ∀ c ∈ loadValsCases, c.2 = "alloc" := by decide +kernel

theorem netAllocated_true : netAllocated = true := by
  rw [netAllocated, Bool.not_eq_true', ← Bool.not_eq_true, List.contains_iff_mem]
  intro h
  exact absurd (loadVals_alloc _ h) (by decide)

/-- **leaves on the vector path**: the loader reads what the builder reads, whichever of
    plain / dictionary / const the column is stored as and whatever the flattened bitmap. -/
theorem loadLeaf_build (t : Ty) (p : PCol) (bytes : List Bytes) (b : Bitmap) (F : List Bool)
    (hb : p.build = some bytes) (hl : p.len = bytes.length) (hR : Rep b F)
    (hcnt : F.count false = bytes.length) (hE : isEnumTy t = false)
    (hnull : isNullTy t = true → bytes = []) :
    ∃ v, loadLeaf t p (F.count true + p.len) b = some v ∧ vecType v = t ∧
      SlotSpec v F (bytes.map Val.prim) := by
  have hcnt' : F.count false = (bytes.map Val.prim).length := by rw [List.length_map]; exact hcnt
  rw [hl, count_true_add hcnt]
  unfold loadLeaf
  rw [if_neg (by rw [hE]; exact Bool.false_ne_true)]
  cases p with
  | const v c =>
    have hb : List.replicate c v = bytes := Option.some.inj hb
    refine ⟨_, rfl, rfl, rfl, fun slot hs => ?_⟩
    rw [serialize_const]
    refine slot_spec hR hcnt' hs _ fun hf hk => ?_
    subst hb
    rw [if_pos hs, List.getElem_map, List.getElem_replicate]
  | dict es sel c =>
    obtain ⟨d1, d2⟩ := dictBuild_pointwise es sel _ hb
    have hsel : F.count false = sel.length := by rw [d1]; exact hcnt
    -- a nil bitmap: the selectors are used as they are, which is what filling would give
    have hidx : (if b.isSome then fillTags F.length 0 b sel else sel) = fillTags F.length 0 b sel := by
      cases hR with
      | some F => rfl
      | none n =>
        rw [List.count_replicate_self] at hsel
        subst hsel
        rw [List.length_replicate]
        exact (fillSlots_none 0 sel 0).symm
    simp only [hidx]
    refine ⟨_, rfl, rfl, fillSlots_length 0 hR sel, fun slot hs => ?_⟩
    rw [serialize_dict]
    refine slot_spec hR hcnt' hs _ fun hf hk => ?_
    have hk' := rank_lt hsel hs hf
    have hd := d2 _ hk'
    rw [List.getD_eq_getElem?_getD, List.getElem?_eq_getElem hk', Option.getD_some] at hd
    rw [fillTags, fillSlots_getElem 0 hR sel hsel hs hf, List.getElem?_eq_getElem hk']
    simp only [hd, List.getElem?_eq_getElem (d1 ▸ hk'), Option.map_some, List.getElem_map]
  | plain vals c =>
    have hb : vals = bytes := Option.some.inj hb
    subst hb
    have hl : c = vals.length := hl
    by_cases hnt : isNullTy t = true
    · have hz : F.count false = 0 := by rw [hcnt, hnull hnt]; rfl
      have ht := isNullTy_eq hnt
      simp only [hnt, if_true]
      refine ⟨_, rfl, by rw [ht]; rfl, rfl, fun slot hs => ?_⟩
      rw [show serialize (.constNull F.length) slot = some .null from rfl, expandVal_getElem F _ slot hs hcnt', allTrue_of_count_false_zero F hz slot hs]
      rfl
    · simp only [hnt, Bool.false_eq_true, if_false]
      by_cases hc0 : c = 0
      · have hz : F.count false = 0 := by rw [hcnt, ← hl, hc0]
        simp only [hc0, if_true]
        refine ⟨_, rfl, rfl, List.length_replicate, fun slot hs => ?_⟩
        rw [serialize_flat, hR.get slot hs, expandVal_getElem F _ slot hs hcnt',
          allTrue_of_count_false_zero F hz slot hs]
        rfl
      · simp only [hc0, if_false, netAllocated_true, Bool.not_true, Bool.and_false, Bool.false_eq_true]
        refine ⟨_, rfl, rfl, fillSlots_length [] hR vals, fun slot hs => ?_⟩
        rw [serialize_flat]
        refine slot_spec hR hcnt' hs _ fun hf hk => ?_
        rw [fillSlots_getElem [] hR vals hcnt hs hf, List.getElem?_eq_getElem (rank_lt hcnt hs hf),
          Option.map_some, List.getElem_map]

theorem load_named (n : Bytes) (c : Col) (P : Bitmap) (cnt : Nat) (own : Option (List Nat × Nat)) :
    load (.named n c) P cnt own = (load c P cnt own).map (Vec.named n) := by
  rw [load]; cases load c P cnt own <;> rfl

theorem load_error (c : Col) (P : Bitmap) (cnt : Nat) (own : Option (List Nat × Nat)) :
    load (.error c) P cnt own = (load c none cnt own).map (Vec.error · (flattenNulls P own)) := by
  rw [load]; cases load c none cnt own <;> rfl

theorem load_record (len : Nat) (fs : FCols) (P : Bitmap) (cnt : Nat) (own : Option (List Nat × Nat)) :
    load (.record len fs) P cnt own =
      (loadFields fs (flattenNulls P own) cnt).map (Vec.record · (cnt + len) (flattenNulls P own)) := by
  rw [load]; cases loadFields fs (flattenNulls P own) cnt <;> rfl

theorem load_array (len : Nat) (lens : List Nat) (vals : Col) (P : Bitmap) (cnt : Nat)
    (own : Option (List Nat × Nat)) :
    load (.array len lens vals) P cnt own = (load vals none 0 none).map
      (Vec.array (offsetsOf (cnt + len) 0 0 (flattenNulls P own) lens) · (flattenNulls P own)) := by
  rw [load]; cases load vals none 0 none <;> rfl

theorem load_set (len : Nat) (lens : List Nat) (vals : Col) (P : Bitmap) (cnt : Nat)
    (own : Option (List Nat × Nat)) :
    load (.set len lens vals) P cnt own = (load vals none 0 none).map
      (Vec.set (offsetsOf (cnt + len) 0 0 (flattenNulls P own) lens) · (flattenNulls P own)) := by
  rw [load]; cases load vals none 0 none <;> rfl

theorem load_map (len : Nat) (lens : List Nat) (keys vals : Col) (P : Bitmap) (cnt : Nat)
    (own : Option (List Nat × Nat)) :
    load (.map len lens keys vals) P cnt own = (load keys none 0 none).bind fun k =>
      (load vals none 0 none).map
        (Vec.map (offsetsOf (cnt + len) 0 0 (flattenNulls P own) lens) k · (flattenNulls P own)) := by
  rw [load]; cases load keys none 0 none <;> cases load vals none 0 none <;> rfl

theorem load_union (len : Nat) (tags : List Nat) (vals : Cols) (P : Bitmap) (cnt : Nat)
    (own : Option (List Nat × Nat)) :
    load (.union len tags vals) P cnt own =
      (loadCols vals).map (Vec.union tags · (flattenNulls P own)) := by
  rw [load]; cases loadCols vals <;> rfl

theorem loadFields_cons (n : Bytes) (c : Col) (rest : FCols) (b : Bitmap) (cnt : Nat) :
    loadFields (.cons n c rest) b cnt =
      (load c b cnt none).bind fun v => (loadFields rest b cnt).map (FVecs.cons n v) := by
  rw [loadFields]; cases load c b cnt none <;> cases loadFields rest b cnt <;> rfl

theorem loadCols_cons (c : Col) (rest : Cols) :
    loadCols (.cons c rest) = (load c none 0 none).bind fun v => (loadCols rest).map (Vecs.cons v) := by
  rw [loadCols]; cases load c none 0 none <;> cases loadCols rest <;> rfl

theorem expandVal_replicate_false (vs : List Val) :
    expandVal (List.replicate vs.length false) vs = vs := by
  induction vs with
  | nil => rfl
  | cons v vs ih =>
    simp only [List.length_cons, List.replicate_succ, expandVal, place, List.map_cons, Val.ofOpt_some]
    simp only [expandVal] at ih
    rw [ih]

theorem SlotSpec.top {v : Vec} {vs : List Val} (h : SlotSpec v (List.replicate vs.length false) vs) :
    v.len = vs.length ∧ ∀ j, j < vs.length → serialize v j = vs[j]? := by
  obtain ⟨hl, hs⟩ := h
  rw [List.length_replicate] at hl hs
  rw [expandVal_replicate_false] at hs
  exact ⟨hl, hs⟩

theorem mapRange_pointwise (f : Nat → Option Val) (xs : List Val) (off : Nat)
    (h : ∀ i, i < xs.length → f (off + i) = xs[i]?) : mapRange f off xs.length = some xs := by
  induction xs generalizing off with
  | nil => rfl
  | cons x xs ih =>
    have h0 := h 0 (by simp)
    simp only [Nat.add_zero, List.getElem?_cons_zero] at h0
    have := ih (off + 1) (by
      intro i hi
      have := h (i + 1) (by simpa using hi)
      simpa [Nat.add_assoc, Nat.add_comm 1 i] using this)
    simp [mapRange, h0, this]

theorem materialize_pointwise (v : Vec) (xs : List Val) (hl : v.len = xs.length)
    (hs : ∀ i, i < xs.length → serialize v i = xs[i]?) :
    materialize v = some (xs.map fun x => (vecType v, x)) := by
  rw [materialize, hl,
    mapRange_pointwise (serialize v) xs 0 (by intro i hi; rw [Nat.zero_add]; exact hs i hi)]
  rfl

end Zed.Vng

/-
  Proofs about the group-by Aggregator model (C10, C08): Zed/Model/AggGroupby.lean.
  `groupby_agrees`: hash table + spill + merge-regroup = one row per distinct key holding the
  aggregate of exactly its rows, for every limit and input order, provided no spill happens or the
  comparator is faithful on the keys.  `naive_agrees`, `agree_perm`: the specification `GroupsAgree` pins
  the output down up to order.  `groupby_partials_compose`: partials-out per chunk, partials-in over the
  concatenation.

  Method: `Same m A B` ("A and B have the same key set and the same per-key aggregate") is a
  congruence for `++`, contains `Perm`, and `GroupsAgree m out rows ↔ Nodup keys ∧ Same m out rows`.
  The re-grouping of a sorted stream is analysed once, for the gated form of the sorted-input mode
  (`relSpill`, Zed/Model/AggSortedSpill.lean); `regroup` is its case with the gate always open.
-/
import Zed.Model.AggGroupby
import Zed.Model.AggSortedSpill
import Zed.Proofs.AggMonoid
import Zed.Proofs.BoolOrder
import Zed.Proofs.ListLift
namespace Zed.Proofs.AggGroupby
open Zed.Agg
open Zed.Proofs.ListLift (foldl_invariant)
variable {K S : Type} [DecidableEq K]

/-- the comparator identifies only identical keys among the keys of `rows` -/
def CompareFaithful (le : K → K → Bool) (rows : List (K × S)) : Prop :=
  ∀ a ∈ rows.map (·.1), ∀ b ∈ rows.map (·.1), eqv le a b = true → a = b

theorem insertBy_perm {α : Type} (le : α → α → Bool) (x : α) (l : List α) :
    (insertBy le x l).Perm (x :: l) := by
  induction l with
  | nil => exact List.Perm.refl _
  | cons y ys ih =>
    simp only [insertBy]
    split
    · exact List.Perm.refl _
    · exact (List.Perm.cons y ih).trans (List.Perm.swap x y ys)

theorem isort_cons {α : Type} (le : α → α → Bool) (x : α) (l : List α) :
    isort le (x :: l) = insertBy le x (isort le l) := rfl

theorem isort_perm {α} (le : α → α → Bool) (l : List α) : (isort le l).Perm l := by
  induction l with
  | nil => exact List.Perm.refl _
  | cons x l ih =>
    rw [isort_cons]
    exact (insertBy_perm le x _).trans (ih.cons x)

theorem insertBy_sorted {α : Type} (le : α → α → Bool) (h : TotalPreorder le) (x : α) (l : List α)
    (hl : l.Pairwise (fun a b => le a b = true)) :
    (insertBy le x l).Pairwise (fun a b => le a b = true) := by
  induction l with
  | nil => simp [insertBy]
  | cons y ys ih =>
    rw [List.pairwise_cons] at hl
    simp only [insertBy]
    split
    · rename_i hxy
      refine List.pairwise_cons.2 ⟨?_, List.pairwise_cons.2 hl⟩
      intro z hz
      rcases List.mem_cons.1 hz with rfl | hz
      · exact hxy
      · exact h.trans _ _ _ hxy (hl.1 z hz)
    · rename_i hxy
      have hyx : le y x = true := (h.total x y).resolve_left hxy
      refine List.pairwise_cons.2 ⟨?_, ih hl.2⟩
      intro z hz
      have hz' := (insertBy_perm le x ys).mem_iff.1 hz
      rcases List.mem_cons.1 hz' with rfl | hz
      · exact hyx
      · exact hl.1 z hz

theorem isort_sorted {α} (le : α → α → Bool) (h : TotalPreorder le) (l : List α) :
    (isort le l).Pairwise (fun a b => le a b = true) := by
  induction l with
  | nil => exact List.Pairwise.nil
  | cons x l ih =>
    rw [isort_cons]
    exact insertBy_sorted le h x _ ih

omit [DecidableEq K] in
theorem rowLe_totalPreorder {le : K → K → Bool} (h : TotalPreorder le) :
    TotalPreorder (rowLe (S := S) le) :=
  h.comap Prod.fst

theorem total_cons (m : Mon S) (k : K) (r : K × S) (rest : List (K × S)) :
    total m k (r :: rest) = if r.1 = k then m.op r.2 (total m k rest) else total m k rest := rfl

theorem total_nil (m : Mon S) (k : K) : total m k ([] : List (K × S)) = m.e := rfl

/-- every row contributes a factor (the unit, if its key is another one): no case split on the key
    in what follows -/
theorem total_cons_op (m : Mon S) (hm : m.Laws) (k : K) (r : K × S) (rest : List (K × S)) :
    total m k (r :: rest) = m.op (if r.1 = k then r.2 else m.e) (total m k rest) := by
  rw [total_cons]
  by_cases h : r.1 = k
  · rw [if_pos h, if_pos h]
  · rw [if_neg h, if_neg h, hm.left_id]

theorem total_append (m : Mon S) (hm : m.Laws) (k : K) (a b : List (K × S)) :
    total m k (a ++ b) = m.op (total m k a) (total m k b) := by
  induction a with
  | nil => rw [List.nil_append, total_nil, hm.left_id]
  | cons r a ih => rw [List.cons_append, total_cons_op m hm, total_cons_op m hm, ih, hm.assoc]

theorem total_perm (m : Mon S) (hm : m.CommLaws) (k : K) {a b : List (K × S)} (h : a.Perm b) :
    total m k a = total m k b := by
  induction h with
  | nil => rfl
  | cons x _ ih => rw [total_cons, total_cons, ih]
  | swap x y l =>
    simp only [total_cons_op m hm.toLaws]
    rw [← hm.assoc, ← hm.assoc, hm.comm (if y.1 = k then y.2 else m.e)]
  | trans _ _ ih₁ ih₂ => exact ih₁.trans ih₂

theorem total_of_not_mem (m : Mon S) (k : K) (l : List (K × S)) (h : k ∉ l.map (·.1)) :
    total m k l = m.e := by
  induction l with
  | nil => rfl
  | cons r l ih =>
    rw [List.map_cons, List.mem_cons, not_or] at h
    rw [total_cons, if_neg (fun e => h.1 e.symm), ih h.2]

theorem total_of_nodup (m : Mon S) (hm : m.Laws) (k : K) (s : S) (l : List (K × S))
    (hn : (l.map (·.1)).Nodup) (hmem : (k, s) ∈ l) : total m k l = s := by
  induction l with
  | nil => cases hmem
  | cons r l ih =>
    rw [List.map_cons, List.nodup_cons] at hn
    rw [total_cons]
    rcases List.mem_cons.1 hmem with rfl | h
    · rw [if_pos rfl, total_of_not_mem m _ l hn.1, hm.right_id]
    · have hk : k ∈ l.map (·.1) := List.mem_map.2 ⟨(k, s), h, rfl⟩
      rw [if_neg (fun e : r.1 = k => hn.1 (e ▸ hk)), ih hn.2 h]

/-- `A` and `B` have the same set of keys and, for every key, the same aggregate -/
def Same (m : Mon S) (A B : List (K × S)) : Prop :=
  (∀ k, k ∈ A.map (·.1) ↔ k ∈ B.map (·.1)) ∧ ∀ k, total m k A = total m k B

theorem Same.refl (m : Mon S) (A : List (K × S)) : Same m A A :=
  ⟨fun _ => Iff.rfl, fun _ => rfl⟩

theorem Same.symm {m : Mon S} {A B : List (K × S)} (h : Same m A B) : Same m B A :=
  ⟨fun k => (h.1 k).symm, fun k => (h.2 k).symm⟩

theorem Same.trans {m : Mon S} {A B C : List (K × S)} (h₁ : Same m A B) (h₂ : Same m B C) :
    Same m A C :=
  ⟨fun k => (h₁.1 k).trans (h₂.1 k), fun k => (h₁.2 k).trans (h₂.2 k)⟩

theorem Same.of_perm {m : Mon S} (hm : m.CommLaws) {A B : List (K × S)} (h : A.Perm B) :
    Same m A B :=
  ⟨fun _ => (h.map (·.1)).mem_iff, fun k => total_perm m hm k h⟩

theorem Same.cons {m : Mon S} (x : K × S) {A B : List (K × S)} (h : Same m A B) :
    Same m (x :: A) (x :: B) := by
  refine ⟨fun k => ?_, fun k => ?_⟩
  · simp only [List.map_cons, List.mem_cons, h.1 k]
  · simp only [total_cons, h.2 k]

theorem Same.append {m : Mon S} (hm : m.Laws) {A A' B B' : List (K × S)}
    (h₁ : Same m A A') (h₂ : Same m B B') : Same m (A ++ B) (A' ++ B') := by
  refine ⟨fun k => ?_, fun k => ?_⟩
  · simp only [List.map_append, List.mem_append, h₁.1 k, h₂.1 k]
  · rw [total_append m hm, total_append m hm, h₁.2 k, h₂.2 k]

/-- a fresh table row `(k, e • s)` is the same as the input row `(k, s)` -/
theorem Same.fresh {m : Mon S} (hm : m.Laws) (k : K) (s : S) (A : List (K × S)) :
    Same m ((k, m.op m.e s) :: A) ((k, s) :: A) := by
  refine ⟨fun k' => ?_, fun k' => ?_⟩
  · simp only [List.map_cons]
  · simp only [total_cons, hm.left_id]

theorem Same.merge {m : Mon S} (hm : m.Laws) (k : K) (acc s : S) (A : List (K × S)) :
    Same m ((k, m.op acc s) :: A) ((k, acc) :: (k, s) :: A) := by
  refine ⟨fun k' => ?_, fun k' => ?_⟩
  · simp only [List.map_cons, List.mem_cons, or_self_left]
  · rw [total_cons_op m hm, total_cons_op m hm, total_cons_op m hm k' (k, s), ← hm.assoc]
    congr 1
    by_cases h : k = k'
    · simp only [if_pos h]
    · simp only [if_neg h, hm.left_id]

theorem agree_of_same (m : Mon S) (hm : m.Laws) {out rows : List (K × S)}
    (hn : (out.map (·.1)).Nodup) (h : Same m out rows) : GroupsAgree m out rows :=
  ⟨hn, h.1, fun k s hks => by rw [← h.2 k, total_of_nodup m hm k s out hn hks]⟩

theorem same_of_agree (m : Mon S) (hm : m.Laws) {out rows : List (K × S)}
    (h : GroupsAgree m out rows) : Same m out rows := by
  refine ⟨h.keys, fun k => ?_⟩
  by_cases hk : k ∈ out.map (·.1)
  · obtain ⟨⟨k', s⟩, hmem, rfl⟩ := List.mem_map.1 hk
    rw [total_of_nodup m hm k' s out h.nodup hmem]
    exact h.vals k' s hmem
  · rw [total_of_not_mem m k out hk, total_of_not_mem m k rows (fun h' => hk ((h.keys k).2 h'))]

theorem total_of_agree (m : Mon S) (hm : m.Laws) {out rows : List (K × S)}
    (h : GroupsAgree m out rows) (k : K) : total m k out = total m k rows :=
  (same_of_agree m hm h).2 k

theorem hasKey_iff (t : List (K × S)) (k : K) : hasKey t k = true ↔ k ∈ t.map (·.1) := by
  simp only [hasKey, List.any_eq_true, List.mem_map, beq_iff_eq]

theorem upsert_keys (m : Mon S) (t : List (K × S)) (k : K) (s : S) :
    (upsert m t k s).map (·.1) =
      if k ∈ t.map (·.1) then t.map (·.1) else t.map (·.1) ++ [k] := by
  induction t with
  | nil => rfl
  | cons r t ih =>
    obtain ⟨k', s'⟩ := r
    simp only [upsert, List.map_cons, List.mem_cons]
    by_cases h : k' = k
    · rw [if_pos h, if_pos (Or.inl h.symm)]; rfl
    · rw [if_neg h, List.map_cons, ih]
      by_cases hin : k ∈ t.map (·.1)
      · rw [if_pos hin, if_pos (Or.inr hin)]
      · rw [if_neg hin, if_neg (fun e => e.elim (fun e => h e.symm) hin)]; rfl

theorem mem_upsert_keys (m : Mon S) (t : List (K × S)) (k : K) (s : S) (k' : K) :
    k' ∈ (upsert m t k s).map (·.1) ↔ k' ∈ t.map (·.1) ∨ k' = k := by
  rw [upsert_keys]
  split
  · rename_i hin
    exact ⟨Or.inl, fun h => h.elim id (fun e => e ▸ hin)⟩
  · rw [List.mem_append, List.mem_singleton]

theorem nodup_upsert_keys (m : Mon S) {t : List (K × S)} (k : K) (s : S)
    (h : (t.map (·.1)).Nodup) : ((upsert m t k s).map (·.1)).Nodup := by
  rw [upsert_keys]
  split
  · exact h
  · rename_i hin
    exact List.nodup_append.2 ⟨h, List.nodup_cons.2 ⟨List.not_mem_nil, List.nodup_nil⟩,
      fun a ha b hb e => hin (List.mem_singleton.1 hb ▸ e ▸ ha)⟩

theorem upsert_of_not_mem (m : Mon S) (t : List (K × S)) (k : K) (s : S)
    (h : k ∉ t.map (·.1)) : upsert m t k s = t ++ [(k, m.op m.e s)] := by
  induction t with
  | nil => rfl
  | cons r t ih =>
    obtain ⟨k', s'⟩ := r
    rw [List.map_cons, List.mem_cons, not_or] at h
    rw [upsert, if_neg (fun e => h.1 e.symm), ih h.2, List.cons_append]

theorem upsert_same (m : Mon S) (hm : m.CommLaws) (t : List (K × S)) (k : K) (s : S) :
    Same m (upsert m t k s) (t ++ [(k, s)]) := by
  induction t with
  | nil => exact Same.fresh hm.toLaws k s []
  | cons r t ih =>
    obtain ⟨k', s'⟩ := r
    rw [upsert]
    split
    · rename_i h
      subst h
      exact (Same.merge hm.toLaws k' s' s t).trans
        (Same.of_perm hm ((List.perm_append_singleton _ _).symm.cons _))
    · exact Same.cons _ ih

theorem consume_keep (m : Mon S) (le : K → K → Bool) (limit : Nat) (st : GB K S) (r : K × S)
    (h : r.1 ∈ st.table.map (·.1) ∨ st.table.length < limit) :
    consume m le limit st r = { st with table := upsert m st.table r.1 r.2 } := by
  unfold consume
  by_cases hin : r.1 ∈ st.table.map (·.1)
  · rw [if_pos ((hasKey_iff _ _).2 hin)]
  · rw [if_neg (fun e => hin ((hasKey_iff _ _).1 e)),
      if_neg (Nat.not_le.2 (h.resolve_left hin)), upsert_of_not_mem m _ _ _ hin]

theorem consume_spill (m : Mon S) (le : K → K → Bool) (limit : Nat) (st : GB K S) (r : K × S)
    (hin : r.1 ∉ st.table.map (·.1)) (hlen : limit ≤ st.table.length) :
    consume m le limit st r =
      { table := [(r.1, m.op m.e r.2)], runs := st.runs ++ [isort (rowLe le) st.table] } := by
  unfold consume
  rw [if_neg (fun e => hin ((hasKey_iff _ _).1 e)), if_pos hlen]

omit [DecidableEq K] in
/-- in a sorted stream, a group head that does not compare equal to the next row has no row
    of its key further on -/
theorem head_not_mem (le : K → K → Bool) (hle : TotalPreorder le) (k : K) (r : K × S)
    (rest : List (K × S)) (hsorted : ∀ r' ∈ rest, rowLe le r r' = true)
    (hkr : le k r.1 = true) (he : ¬ eqv le k r.1 = true) : k ∉ (r :: rest).map (·.1) := by
  intro hmem
  apply he
  have hrk : le r.1 k = true := by
    rw [List.map_cons, List.mem_cons] at hmem
    rcases hmem with h | h
    · rw [← h]; exact hle.refl k
    · obtain ⟨r', hr', e⟩ := List.mem_map.1 h
      rw [← e]; exact hsorted r' hr'
  exact BoolOrder.sym_iff.2 ⟨hkr, hrk⟩

section relSpill
variable {P : Type}

/-- `relSpill` on the sorted stream `L`, started with `init` in its accumulator, consumes the prefix
    `pre`; it emits the groups of `init ++ pre`, one per key, all strictly below `ms` on the primary
    key, and none of their keys stays behind -/
structure RelOk (m : Mon S) (prim : K → P) (vle : P → P → Bool) (ms : P) (init L : List (K × S))
    (res : List (K × S) × List (K × S)) (pre : List (K × S)) : Prop where
  split : L = pre ++ res.2
  same : Same m res.1 (init ++ pre)
  nodup : (res.1.map (·.1)).Nodup
  below : ∀ k ∈ res.1.map (·.1), ltOf vle (prim k) ms = true
  apart : ∀ k ∈ res.1.map (·.1), k ∉ res.2.map (·.1)

theorem relSpill_ok {m : Mon S} (hm : m.Laws) {le : K → K → Bool} (hle : TotalPreorder le)
    (prim : K → P) (vle : P → P → Bool) (ms : P)
    {ks : List K} (hf : ∀ a ∈ ks, ∀ b ∈ ks, eqv le a b = true → a = b)
    (o : Option (K × S)) (L : List (K × S))
    (hsorted : L.Pairwise (fun a b => rowLe le a b = true)) (hL : ∀ r ∈ L, r.1 ∈ ks)
    (ho : ∀ c ∈ o, (∀ r ∈ L, le c.1 r.1 = true) ∧ c.1 ∈ ks ∧ ltOf vle (prim c.1) ms = true) :
    ∃ pre, RelOk m prim vle ms o.toList L (relSpill m le prim vle ms o L) pre := by
  have start : ∀ {r : K × S} {rest : List (K × S)} (s : S),
      (r :: rest).Pairwise (fun a b => rowLe le a b = true) → (∀ x ∈ r :: rest, x.1 ∈ ks) →
      ltOf vle (prim r.1) ms = true →
      ∀ c ∈ some (r.1, s), (∀ x ∈ rest, le c.1 x.1 = true) ∧ c.1 ∈ ks ∧ ltOf vle (prim c.1) ms = true :=
    @fun r rest s hs hL hlt c hc => Option.mem_some_iff.1 hc ▸
      ⟨(List.pairwise_cons.1 hs).1, hL r List.mem_cons_self, hlt⟩
  have one : ∀ c : K × S, ([c].map (·.1)).Nodup := fun c =>
    List.nodup_cons.2 ⟨List.not_mem_nil, List.nodup_nil⟩
  fun_induction relSpill m le prim vle ms o L with
  -- no group open, the stream exhausted
  | case1 => exact ⟨[], rfl, Same.refl m _, List.nodup_nil, nofun, nofun⟩
  -- a group open, the stream exhausted: it is emitted
  | case2 cur =>
    exact ⟨[], rfl, Same.refl m _, one cur, List.forall_mem_singleton.2 (ho cur rfl).2.2, fun _ _ => List.not_mem_nil⟩
  -- no group open, the head row passes the gate: it opens a group
  | case3 r rest hlt ih =>
    obtain ⟨pre, h⟩ := ih (List.pairwise_cons.1 hsorted).2 (fun x hx => hL x (List.mem_cons_of_mem _ hx))
      (start _ hsorted hL hlt)
    exact ⟨r :: pre, congrArg (List.cons r) h.split, h.same.trans (Same.fresh hm r.1 r.2 pre),
      h.nodup, h.below, h.apart⟩
  -- no group open, the head row stops at the gate
  | case4 r rest hlt => exact ⟨[], rfl, Same.refl m _, List.nodup_nil, nofun, nofun⟩
  -- the head row compares equal to the open group: it joins
  | case5 k acc r rest he ih =>
    obtain ⟨hlow, hk, hkms⟩ := ho (k, acc) rfl
    obtain ⟨pre, h⟩ := ih (List.pairwise_cons.1 hsorted).2 (fun x hx => hL x (List.mem_cons_of_mem _ hx))
      (fun c hc => Option.mem_some_iff.1 hc ▸ ⟨fun x hx => hlow x (List.mem_cons_of_mem _ hx), hk, hkms⟩)
    obtain ⟨k', s⟩ := r
    cases hf k hk k' (hL _ List.mem_cons_self) he
    exact ⟨(k, s) :: pre, congrArg (List.cons _) h.split,
      h.same.trans (Same.merge hm k acc s pre), h.nodup, h.below, h.apart⟩
  -- it does not, and passes the gate: the group is emitted, the row opens the next
  | case6 k acc r rest he hlt res ih =>
    obtain ⟨hlow, hk, hkms⟩ := ho (k, acc) rfl
    have hnot : k ∉ (r :: rest).map (·.1) :=
      head_not_mem le hle k r rest (List.pairwise_cons.1 hsorted).1 (hlow r List.mem_cons_self) he
    obtain ⟨pre, hpre, hs, hn, hlt', hdis⟩ := ih (List.pairwise_cons.1 hsorted).2
      (fun x hx => hL x (List.mem_cons_of_mem _ hx)) (start _ hsorted hL hlt)
    have hs' : Same m res.1 (r :: pre) := hs.trans (Same.fresh hm r.1 r.2 pre)
    rw [hpre, ← List.cons_append, List.map_append, List.mem_append, not_or] at hnot
    exact ⟨r :: pre, congrArg (List.cons r) hpre, Same.cons _ hs',
      List.nodup_cons.2 ⟨fun hin => hnot.1 ((hs'.1 k).1 hin), hn⟩,
      List.forall_mem_cons.2 ⟨hkms, hlt'⟩, List.forall_mem_cons.2 ⟨hnot.2, hdis⟩⟩
  -- it does not, and stops at the gate: the group is emitted
  | case7 k acc r rest he hlt =>
    obtain ⟨hlow, hk, hkms⟩ := ho (k, acc) rfl
    exact ⟨[], rfl, Same.refl m _, one _, List.forall_mem_singleton.2 hkms,
      List.forall_mem_singleton.2
        (head_not_mem le hle k r rest (List.pairwise_cons.1 hsorted).1 (hlow r List.mem_cons_self) he)⟩

end relSpill

omit [DecidableEq K] in
/-- `regroup`, the re-grouping at the end of the input, is `relSpill` with a gate that never
    closes (every primary key `false`, the bound `true`): it leaves nothing behind -/
theorem relSpill_open (m : Mon S) (le : K → K → Bool) (o : Option (K × S)) (L : List (K × S)) :
    relSpill m le (fun _ => false) (fun a b => !a || b) true o L = (regroup m le o L, []) := by
  have hopen : ltOf (fun a b : Bool => !a || b) false true = true := rfl
  induction L generalizing o with
  | nil => cases o <;> rfl
  | cons r rest ih =>
    cases o with
    | none => rw [relSpill, if_pos hopen, ih, regroup]
    | some cur =>
      rw [relSpill, regroup]
      split
      · exact ih _
      · rw [ih]

theorem regroup_none {m : Mon S} (hm : m.Laws) {le : K → K → Bool} (hle : TotalPreorder le)
    {ks : List K} (hf : ∀ a ∈ ks, ∀ b ∈ ks, eqv le a b = true → a = b)
    {L : List (K × S)}
    (hsorted : L.Pairwise (fun a b => rowLe le a b = true))
    (hL : ∀ r ∈ L, r.1 ∈ ks) :
    ((regroup m le none L).map (·.1)).Nodup ∧ Same m (regroup m le none L) L := by
  obtain ⟨pre, h⟩ := relSpill_ok hm hle (fun _ => false) (fun a b => !a || b) true hf none L hsorted hL nofun
  rw [relSpill_open] at h
  exact ⟨h.nodup, (List.append_nil pre ▸ h.split) ▸ h.same⟩

/-- The books of the group-by after the input `xs`: released rows, rows in spill files, table.  Every
    step of every mode composes the moves below. -/
structure Ledger (m : Mon S) (out ext tab xs : List (K × S)) : Prop where
  same : Same m (out ++ ext ++ tab) xs
  outNodup : (out.map (·.1)).Nodup
  tabNodup : (tab.map (·.1)).Nodup
  outExt : ∀ k ∈ out.map (·.1), k ∉ ext.map (·.1)
  outTab : ∀ k ∈ out.map (·.1), k ∉ tab.map (·.1)

section
variable {m : Mon S} {out ext tab xs : List (K × S)}

theorem Ledger.init (m : Mon S) : Ledger m [] [] [] ([] : List (K × S)) :=
  ⟨Same.refl m _, List.nodup_nil, List.nodup_nil, (fun _ hk => nomatch hk), (fun _ hk => nomatch hk)⟩

theorem Ledger.upsert (hm : m.CommLaws) (h : Ledger m out ext tab xs) (r : K × S)
    (hr : r.1 ∉ out.map (·.1)) : Ledger m out ext (upsert m tab r.1 r.2) (xs ++ [r]) := by
  refine ⟨?_, h.outNodup, nodup_upsert_keys m _ _ h.tabNodup, h.outExt, fun k hk hin =>
    ((mem_upsert_keys m _ _ _ k).1 hin).elim (h.outTab k hk) (fun e => hr (e ▸ hk))⟩
  refine (Same.append hm.toLaws (Same.refl m (out ++ ext)) (upsert_same m hm tab r.1 r.2)).trans ?_
  rw [← List.append_assoc]
  exact Same.append hm.toLaws h.same (Same.refl m _)

theorem Ledger.spill (hm : m.CommLaws) (h : Ledger m out ext tab xs) {ext' : List (K × S)}
    (hp : ext'.Perm (ext ++ tab)) : Ledger m out ext' [] xs := by
  refine ⟨(Same.of_perm hm ?_).trans h.same, h.outNodup, List.nodup_nil, fun k hk hin => ?_,
    fun _ _ hin => nomatch hin⟩
  · rw [List.append_nil, List.append_assoc]
    exact hp.append_left _
  · rcases List.mem_append.1 (List.map_append ▸ (hp.map (fun x : K × S => x.1)).mem_iff.1 hin) with h1 | h1
    · exact h.outExt k hk h1
    · exact h.outTab k hk h1

theorem Ledger.releaseTab (hm : m.CommLaws) (h : Ledger m out ext tab xs) {rel keep : List (K × S)}
    (hp : tab.Perm (rel ++ keep)) (hext : ∀ k ∈ rel.map (·.1), k ∉ ext.map (·.1)) :
    Ledger m (out ++ rel) ext keep xs := by
  have hnd := (hp.map (fun x : K × S => x.1)).nodup_iff.1 h.tabNodup
  rw [List.map_append, List.nodup_append] at hnd
  have hsub : ∀ k, k ∈ rel.map (·.1) ∨ k ∈ keep.map (·.1) → k ∈ tab.map (·.1) := fun k hk =>
    (hp.map (fun x : K × S => x.1)).mem_iff.2 (List.map_append ▸ List.mem_append.2 hk)
  have hout : ∀ k, k ∈ (out ++ rel).map (·.1) → k ∈ out.map (·.1) ∨ k ∈ rel.map (·.1) :=
    fun k hk => List.mem_append.1 (List.map_append ▸ hk)
  refine ⟨(Same.of_perm hm ?_).trans h.same, ?_, hnd.2.1, ?_, ?_⟩
  · rw [List.append_assoc, List.append_assoc, List.append_assoc]
    exact List.Perm.append_left _ ((List.perm_append_comm_assoc _ _ _).trans
      (List.Perm.append_left _ hp.symm))
  · rw [List.map_append]
    exact List.nodup_append.2 ⟨h.outNodup, hnd.1,
      fun a ha b hb e => h.outTab a ha (e ▸ hsub b (Or.inl hb))⟩
  · exact fun k hk => (hout k hk).elim (h.outExt k) (hext k)
  · exact fun k hk hin => (hout k hk).elim (fun hk => h.outTab k hk (hsub k (Or.inr hin)))
      (fun hk => hnd.2.2 k hk k hin rfl)

theorem Ledger.releaseExt (hm : m.Laws) {pre rest em : List (K × S)}
    (h : Ledger m out (pre ++ rest) tab xs) (hs : Same m em pre) (hn : (em.map (·.1)).Nodup)
    (hrest : ∀ k ∈ em.map (·.1), k ∉ rest.map (·.1))
    (htab : ∀ k ∈ em.map (·.1), k ∉ tab.map (·.1)) :
    Ledger m (out ++ em) rest tab xs := by
  have hout : ∀ k, k ∈ (out ++ em).map (·.1) → k ∈ out.map (·.1) ∨ k ∈ em.map (·.1) :=
    fun k hk => List.mem_append.1 (List.map_append ▸ hk)
  have hpre : ∀ k, k ∈ em.map (·.1) → k ∈ (pre ++ rest).map (·.1) := fun k hk =>
    List.map_append ▸ List.mem_append_left _ ((hs.1 k).1 hk)
  have hrst : ∀ k, k ∈ rest.map (·.1) → k ∈ (pre ++ rest).map (·.1) := fun k hk =>
    List.map_append ▸ List.mem_append_right _ hk
  refine ⟨Same.trans (Same.append hm ?_ (Same.refl m _)) h.same, ?_, h.tabNodup, ?_, ?_⟩
  · rw [List.append_assoc]
    exact Same.append hm (Same.refl m _) (Same.append hm hs (Same.refl m _))
  · rw [List.map_append]
    exact List.nodup_append.2 ⟨h.outNodup, hn, fun a ha b hb e => h.outExt a ha (e ▸ hpre b hb)⟩
  · exact fun k hk hin => (hout k hk).elim (fun hk => h.outExt k hk (hrst k hin))
      (fun hk => hrest k hk hin)
  · exact fun k hk => (hout k hk).elim (h.outTab k) (htab k)

theorem Ledger.agree (hm : m.Laws) (h : Ledger m out [] tab xs) : GroupsAgree m (out ++ tab) xs := by
  refine agree_of_same m hm ?_ (List.append_nil out ▸ h.same)
  rw [List.map_append]
  exact List.nodup_append.2 ⟨h.outNodup, h.tabNodup, fun a ha b hb e => h.outTab a ha (e ▸ hb)⟩

/-- end of input with spill files: `spill`, `releaseExt` of the whole stream, `agree` -/
theorem Ledger.agree_regroup (hm : m.CommLaws) {le : K → K → Bool} (hle : TotalPreorder le)
    (h : Ledger m out ext tab xs) (hf : CompareFaithful le xs) {L : List (K × S)}
    (hL : L.Perm (ext ++ tab)) (hs : L.Pairwise (fun a b => rowLe le a b = true)) :
    GroupsAgree m (out ++ regroup m le none L) xs := by
  have h1 : Ledger m out (L ++ []) [] xs := (List.append_nil L).symm ▸ h.spill hm hL
  obtain ⟨hn, hsame⟩ := regroup_none hm.toLaws hle hf hs fun r hr => (h1.same.1 r.1).1 (by
    rw [List.append_nil, List.append_nil, List.map_append]
    exact List.mem_append_right _ (List.mem_map.2 ⟨r, hr, rfl⟩))
  have := (h1.releaseExt hm.toLaws hsame hn (fun _ _ hin => nomatch hin)
    (fun _ _ hin => nomatch hin)).agree hm.toLaws
  rwa [List.append_nil] at this

end

theorem ledger_consume {m : Mon S} (hm : m.CommLaws) (le : K → K → Bool) (limit : Nat)
    {st : GB K S} {xs : List (K × S)} (r : K × S) (h : Ledger m [] st.runs.flatten st.table xs) :
    Ledger m [] (consume m le limit st r).runs.flatten (consume m le limit st r).table (xs ++ [r]) := by
  by_cases hc : r.1 ∈ st.table.map (·.1) ∨ st.table.length < limit
  · rw [consume_keep m le limit st r hc]
    exact h.upsert hm r List.not_mem_nil
  · rw [not_or, Nat.not_lt] at hc
    rw [consume_spill m le limit st r hc.1 hc.2]
    refine (h.spill hm ?_).upsert hm r List.not_mem_nil
    rw [List.flatten_append, List.flatten_cons, List.flatten_nil, List.append_nil]
    exact (isort_perm _ _).append_left _

/-- for every limit and every input (any order), if no spill happens or the comparator is
    faithful on the keys present, the output has exactly one row per distinct key holding the
    aggregate of exactly the rows with that key -/
theorem groupby_agrees (m : Mon S) (hm : m.CommLaws) (le : K → K → Bool) (hle : TotalPreorder le)
    (limit : Nat) (rows : List (K × S))
    (guard : spillCount m le limit rows = 0 ∨ CompareFaithful le rows) :
    GroupsAgree m (groupby m le limit rows) rows := by
  have h : Ledger m [] (runGB m le limit rows).runs.flatten (runGB m le limit rows).table rows :=
    foldl_invariant (I := fun (st : GB K S) xs _ => Ledger m [] st.runs.flatten st.table xs) (st := {})
      (xs := []) (ys := []) (fun _ _ r _ h => ledger_consume hm le limit r h) rows (Ledger.init m)
  unfold groupby finish
  unfold spillCount at guard
  generalize runGB m le limit rows = st at h guard
  split
  · rename_i hempty
    rw [List.isEmpty_iff] at hempty
    rw [hempty] at h
    exact h.agree hm.toLaws
  · rename_i hne
    have hf : CompareFaithful le rows := guard.resolve_left fun h0 => hne (by
      rw [List.length_eq_zero_iff.1 h0]; rfl)
    refine h.agree_regroup hm hle hf ((isort_perm _ _).trans ?_)
      (isort_sorted _ (rowLe_totalPreorder hle) _)
    split
    · rename_i he
      rw [List.isEmpty_iff.1 he, List.append_nil]
    · rw [List.flatten_append, List.flatten_cons, List.flatten_nil, List.append_nil]
      exact (isort_perm _ _).append_left _

theorem mem_dedupKeys (l : List K) (x : K) : x ∈ dedupKeys l ↔ x ∈ l := by
  induction l with
  | nil => exact Iff.rfl
  | cons k ks ih =>
    simp only [dedupKeys, List.mem_cons, List.mem_filter, ih, decide_eq_true_eq]
    exact ⟨fun h => h.imp id And.left, fun h => (Decidable.em (x = k)).imp id fun hne => ⟨h.resolve_left hne, hne⟩⟩

theorem nodup_dedupKeys (l : List K) : (dedupKeys l).Nodup := by
  induction l with
  | nil => exact List.Pairwise.nil
  | cons k ks ih =>
    rw [dedupKeys, List.nodup_cons, List.mem_filter, decide_eq_true_eq]
    exact ⟨fun h => h.2 rfl, List.Pairwise.filter _ ih⟩

theorem naive_agrees (m : Mon S) (rows : List (K × S)) :
    GroupsAgree m (naiveGroup m rows) rows := by
  have hmap : (naiveGroup m rows).map (·.1) = dedupKeys (rows.map (·.1)) := by
    rw [naiveGroup, List.map_map]; exact List.map_id _
  refine ⟨hmap ▸ nodup_dedupKeys _, fun k => hmap ▸ mem_dedupKeys _ k, ?_⟩
  intro k s h
  obtain ⟨k', _, e⟩ := List.mem_map.1 h
  cases e
  rfl

theorem agree_mem (m : Mon S) (out₁ out₂ rows : List (K × S))
    (h₁ : GroupsAgree m out₁ rows) (h₂ : GroupsAgree m out₂ rows) (x : K × S) (hx : x ∈ out₁) :
    x ∈ out₂ := by
  obtain ⟨k, s⟩ := x
  obtain ⟨⟨k', s'⟩, hmem, rfl⟩ := List.mem_map.1
    ((h₂.keys k).2 ((h₁.keys k).1 (List.mem_map.2 ⟨(k, s), hx, rfl⟩)))
  rw [h₁.vals _ _ hx, ← h₂.vals _ _ hmem]
  exact hmem

theorem agree_perm (m : Mon S) (out₁ out₂ rows : List (K × S))
    (h₁ : GroupsAgree m out₁ rows) (h₂ : GroupsAgree m out₂ rows) : out₁.Perm out₂ :=
  have of_map : ∀ {l : List (K × S)}, (l.map (·.1)).Nodup → l.Nodup :=
    List.Pairwise.of_map _ fun _ _ hne e => hne (congrArg _ e)
  (List.perm_ext_iff_of_nodup (of_map h₁.nodup) (of_map h₂.nodup)).2
    fun x => ⟨agree_mem m out₁ out₂ rows h₁ h₂ x, agree_mem m out₂ out₁ rows h₂ h₁ x⟩

theorem same_flatten (m : Mon S) (hm : m.Laws) (g : List (K × S) → List (K × S))
    (chunks : List (List (K × S))) (h : ∀ c ∈ chunks, Same m (g c) c) :
    Same m (chunks.map g).flatten chunks.flatten := by
  induction chunks with
  | nil => exact Same.refl m _
  | cons c cs ih =>
    rw [List.map_cons, List.flatten_cons, List.flatten_cons]
    exact Same.append hm (h c List.mem_cons_self)
      (ih fun c' hc' => h c' (List.mem_cons_of_mem _ hc'))

omit [DecidableEq K] in
theorem CompareFaithful.mono {le : K → K → Bool} {A B : List (K × S)}
    (h : CompareFaithful le B) (hsub : ∀ k, k ∈ A.map (·.1) → k ∈ B.map (·.1)) :
    CompareFaithful le A :=
  fun a ha b hb => h a (hsub a ha) b (hsub b hb)

/-- partial decomposition: split the input into chunks (= scatter legs / partials-out stages),
    group each chunk with its own limit, feed the concatenated partial rows to a second group-by
    (partials-in): the result agrees with the undivided input. Guard as above, on every stage. -/
theorem groupby_partials_compose (m : Mon S) (hm : m.CommLaws) (le : K → K → Bool)
    (hle : TotalPreorder le) (limit₁ limit₂ : Nat) (chunks : List (List (K × S)))
    (guard : CompareFaithful le chunks.flatten ∨
      ((∀ c ∈ chunks, spillCount m le limit₁ c = 0) ∧
        spillCount m le limit₂ (chunks.map (groupby m le limit₁)).flatten = 0)) :
    GroupsAgree m (groupby m le limit₂ (chunks.map (groupby m le limit₁)).flatten)
      chunks.flatten := by
  have hstage₁ : ∀ c ∈ chunks, Same m (groupby m le limit₁ c) c := by
    intro c hc
    refine same_of_agree m hm.toLaws (groupby_agrees m hm le hle limit₁ c ?_)
    rcases guard with hf | ⟨h, _⟩
    · refine Or.inr (hf.mono fun k hk => ?_)
      obtain ⟨r, hr, e⟩ := List.mem_map.1 hk
      exact List.mem_map.2 ⟨r, List.mem_flatten.2 ⟨c, hc, hr⟩, e⟩
    · exact Or.inl (h c hc)
  have hflat : Same m (chunks.map (groupby m le limit₁)).flatten chunks.flatten :=
    same_flatten m hm.toLaws _ chunks hstage₁
  have hstage₂ := groupby_agrees m hm le hle limit₂ (chunks.map (groupby m le limit₁)).flatten
    (by
      rcases guard with hf | ⟨_, h⟩
      · exact Or.inr (hf.mono fun k hk => (hflat.1 k).1 hk)
      · exact Or.inl h)
  exact agree_of_same m hm.toLaws hstage₂.nodup ((same_of_agree m hm.toLaws hstage₂).trans hflat)

/-! (ℕ, ≤, +), also for the examples of AggSorted, AggSortedSpill, Props/C10 -/

def natLe : Nat → Nat → Bool := fun a b => decide (a ≤ b)

theorem natLe_totalPreorder : TotalPreorder natLe :=
  ⟨fun a b => by simp only [natLe, decide_eq_true_eq]; exact Nat.le_total a b,
   fun a b c => by simp only [natLe, decide_eq_true_eq]; exact Nat.le_trans⟩

def addMon : Mon Nat := ⟨(· + ·), 0⟩

theorem addMon_commLaws : addMon.CommLaws := AggMonoid.countMon_laws

theorem natLe_faithful (rows : List (Nat × Nat)) : CompareFaithful natLe rows := by
  intro a _ b _ h
  have h := BoolOrder.sym_iff.1 h
  simp only [natLe, decide_eq_true_eq] at h
  exact Nat.le_antisymm h.1 h.2

section Examples

/-- 5 distinct keys, limit 2: the table spills -/
def exRows : List (Nat × Nat) :=
  [(3, 1), (1, 10), (4, 100), (1, 1000), (5, 7), (9, 2), (3, 5), (4, 1), (2, 6), (5, 3)]

example : spillCount addMon natLe 2 exRows = 4 := by decide

example : groupby addMon natLe 2 exRows = [(1, 1010), (2, 6), (3, 6), (4, 101), (5, 10), (9, 2)] := by
  decide +kernel

/-- the `CompareFaithful` disjunct of the guard, with spills happening -/
example : GroupsAgree addMon (groupby addMon natLe 2 exRows) exRows :=
  groupby_agrees addMon addMon_commLaws natLe natLe_totalPreorder 2 exRows
    (Or.inr (natLe_faithful exRows))

example : spillCount addMon natLe 10 exRows = 0 := by decide

/-- the `spillCount = 0` disjunct of the guard (limit larger than the number of groups) -/
example : GroupsAgree addMon (groupby addMon natLe 10 exRows) exRows :=
  groupby_agrees addMon addMon_commLaws natLe natLe_totalPreorder 10 exRows (Or.inl (by decide))

/-- the guard is needed: a comparator that identifies distinct keys (here: compares `k / 10`)
    makes the spill-merge combine rows of different groups -/
def coarseLe : Nat → Nat → Bool := fun a b => decide (a / 10 ≤ b / 10)

def badRows : List (Nat × Nat) := [(10, 1), (20, 1), (11, 1), (21, 1)]

example : spillCount addMon coarseLe 2 badRows > 0 := by decide
example : groupby addMon coarseLe 2 badRows = [(10, 2), (20, 2)] := by decide
example : ¬ GroupsAgree addMon (groupby addMon coarseLe 2 badRows) badRows := by
  intro h
  have := (h.keys 11).2 (by decide)
  revert this
  decide

/-- partials compose, chunks of the example, both stages spilling -/
example : GroupsAgree addMon
    (groupby addMon natLe 2 (([exRows.take 5, exRows.drop 5]).map (groupby addMon natLe 2)).flatten)
    ([exRows.take 5, exRows.drop 5]).flatten :=
  groupby_partials_compose addMon addMon_commLaws natLe natLe_totalPreorder 2 2 _
    (Or.inl (natLe_faithful _))

end Examples

end Zed.Proofs.AggGroupby

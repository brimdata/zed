/-
  One snapshot under actions; `uniqueIds`; the ids of a stored snapshot are distinct (`snapAt_nodup`).
  Membership of an object is argued as `hasObj` (`find`, `ids.contains` are
  brought to it); `Snap.ids` is for `Nodup`.
-/
import Zed.Proofs.LakeStore
namespace Zed.Lake
variable {K : Type}

theorem hasObj_append (s : Snap K) (os : List (Obj K)) (id : Nat) :
    ({ s with objs := s.objs ++ os } : Snap K).hasObj id = (s.hasObj id || os.any (·.id == id)) := by
  simp [Snap.hasObj, List.any_append]

theorem addObj_ok (s s' : Snap K) (o : Obj K) (h : s.addObj o = .ok s') :
    s.hasObj o.id = false ∧ s' = { s with objs := s.objs ++ [o] } := by
  revert h
  fun_cases Snap.addObj s o <;> intro h <;> cases h
  case case2 hn => exact ⟨by simpa using hn, rfl⟩

theorem addObj_of (s : Snap K) (o : Obj K) (h : s.hasObj o.id = false) :
    s.addObj o = .ok { s with objs := s.objs ++ [o] } := by
  unfold Snap.addObj; simp [h]

theorem hasObj_addObj (s s' : Snap K) (o : Obj K) (h : s.addObj o = .ok s') (id : Nat) :
    s'.hasObj id = (s.hasObj id || o.id == id) := by
  rw [(addObj_ok s s' o h).2, hasObj_append]; simp

theorem delObj_ok (s s' : Snap K) (x : Nat) (h : s.delObj x = .ok s') :
    s.hasObj x = true ∧ s' = { s with objs := s.objs.filter (·.id != x) } := by
  revert h
  fun_cases Snap.delObj s x <;> intro h <;> cases h
  case case1 hy => exact ⟨hy, rfl⟩

theorem delObj_of (s : Snap K) (x : Nat) (h : s.hasObj x = true) :
    s.delObj x = .ok { s with objs := s.objs.filter (·.id != x) } := by
  unfold Snap.delObj; simp [h]

theorem addVec_ok (s s' : Snap K) (v : Nat) (h : s.addVec v = .ok s') :
    s.hasVec v = false ∧ s' = { s with vecs := s.vecs ++ [v] } := by
  revert h
  fun_cases Snap.addVec s v <;> intro h <;> cases h
  case case2 hn => exact ⟨by simpa using hn, rfl⟩

theorem delVec_ok (s s' : Snap K) (v : Nat) (h : s.delVec v = .ok s') :
    s.hasVec v = true ∧ s' = { s with vecs := s.vecs.filter (· != v) } := by
  revert h
  fun_cases Snap.delVec s v <;> intro h <;> cases h
  case case1 hy => exact ⟨hy, rfl⟩

theorem hasObj_filter (s : Snap K) (q : Nat → Bool) (id : Nat) :
    ({ s with objs := s.objs.filter (fun o => q o.id) } : Snap K).hasObj id = (s.hasObj id && q id) := by
  simp only [Snap.hasObj, List.any_filter]
  induction s.objs with
  | nil => rfl
  | cons o os ih =>
    simp only [List.any_cons, ih]
    by_cases h : o.id = id
    · subst h; cases q o.id <;> simp
    · have : (o.id == id) = false := by simpa using h
      simp [this]

theorem hasObj_delObj (s s' : Snap K) (x : Nat) (h : s.delObj x = .ok s') (id : Nat) :
    s'.hasObj id = (s.hasObj id && x != id) := by
  rw [(delObj_ok s s' x h).2, hasObj_filter s (· != x), bne_comm]

theorem play_dels (s : Snap K) (ids : List Nat) (hn : ids.Nodup) (hin : ∀ id ∈ ids, s.hasObj id = true) :
    play s (ids.map .del) = .ok { s with objs := s.objs.filter (fun o => !ids.contains o.id) } := by
  induction ids generalizing s with
  | nil => simp [play, List.filter_eq_self.mpr]
  | cons x xs ih =>
    have hn' := List.nodup_cons.mp hn
    simp only [List.map_cons, play, playAction, delObj_of s x (hin x (by simp))]
    rw [ih _ hn'.2 (by
      intro id hid
      rw [hasObj_filter s (· != x), hin id (by simp [hid])]
      have : id ≠ x := fun h => hn'.1 (h ▸ hid)
      simpa using this)]
    simp only [List.filter_filter]
    congr 3
    funext o
    simp only [List.contains_cons]
    cases hx : (o.id == x) <;> simp [hx, bne]

theorem play_adds (s : Snap K) (os : List (Obj K)) (hn : (os.map (·.id)).Nodup)
    (hout : ∀ o ∈ os, s.hasObj o.id = false) :
    play s (os.map .add) = .ok { s with objs := s.objs ++ os } := by
  induction os generalizing s with
  | nil => simp [play]
  | cons o os ih =>
    simp only [List.map_cons, play, playAction, addObj_of s o (hout o (by simp))]
    have hn' := List.nodup_cons.mp hn
    rw [ih { s with objs := s.objs ++ [o] } hn'.2 (by
      intro o' ho'
      rw [hasObj_append, hout o' (by simp [ho'])]
      have : o.id ≠ o'.id := fun h => hn'.1 (by
        show o.id ∈ List.map (fun x => x.id) os
        rw [h]; exact List.mem_map_of_mem (f := fun x : Obj K => x.id) ho')
      simpa using this)]
    simp

theorem play_dels_adds (s : Snap K) (dels : List Nat) (objs : List (Obj K)) (hdn : dels.Nodup)
    (hdin : ∀ id ∈ dels, s.hasObj id = true) (hon : (objs.map (·.id)).Nodup)
    (hout : ∀ o ∈ objs, s.hasObj o.id = false) :
    play s (dels.map .del ++ objs.map .add) =
      .ok { s with objs := s.objs.filter (fun o => !dels.contains o.id) ++ objs } := by
  simp only [play_append, play_dels s dels hdn hdin]
  exact play_adds _ objs hon (fun o ho => by
    rw [hasObj_filter s (fun i => !dels.contains i), hout o ho]; rfl)

theorem play_addVecs (s : Snap K) (ids : List Nat) (hn : ids.Nodup) (hout : ∀ id ∈ ids, s.hasVec id = false) :
    play s (ids.map .addVec) = .ok { s with vecs := s.vecs ++ ids } := by
  induction ids generalizing s with
  | nil => simp [play]
  | cons i is ih =>
    have hi := hout i (by simp)
    have hn' := List.nodup_cons.mp hn
    simp only [List.map_cons, play, playAction, Snap.addVec, hi, Bool.false_eq_true, if_false]
    rw [ih { s with vecs := s.vecs ++ [i] } hn'.2 (by
      intro id hid
      have h1 := hout id (by simp [hid])
      have hne : id ≠ i := fun h => hn'.1 (h ▸ hid)
      simp only [Snap.hasVec, List.contains_eq_mem, List.mem_append, List.mem_singleton, decide_eq_false_iff_not] at h1 ⊢
      intro hc
      rcases hc with hc | hc
      · exact h1 hc
      · exact hne hc)]
    simp [List.append_assoc]

theorem play_addVecs_ok (snap : Snap K) (ids : List Nat) (hn : ids.Nodup) (hout : ∀ i ∈ ids, snap.hasVec i = false) :
    ∃ snap', play snap (ids.map .addVec) = .ok snap' := ⟨_, play_addVecs snap ids hn hout⟩

theorem play_delVecs (s : Snap K) (ids : List Nat) (hn : ids.Nodup) (hin : ∀ i ∈ ids, s.hasVec i = true) :
    play s (ids.map .delVec) = .ok { s with vecs := s.vecs.filter (fun v => !ids.contains v) } := by
  induction ids generalizing s with
  | nil => simp [play, List.filter_eq_self.mpr]
  | cons i is ih =>
    have hn' := List.nodup_cons.mp hn
    simp only [List.map_cons, play, playAction, Snap.delVec, hin i (by simp), if_true]
    rw [ih _ hn'.2 (fun j hj => by
      have := hin j (by simp [hj])
      have hne : j ≠ i := fun h => hn'.1 (h ▸ hj)
      simp only [Snap.hasVec, List.contains_eq_mem, decide_eq_true_eq] at this ⊢
      exact List.mem_filter.mpr ⟨this, by simpa using hne⟩)]
    simp only [List.filter_filter]
    congr 3
    funext v
    simp only [List.contains_cons]
    cases hv : (v == i) <;> simp [hv, bne]

theorem playAction_vec_objs (s s' : Snap K) (v : Nat)
    (h : playAction s (.addVec v) = .ok s' ∨ playAction s (.delVec v) = .ok s') : s'.objs = s.objs := by
  rcases h with h | h
  · rw [(addVec_ok s s' v h).2]
  · rw [(delVec_ok s s' v h).2]

theorem play_addVec_objs (snap snap' : Snap K) (ids : List Nat) (h : play snap (ids.map .addVec) = .ok snap') :
    snap'.objs = snap.objs :=
  play_preserves (fun s => s.objs = snap.objs) _ (fun a ha s s' hp hs => by
    obtain ⟨i, _, rfl⟩ := List.mem_map.mp ha
    rw [playAction_vec_objs s s' i (.inl hp), hs]) snap snap' h rfl

theorem mem_uniqueIds (l : List Nat) (a : Nat) : a ∈ uniqueIds l ↔ a ∈ l := by
  induction l with
  | nil => simp [uniqueIds]
  | cons x xs ih =>
    simp only [uniqueIds, List.mem_cons, List.mem_filter, ih]
    constructor
    · rintro (h | ⟨h, _⟩)
      · exact Or.inl h
      · exact Or.inr h
    · rintro (h | h)
      · exact Or.inl h
      · by_cases hax : a = x
        · exact Or.inl hax
        · exact Or.inr ⟨h, by simpa using hax⟩

theorem nodup_uniqueIds (l : List Nat) : (uniqueIds l).Nodup := by
  induction l with
  | nil => simp [uniqueIds]
  | cons x xs ih =>
    simp only [uniqueIds, List.nodup_cons, List.mem_filter]
    refine ⟨?_, ih.filter _⟩
    rintro ⟨_, h⟩
    simp at h

theorem contains_uniqueIds (l : List Nat) (a : Nat) : (uniqueIds l).contains a = l.contains a :=
  Bool.eq_iff_iff.mpr (by simp [mem_uniqueIds])

theorem find_isSome (s : Snap K) (id : Nat) : (s.find id).isSome = s.hasObj id := by
  unfold Snap.find Snap.hasObj
  induction s.objs with
  | nil => rfl
  | cons o os ih =>
    simp only [List.find?_cons, List.any_cons]
    cases h : (o.id == id) <;> simp [ih]

theorem find_id (s : Snap K) (id : Nat) (o : Obj K) (h : s.find id = some o) : o.id = id := by
  unfold Snap.find at h
  have := List.find?_some h
  simpa using this

theorem hasObj_vecs (s : Snap K) (v : List Nat) (id : Nat) :
    ({ s with vecs := v } : Snap K).hasObj id = s.hasObj id := rfl

theorem hasObj_of_mem (snap : Snap K) (o : Obj K) (h : o ∈ snap.objs) : snap.hasObj o.id = true := by
  simp only [Snap.hasObj, List.any_eq_true]; exact ⟨o, h, by simp⟩

theorem hasObj_lt (snap : Snap K) (n id : Nat) (h : ∀ o ∈ snap.objs, o.id < n) (hh : snap.hasObj id = true) : id < n := by
  obtain ⟨o, ho, hoid⟩ := List.any_eq_true.mp hh
  have hid : o.id = id := by simpa using hoid
  exact hid ▸ h o ho

theorem any_id_contains (os : List (Obj K)) (id : Nat) :
    os.any (·.id == id) = (os.map (·.id)).contains id := by
  induction os with
  | nil => rfl
  | cons o os ih =>
    simp only [List.any_cons, List.map_cons, List.contains_cons, ih]
    congr 1
    exact BEq.comm

theorem contains_filter (l : List Nat) (q : Nat → Bool) (id : Nat) :
    (l.filter q).contains id = (l.contains id && q id) :=
  Bool.eq_iff_iff.mpr (by simp)

theorem ids_filter (l : List (Obj K)) (q : Nat → Bool) :
    (l.filter (fun o => q o.id)).map (·.id) = (l.map (·.id)).filter q := by
  rw [List.filter_map]; rfl

theorem nodup_ids_append (s : Snap K) (o : Obj K) (hn : s.ids.Nodup)
    (ho : s.hasObj o.id = false) : ((s.objs ++ [o]).map (·.id)).Nodup := by
  rw [List.map_append, List.nodup_append]
  refine ⟨hn, by simp, ?_⟩
  intro a ha b hb
  simp only [List.map_cons, List.map_nil, List.mem_singleton] at hb
  subst hb
  intro hab
  subst hab
  obtain ⟨x, hx, hxa⟩ := List.mem_map.mp ha
  have : s.hasObj o.id = true := by
    simp only [Snap.hasObj, List.any_eq_true]
    exact ⟨x, hx, by simpa using hxa⟩
  rw [ho] at this; cases this

theorem nodup_ids_filter (s : Snap K) (x : Nat) (hn : s.ids.Nodup) :
    ((s.objs.filter (·.id != x)).map (·.id)).Nodup := by
  rw [ids_filter s.objs (· != x)]; exact hn.filter _

theorem eq_of_id_eq (l : List (Obj K)) (hn : (l.map (·.id)).Nodup) (a b : Obj K) (ha : a ∈ l) (hb : b ∈ l)
    (h : a.id = b.id) : a = b := by
  induction l with
  | nil => cases ha
  | cons x xs ih =>
    simp only [List.map_cons, List.nodup_cons] at hn
    simp only [List.mem_cons] at ha hb
    rcases ha with ha | ha <;> rcases hb with hb | hb
    · rw [ha, hb]
    · exfalso; apply hn.1; rw [← ha, h]; exact List.mem_map_of_mem (f := fun x : Obj K => x.id) hb
    · exfalso; apply hn.1; rw [← hb, ← h]; exact List.mem_map_of_mem (f := fun x : Obj K => x.id) ha
    · exact ih hn.2 ha hb

theorem contains_ids_filter (l : List (Obj K)) (hn : (l.map (·.id)).Nodup) (q : Obj K → Bool) (o : Obj K)
    (ho : o ∈ l) : ((l.filter q).map (·.id)).contains o.id = q o := by
  cases hq : q o with
  | true => exact List.contains_iff_mem.mpr (List.mem_map.mpr ⟨o, List.mem_filter.mpr ⟨ho, hq⟩, rfl⟩)
  | false =>
    rw [Bool.eq_false_iff]
    intro hc
    obtain ⟨o', ho', hoid'⟩ := List.mem_map.mp (List.contains_iff_mem.mp hc)
    rw [eq_of_id_eq l hn o' o (List.mem_filter.mp ho').1 ho hoid'] at ho'
    rw [(List.mem_filter.mp ho').2] at hq
    cases hq

/-- a commit cut down to what the tip has (deletes) and lacks (adds) always replays -/
theorem play_lenient (T : Snap K) (dels : List Nat) (adds : List (Obj K)) (hd : dels.Nodup)
    (ha : (adds.map (·.id)).Nodup) (hda : ∀ id, adds.any (·.id == id) = true → dels.contains id = false) :
    ∃ T', play T ((dels.filter T.hasObj).map .del ++ (adds.filter (fun o => !T.hasObj o.id)).map .add) = .ok T' ∧
      T'.vecs = T.vecs ∧
      ∀ id, T'.hasObj id = ((T.hasObj id && !dels.contains id) || adds.any (·.id == id)) := by
  refine ⟨_, play_dels_adds T (dels.filter T.hasObj) (adds.filter (fun o => !T.hasObj o.id))
    (hd.filter _) (fun id hid => (List.mem_filter.mp hid).2)
    (by rw [ids_filter adds (fun i => !T.hasObj i)]; exact ha.filter _)
    (fun o ho => by simpa using (List.mem_filter.mp ho).2), rfl, fun id => ?_⟩
  rw [hasObj_append ⟨T.objs.filter fun o => !(dels.filter T.hasObj).contains o.id, T.vecs⟩,
    hasObj_filter T (fun i => !(dels.filter T.hasObj).contains i), contains_filter,
    show (adds.filter fun o => !T.hasObj o.id).any (·.id == id) = (adds.any (·.id == id) && !T.hasObj id) from
      hasObj_filter ⟨adds, []⟩ (fun i => !T.hasObj i) id]
  have hx := hda id
  revert hx
  generalize T.hasObj id = t
  generalize dels.contains id = c
  generalize adds.any (·.id == id) = a
  revert t c a
  decide

theorem playAction_nodup (s s' : Snap K) (a : Action K) (h : playAction s a = .ok s')
    (hn : s.ids.Nodup) : s'.ids.Nodup := by
  cases a with
  | add o =>
    obtain ⟨h1, h2⟩ := addObj_ok s s' o h
    rw [h2]; exact nodup_ids_append s o hn h1
  | del x =>
    rw [(delObj_ok s s' x h).2]; exact nodup_ids_filter s x hn
  | addVec v => rw [Snap.ids, playAction_vec_objs s s' v (.inl h)]; exact hn
  | delVec v => rw [Snap.ids, playAction_vec_objs s s' v (.inr h)]; exact hn

/-- object ids are distinct in every snapshot (the discipline of `Snapshot.AddDataObject`) -/
theorem snapAt_nodup (cs : List (Commit K)) (c : Nat) (snap : Snap K) (h : snapAt cs c = .ok snap) :
    snap.ids.Nodup :=
  snapAt_all' (fun s => s.ids.Nodup) List.nodup_nil cs
    (fun _ _ a _ s s' h hn => playAction_nodup s s' a h hn) c snap h

end Zed.Lake

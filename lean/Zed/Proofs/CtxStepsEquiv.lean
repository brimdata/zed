import Zed.Proofs.DecodeUnfold
/-! a decoding thread running alone is `decodeTV` (`simTV`), and a `LookupByValue` thread
    running alone is `lookupByValue` (`runD_solo`). -/
namespace Zed
open Zcode List Generated.C05
namespace Ctx

theorem runI_append : (a b : List Instr) → (c : Ctx) → (st : List Ty) →
    runI (a ++ b) c st = match runI a c st with
      | (c', some st') => runI b c' st'
      | (c', none) => (c', none)
  | [], b, c, st => by simp [runI]
  | i :: a, b, c, st => by
    simp only [cons_append, runI]
    cases h : c.stepI st i with
    | mk c1 o =>
      cases o with
      | none => simp
      | some st1 => simp only; exact runI_append a b c1 st1

theorem runI_single (i : Instr) (c : Ctx) (st : List Ty) :
    runI [i] c st = match c.stepI st i with
      | (c', some st') => (c', some st')
      | (c', none) => (c', none) := by
  simp only [runI]
  cases h : c.stepI st i with
  | mk c1 o => cases o <;> simp

/-- the emitted program, run from `(c, st)`, does what the decoder did; `fin a` is the stack a value leaves,
    `out a rest` what the compiler keeps of it -/
def Sim {α β : Type} (c : Ctx) (st : List Ty) (fin : α → List Ty) (out : α → Bytes → β) (d : Dec α) (p : Prg β) :
    Prop :=
  match d.2 with
  | some (a, rest) => p.2 = some (out a rest) ∧ runI p.1 c st = (d.1, some (fin a))
  | none => (runI p.1 c st).1 = d.1 ∧ (p.2.isSome = true → (runI p.1 c st).2 = none)

abbrev SimTV (c : Ctx) (st : List Ty) := Sim c st (· :: st) (fun (_ : Ty) (r : Bytes) => r)

def SimF (c : Ctx) (st : List Ty) (d : Ctx × Option (List (Name × Ty) × Bytes))
    (p : List Instr × Option (List Name × Bytes)) : Prop :=
  match d.2 with
  | some (fs, rest) => p.2 = some (fs.map (·.1), rest) ∧ runI p.1 c st = (d.1, some ((fs.map (·.2)).reverse ++ st))
  | none => (runI p.1 c st).1 = d.1 ∧ (p.2.isSome = true → (runI p.1 c st).2 = none)

def SimT (c : Ctx) (st : List Ty) (d : Ctx × Option (List Ty × Bytes)) (p : List Instr × Option Bytes) : Prop :=
  match d.2 with
  | some (ts, rest) => p.2 = some rest ∧ runI p.1 c st = (d.1, some (ts.reverse ++ st))
  | none => (runI p.1 c st).1 = d.1 ∧ (p.2.isSome = true → (runI p.1 c st).2 = none)

theorem SimF_iff {c : Ctx} {st : List Ty} {d : Dec (List (Name × Ty))} {p : Prg (List Name × Bytes)} :
    SimF c st d p ↔ Sim c st (fun fs => (fs.map (·.2)).reverse ++ st) (fun fs r => (fs.map (·.1), r)) d p := by
  rcases d with ⟨c1, _ | ⟨fs, rest⟩⟩ <;> exact Iff.rfl

theorem SimT_iff {c : Ctx} {st : List Ty} {d : Dec (List Ty)} {p : Prg Bytes} :
    SimT c st d p ↔ Sim c st (fun ts => ts.reverse ++ st) (fun _ r => r) d p := by
  rcases d with ⟨c1, _ | ⟨ts, rest⟩⟩ <;> exact Iff.rfl

theorem runI_abort_append (a b : List Instr) (c : Ctx) (st : List Ty) (h : (runI a c st).2 = none) :
    runI (a ++ b) c st = runI a c st := by
  rw [runI_append]
  cases hr : runI a c st with
  | mk c1 o => rw [hr] at h; simp only at h; subst h; rfl

section
variable {α β α' β' : Type} {c : Ctx} {st : List Ty} {fin : α → List Ty} {out : α → Bytes → β}
  {fin' : α' → List Ty} {out' : α' → Bytes → β'}

theorem Sim.fail : Sim c st fin out (c, none) ([], none) := ⟨rfl, nofun⟩

theorem Sim.parse (x : Option (α × Bytes)) : Sim c st (fun _ => st) (fun a r => (a, r)) (c, x) ([], x) := by
  rcases x with _ | ⟨a, r⟩
  · exact .fail
  · exact ⟨rfl, rfl⟩

theorem Sim.pure {a : α} {rest : Bytes} {b : β} (h1 : fin a = st) (h2 : out a rest = b) :
    Sim c st fin out (c, some (a, rest)) ([], some b) := ⟨by rw [h2], by rw [h1]; rfl⟩

/-- one context call is one instruction -/
theorem Sim.call {i : Instr} {st0 : List Ty} {r : Option Ty × Ctx} {tv : Bytes}
    (hi : c.stepI st0 i = match r with
      | (some t, c') => (c', some (t :: st))
      | (none, c') => (c', none)) :
    Sim c st0 (· :: st) (fun _ r => r) (Dec.ret r tv) ([i], some tv) := by
  rcases r with ⟨_ | t, c'⟩
  · have e : runI [i] c st0 = (c', none) := by rw [runI_single, hi]
    exact ⟨by rw [e]; rfl, fun _ => by rw [e]⟩
  · have e : runI [i] c st0 = (c', some (t :: st)) := by rw [runI_single, hi]
    exact ⟨rfl, e⟩

theorem Sim.guard {P : Prop} [Decidable P] {d : Dec α} {p : Prg β} (h : Sim c st fin out d p) :
    Sim c st fin out (if P then (c, none) else d) (if P then ([], none) else p) := by
  by_cases hp : P
  · rw [if_pos hp, if_pos hp]; exact .fail
  · rw [if_neg hp, if_neg hp]; exact h

/-- once a stage has failed the rest of the program is not run -/
theorem Sim.bind {d : Dec α} {p : Prg β} {k : Ctx → α → Bytes → Dec α'} {kp : β → Prg β'}
    (h : Sim c st fin out d p)
    (hk : ∀ c1 a rest, d = (c1, some (a, rest)) → Sim c1 (fin a) fin' out' (k c1 a rest) (kp (out a rest))) :
    Sim c st fin' out' (d.bind k) (p.bind kp) := by
  obtain ⟨c1, o⟩ := d
  obtain ⟨is, r⟩ := p
  cases o with
  | none =>
    have h1 : (runI is c st).1 = c1 := h.1
    cases r with
    | none => exact ⟨h1, nofun⟩
    | some b =>
      have h2 : (runI is c st).2 = none := h.2 rfl
      show (runI (is ++ _) c st).1 = c1 ∧ (_ → (runI (is ++ _) c st).2 = none)
      rw [runI_abort_append _ _ _ _ h2]
      exact ⟨h1, fun _ => h2⟩
  | some q =>
    obtain ⟨a, rest⟩ := q
    have h1 : r = some (out a rest) := h.1
    have h2 : runI is c st = (c1, some (fin a)) := h.2
    subst h1
    have hk := hk c1 a rest rfl
    show Sim c st fin' out' (k c1 a rest) (is ++ (kp (out a rest)).1, (kp (out a rest)).2)
    unfold Sim at hk ⊢
    rw [show runI (is ++ (kp (out a rest)).1) c st = runI (kp (out a rest)).1 c1 (fin a) by rw [runI_append, h2]]
    exact hk
end

theorem popN_append (ts st : List Ty) : popN ts.length (ts.reverse ++ st) = some (ts, st) := by
  simp [popN]

theorem stepI_record (c : Ctx) (fs : List (Name × Ty)) (st : List Ty) :
    c.stepI ((fs.map (·.2)).reverse ++ st) (.record (fs.map (·.1))) =
      match c.lookupRecord fs with
      | (some t, c') => (c', some (t :: st))
      | (none, c') => (c', none) := by
  have hp := popN_append (fs.map (·.2)) st
  have hz : (fs.map (·.1)).zip (fs.map (·.2)) = fs := by simpa using zip_unzip fs
  simp only [length_map] at hp
  simp only [stepI, length_map, hp, hz]
  rcases c.lookupRecord fs with ⟨_ | t, c'⟩ <;> rfl

theorem stepI_union (c : Ctx) (ts : List Ty) (st : List Ty) :
    c.stepI (ts.reverse ++ st) (.union ts.length) =
      ((c.lookupUnion ts).2, some ((c.lookupUnion ts).1 :: st)) := by
  simp only [stepI, popN_append]

theorem decodeTys_length : (f n : Nat) → (c : Ctx) → (tv : Bytes) → (c' : Ctx) → (ts : List Ty) → (rest : Bytes) →
    decodeTys f n c tv = (c', some (ts, rest)) → ts.length = n
  | _, 0, c, tv, c', ts, rest, h => by rw [decodeTys] at h; cases h; rfl
  | 0, n+1, c, tv, c', ts, rest, h => by rw [decodeTys] at h; cases h
  | f+1, n+1, c, tv, c', ts, rest, h => by
    rw [decodeTys_succ] at h
    obtain ⟨c1, t, tv1, _, h⟩ := Dec.bind_eq_some h
    obtain ⟨c2, ts', tv2, h2, h⟩ := Dec.bind_eq_some h
    cases h
    rw [length_cons, decodeTys_length f n c1 tv1 _ ts' _ h2]

/-- all three decoders at once, by induction on the fuel they share -/
theorem sim_all (f : Nat) :
    (∀ c tv st, SimTV c st (decodeTV f c tv) (compileTV f tv)) ∧
    (∀ n c tv st, SimF c st (decodeFields f n c tv) (compileFields f n tv)) ∧
    (∀ n c tv st, SimT c st (decodeTys f n c tv) (compileTys f n tv)) := by
  induction f with
  | zero =>
    refine ⟨fun c tv st => ?_, fun n c tv st => SimF_iff.mpr ?_, fun n c tv st => SimT_iff.mpr ?_⟩
    · rw [decodeTV_zero, compileTV_zero]; exact .fail
    · cases n <;> rw [decodeFields, compileFields]
      · exact .pure rfl rfl
      · exact .fail
    · cases n <;> rw [decodeTys, compileTys]
      · exact .pure rfl rfl
      · exact .fail
  | succ f ih =>
    have simTV := ih.1
    have simF := fun n c tv st => SimF_iff.mp (ih.2.1 n c tv st)
    have simT := fun n c tv st => SimT_iff.mp (ih.2.2 n c tv st)
    refine ⟨fun c tv st => ?_, fun n c tv st => SimF_iff.mpr ?_, fun n c tv st => SimT_iff.mpr ?_⟩
    · cases tv with
      | nil => rw [decodeTV_nil, compileTV_nil]; exact .fail
      | cons b tv =>
        cases b using code_elim with
        | namedef =>
          rw [decodeTV_namedef, compileTV_namedef]
          exact (Sim.parse _).bind fun c name tv1 _ => (simTV c tv1 st).bind fun c1 t tv2 _ => .call (by
            simp only [stepI]; rcases c1.lookupNamed name t with ⟨_ | nt, c2⟩ <;> rfl)
        | nameref =>
          rw [decodeTV_nameref, compileTV_nameref]
          exact (Sim.parse _).bind fun c name tv1 _ => .call (by
            simp only [stepI]; cases c.lookupTypeDef name <;> rfl)
        | record =>
          rw [decodeTV_record, compileTV_record]
          exact (Sim.parse _).bind fun c n tv1 _ => .guard <|
            (simF n c tv1 st).bind fun c1 fs tv2 _ => .call (stepI_record c1 fs st)
        | array =>
          rw [decodeTV_array, compileTV_array]
          exact (simTV c tv st).bind fun c1 t tv1 _ => .call rfl
        | set =>
          rw [decodeTV_set, compileTV_set]
          exact (simTV c tv st).bind fun c1 t tv1 _ => .call rfl
        | map =>
          rw [decodeTV_map, compileTV_map]
          exact (simTV c tv st).bind fun c1 k tv1 _ => (simTV c1 tv1 (k :: st)).bind fun c2 v tv2 _ => .call rfl
        | union =>
          rw [decodeTV_union, compileTV_union]
          exact (Sim.parse _).bind fun c n tv1 _ => .guard <|
            (simT n c tv1 st).bind fun c1 ts tv2 e => .call (by
              rw [← decodeTys_length f n c tv1 c1 ts tv2 e]; exact stepI_union c1 ts st)
        | enum =>
          rw [decodeTV_enum, compileTV_enum]
          exact (Sim.parse _).bind fun c n tv1 _ => .guard <| (Sim.parse _).bind fun c syms tv2 _ => .call rfl
        | error =>
          rw [decodeTV_error, compileTV_error]
          exact (simTV c tv st).bind fun c1 t tv1 _ => .call rfl
        | other b hb =>
          rw [decodeTV_other f c b tv hb, compileTV_other f b tv hb]
          cases hpr : primitiveByID? b.toNat with
          | none => exact .fail
          | some t => exact ⟨rfl, by simp [runI, stepI, hpr]⟩
    · cases n with
      | zero => rw [decodeFields, compileFields]; exact .pure rfl rfl
      | succ n =>
        rw [decodeFields_succ, compileFields_succ]
        exact (Sim.parse _).bind fun c name tv1 _ => (simTV c tv1 st).bind fun c1 t tv2 _ =>
          (simF n c1 tv2 (t :: st)).bind fun c2 fs tv3 _ => .pure (by simp) rfl
    · cases n with
      | zero => rw [decodeTys, compileTys]; exact .pure rfl rfl
      | succ n =>
        rw [decodeTys_succ, compileTys_succ]
        exact (simTV c tv st).bind fun c1 t tv1 _ => (simT n c1 tv1 (t :: st)).bind fun c2 ts tv2 _ =>
          .pure (by simp) rfl

theorem simTV (f : Nat) (c : Ctx) (tv : Bytes) (st : List Ty) :
    SimTV c st (decodeTV f c tv) (compileTV f tv) := (sim_all f).1 c tv st

theorem simF : (f n : Nat) → (c : Ctx) → (tv : Bytes) → (st : List Ty) →
    SimF c st (decodeFields f n c tv) (compileFields f n tv)
  | f, n, c, tv, st => (sim_all f).2.1 n c tv st

theorem simT : (f n : Nat) → (c : Ctx) → (tv : Bytes) → (st : List Ty) →
    SimT c st (decodeTys f n c tv) (compileTys f n tv) ∧
      ∀ ts rest, (decodeTys f n c tv).2 = some (ts, rest) → ts.length = n
  | f, n, c, tv, st => ⟨(sim_all f).2.2 n c tv st, fun ts rest e =>
      decodeTys_length f n c tv (decodeTys f n c tv).1 ts rest (by rw [← e])⟩

theorem runD_done : (n : Nat) → (c : Ctx) → (tv : Bytes) → (r : Option Ty) →
    runD n c { tv := tv, ph := .done r } = (c, { tv := tv, ph := .done r })
  | 0, _, _, _ => rfl
  | n+1, c, tv, r => by simp only [runD, stepD]; exact runD_done n c tv r

theorem runD_run : (is : List Instr) → (c : Ctx) → (st : List Ty) → (parsed : Bool) → (tv : Bytes) →
    runD is.length c { tv := tv, ph := .run is st parsed } =
      match runI is c st with
      | (c', some st') => (c', { tv := tv, ph := .run [] st' parsed })
      | (c', none) => (c', { tv := tv, ph := .done none })
  | [], c, st, parsed, tv => by simp [runD, runI]
  | i :: is, c, st, parsed, tv => by
    simp only [length_cons, runD, stepD, runI]
    cases h : c.stepI st i with
    | mk c1 o =>
      cases o with
      | none => simp only; exact runD_done _ _ _ _
      | some st1 => simp only; exact runD_run is c1 st1 parsed tv

theorem runD_add : (n m : Nat) → (c : Ctx) → (d : DThread) →
    runD (n + m) c d = runD m (runD n c d).1 (runD n c d).2
  | 0, m, c, d => by simp [runD]
  | n+1, m, c, d => by
    have : n + 1 + m = (n + m) + 1 := by omega
    rw [this]; simp only [runD]; exact runD_add n m _ _

/-- **a `LookupByValue` thread that runs alone is `lookupByValue`** (the big-step model the harness
    compares with the real code) -/
theorem runD_solo (c : Ctx) (tv : Bytes) :
    ∃ n, runD n c (startD tv) = ((c.lookupByValue tv).2, { tv := tv, ph := .done (c.lookupByValue tv).1 }) := by
  unfold lookupByValue
  cases hl : c.toType.lookup tv with
  | some t => exact ⟨1, by simp [runD, stepD, startD, hl]⟩
  | none =>
    have sim := simTV (tv.length + 1) c tv []
    -- the probe, the program, the store
    refine ⟨1 + ((prog tv).1.length + 1), ?_⟩
    rw [runD_add 1]
    have h1 : runD 1 c (startD tv) = (c, { tv := tv, ph := .run (prog tv).1 [] (prog tv).2 }) := by
      simp [runD, stepD, startD, hl]
    rw [h1]
    simp only
    rw [runD_add, runD_run]
    simp only [prog, decodeC] at *
    cases hd : decodeTV (tv.length + 1) c tv with
    | mk c1 o =>
      cases hp : compileTV (tv.length + 1) tv with
      | mk is r =>
        rw [hd, hp] at sim
        cases o with
        | none =>
          have i1 : (runI is c []).1 = c1 := sim.1
          have i2 : r.isSome = true → (runI is c []).2 = none := sim.2
          simp only
          cases hr : runI is c [] with
          | mk c2 o2 =>
            rw [hr] at i1 i2
            simp only at i1 i2
            subst i1
            cases o2 with
            | none => simp [runD, stepD]
            | some st2 =>
              have : r.isSome = false := by
                cases hh : r.isSome with
                | false => rfl
                | true => exact absurd (i2 hh) (by simp)
              simp [runD, stepD, this]
        | some q =>
          obtain ⟨t, rest⟩ := q
          have i1 : r = some rest := sim.1
          have i2 : runI is c [] = (c1, some [t]) := sim.2
          subst i1
          simp [i2, runD, stepD]

end Ctx
end Zed
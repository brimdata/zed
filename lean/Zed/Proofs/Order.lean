/-!
  Three-way comparisons (`Ordering`), for the C05 and C06 proofs.

  `STr xy yz xz` is the sign-composition law for one ordered triple: the result `xz` of
  comparing x with z is what the results `xy`, `yz` force it to be (≤∘≤ → ≤, <∘≤ → <, ≤∘< → <,
  and dually); for one triple, so that it can hold under guards on the operands.  The model's
  comparisons are built with `Ordering.then` (`STr.then`; by class and then inside the class:
  `ite_eq_then`); antisymmetry is the law at x, y, x (`STr.swap_of_eq`).
-/
namespace Zed.Ord

def STr (xy yz xz : Ordering) : Prop :=
  match xy, yz with
  | .lt, .gt => True
  | .gt, .lt => True
  | .eq, o => xz = o
  | o, .eq => xz = o
  | .lt, .lt => xz = .lt
  | .gt, .gt => xz = .gt

instance (a b c : Ordering) : Decidable (STr a b c) := by
  unfold STr; cases a <;> cases b <;> simp <;> infer_instance

theorem STr.le {a b c : Ordering} (h : STr a b c) : a ≠ .gt → b ≠ .gt → c ≠ .gt := by
  cases a <;> cases b <;> cases h <;> simp
theorem STr.lt_le {a b c : Ordering} (h : STr a b c) : a = .lt → b ≠ .gt → c = .lt := by
  cases a <;> cases b <;> cases h <;> simp
theorem STr.le_lt {a b c : Ordering} (h : STr a b c) : a ≠ .gt → b = .lt → c = .lt := by
  cases a <;> cases b <;> cases h <;> simp
theorem STr.ge {a b c : Ordering} (h : STr a b c) : a ≠ .lt → b ≠ .lt → c ≠ .lt := by
  cases a <;> cases b <;> cases h <;> simp
theorem STr.eq_left {a b c : Ordering} (h : STr a b c) : a = .eq → c = b := by
  cases a <;> cases b <;> cases h <;> simp
theorem STr.eq_right {a b c : Ordering} (h : STr a b c) : b = .eq → c = a := by
  cases a <;> cases b <;> cases h <;> simp
theorem STr.eq_eq {a b c : Ordering} (h : STr a b c) (ha : a = .eq) (hb : b = .eq) : c = .eq :=
  (h.eq_left ha).trans hb

theorem STr.swap {a b c : Ordering} (h : STr a b c) : STr b.swap a.swap c.swap := by
  cases a <;> cases b <;> cases h <;> trivial

theorem STr.comm {a b c : Ordering} (h : STr a b c) : STr b a c := by
  cases a <;> cases b <;> cases h <;> trivial

theorem STr.lt_any (o : Ordering) : STr .lt o .lt := by cases o <;> trivial
theorem STr.any_gt (o : Ordering) : STr o .gt .gt := by cases o <;> trivial

theorem STr.swap_of_eq {xy yx : Ordering} (h : STr xy yx .eq) : yx = xy.swap := by
  cases xy <;> cases yx <;> cases h <;> rfl

/-- so reflexivity is antisymmetry at (x, x) -/
theorem eq_of_eq_swap {o : Ordering} (h : o = o.swap) : o = .eq := by
  cases o <;> first | rfl | cases h

theorem not_lt_iff_of_swap {xy yx : Ordering} (h : yx = xy.swap) : (!(yx == .lt)) = true ↔ xy ≠ .gt := by
  subst h; cases xy <;> decide

theorem le_total_of_swap {xy yx : Ordering} (h : yx = xy.swap) : xy ≠ .gt ∨ yx ≠ .gt := by
  subst h; cases xy <;> decide

theorem STr.then {a b c a' b' c' : Ordering} (h : STr a b c)
    (h' : a = .eq → b = .eq → STr a' b' c') : STr (a.then a') (b.then b') (c.then c') := by
  cases a <;> cases b <;> cases h
  case eq.eq => exact h' rfl rfl
  all_goals cases a' <;> cases b' <;> trivial

theorem STr_compare_int (x y z : Int) : STr (compare x y) (compare y z) (compare x z) := by
  cases hxy : compare x y <;> cases hyz : compare y z <;>
    simp only [STr, Int.compare_eq_lt, Int.compare_eq_eq, Int.compare_eq_gt] at * <;> omega

theorem compare_natCast (u v : Nat) : compare (u : Int) (v : Int) = compare u v := by
  simp only [Nat.compare_eq_ite_lt, Int.compare_eq_ite_lt, Int.ofNat_lt]

theorem STr_compare_nat (x y z : Nat) : STr (compare x y) (compare y z) (compare x z) := by
  simp only [← compare_natCast]; exact STr_compare_int _ _ _

theorem ite_eq_then {κ : Type} [DecidableEq κ] {cmpK : κ → κ → Ordering} {k k' : κ}
    (h : cmpK k k' = .eq ↔ k = k') (w : Ordering) :
    (if k = k' then w else cmpK k k') = (cmpK k k').then w := by
  by_cases e : k = k'
  · rw [if_pos e, h.mpr e]; rfl
  · rw [if_neg e]
    cases hk : cmpK k k' <;> first | rfl | exact absurd (h.mp hk) e

/-- A comparison that first compares classes with a total order `cmpK` and, inside a class,
    with `w`: the laws for one triple; the if-form of `STr.then` (`ite_eq_then`). -/
theorem STr.classified {κ : Type} [DecidableEq κ] (cmpK : κ → κ → Ordering)
    (ka kb kc : κ) (wab wbc wac : Ordering)
    (hKeq : ∀ k k', k ∈ [ka, kb, kc] → k' ∈ [ka, kb, kc] → (cmpK k k' = .eq ↔ k = k'))
    (hKswap : ∀ k k', k ∈ [ka, kb, kc] → k' ∈ [ka, kb, kc] → cmpK k' k = (cmpK k k').swap)
    (hK : STr (cmpK ka kb) (cmpK kb kc) (cmpK ka kc))
    (hW : ka = kb → kb = kc → STr wab wbc wac) :
    STr (if ka = kb then wab else cmpK ka kb) (if kb = kc then wbc else cmpK kb kc)
        (if ka = kc then wac else cmpK ka kc) := by
  have _ := hKswap -- unused
  have hab := hKeq ka kb (by simp) (by simp)
  have hbc := hKeq kb kc (by simp) (by simp)
  rw [ite_eq_then hab, ite_eq_then hbc, ite_eq_then (hKeq ka kc (by simp) (by simp))]
  exact hK.then fun e1 e2 => hW (hab.mp e1) (hbc.mp e2)

end Zed.Ord

import Zed.Proofs.FuseBasic
/-!
  C20 core lemma: a good plan builds every well-typed value into its announced type with
  exactly the same non-null leaves (`build_good_all`).
-/
namespace Zed.Fuse

theorem build_null (s : Step) : build s .null = .ok s.toType .null := by
  cases s <;> rfl

theorem build_good_null (s : Step) (a : Ty) :
    ∃ v', build s .null = .ok s.toType v' ∧ ∀ l, l ∈ leaves s.toType v' ↔ l ∈ leaves a .null :=
  ⟨.null, build_null s, fun l => by rw [leaves_null, leaves_null]⟩

theorem build_copy (to : Ty) (v : Val) : build (.copy to) v = .ok to v := by
  cases v <;> rfl

theorem build_toUnion (tag : Nat) (to : Ty) {v : Val} (hv : v ≠ .null) :
    build (.toUnion tag to) v = .ok to (.union tag v) := by
  cases v with
  | null => exact absurd rfl hv
  | _ => rfl

theorem leavesList_congr {t t' : Ty} (h : t.under = t'.under) : (k : Nat) → (vs : Vals) →
    leavesList t k vs = leavesList t' k vs
  | _, .nil => by simp [leavesList]
  | k, .cons v r => by simp [leavesList, leaves_under h v, leavesList_congr h (k + 1) r]

theorem mapVals_good (c : Step) (i : Ty)
    (hc : ∀ v, hasType v i = true → ∃ v', build c v = .ok c.toType v' ∧ ∀ l, l ∈ leaves c.toType v' ↔ l ∈ leaves i v)
    (vs : Vals) (h : hasTypeAll vs i = true) :
      ∃ outs : List Val, mapVals (fun x => build c x) vs = outs.map (fun v' => BuildRes.ok c.toType v') ∧
        ∀ k l, l ∈ leavesList c.toType k (Vals.ofList outs) ↔ l ∈ leavesList i k vs := by
  fun_induction mapVals (fun x => build c x) vs with
  | case1 => exact ⟨[], rfl, by simp [leavesList, Vals.ofList]⟩
  | case2 v r ih =>
    simp only [hasTypeAll, Bool.and_eq_true] at h
    obtain ⟨v', hv, hl⟩ := hc v h.1
    obtain ⟨outs, ho, hls⟩ := ih h.2
    refine ⟨v' :: outs, by simp [hv, ho], ?_⟩
    intro k l
    simp only [Vals.ofList, leavesList, List.mem_append, hls (k + 1) l, pre_congr hl l]

theorem collectElems_ok (t : Ty) : (outs : List Val) →
    collectElems (outs.map (fun v' => BuildRes.ok t v')) = some (.ok (outs.map fun v' => (t, v')))
  | [] => by simp [collectElems]
  | v :: r => by simp [collectElems, collectElems_ok t r, Except.map]

theorem ofList_toList : (vs : Vals) → Vals.ofList vs.toList = vs
  | .nil => rfl
  | .cons v r => by simp [Vals.toList, Vals.ofList, ofList_toList r]

theorem finishList_good (isSet : Bool) (to oi t : Ty) (hto : to.inner? = some oi) (ht : t.under = oi.under)
    (outs : List Val) :
    finishList isSet to (outs.map (fun v' => BuildRes.ok t v')) = .ok to (.list (Vals.ofList outs)) := by
  unfold finishList
  rw [collectElems_ok]
  cases outs with
  | nil => simp [Vals.ofList]
  | cons v r =>
    simp only [List.map_cons, List.all_map, List.map_map]
    have h1 : (r.all ((fun p : Ty × Val => decide (p.1 = t)) ∘ fun v' => (t, v'))) = true := by
      simp [List.all_eq_true]
    have h2 : (r.map ((fun x : Ty × Val => x.2) ∘ fun v' => (t, v'))) = r := by
      simp [Function.comp_def]
    simp [h1, h2, hto, ht]

theorem list_good (isSet : Bool) {a to i oi : Ty} {c : Step} (hi : a.inner? = some i) (ho : to.inner? = some oi)
    (hty : c.toType.under = oi.under)
    (hc : ∀ v, hasType v i = true → ∃ v', build c v = .ok c.toType v' ∧ ∀ l, l ∈ leaves c.toType v' ↔ l ∈ leaves i v)
    {vs : Vals} (hvs : hasTypeAll vs i = true) :
    ∃ v', finishList isSet to (mapVals (fun x => build c x) vs) = .ok to v' ∧
      ∀ l, l ∈ leaves to v' ↔ l ∈ leaves a (.list vs) := by
  obtain ⟨outs, h1, h2⟩ := mapVals_good c i hc vs hvs
  refine ⟨.list (Vals.ofList outs), by rw [h1]; exact finishList_good isSet to oi c.toType ho hty outs, fun l => ?_⟩
  simp only [leaves, ho, hi, Option.getD_some]
  rw [leavesList_congr hty.symm 0 (Vals.ofList outs)]
  exact h2 0 l

theorem mem_indices_cons_none {i : Nat} {s : Step} {r : RSteps} : i ∈ (RSteps.cons none s r).indices ↔ i ∈ r.indices := by
  simp [RSteps.indices]

/-- a good null step stands where the input field is null-typed: the value there is null. -/
theorem build_of_isNull {s : Step} {t : Ty} {x : Val} (hg : goodStep t s = true) (hx : hasType x t = true) :
    (if s.isNull = true then BuildRes.ok s.toType Val.null else build s x) = build s x := by
  split
  next hn =>
    cases s <;> simp only [Step.isNull, Bool.false_eq_true] at hn
    simp only [goodStep, beq_iff_eq] at hg
    rw [hasType_nullTy hg hx, build_null]
  next => rfl

/-- along the definition of `goodStep` / `goodFields` / `goodMembers` -/
theorem build_good_all :
    (∀ a s v, goodStep a s = true → hasType v a = true →
      ∃ v', build s v = .ok s.toType v' ∧ ∀ l, l ∈ leaves s.toType v' ↔ l ∈ leaves a v) ∧
    -- the built record has the leaves of exactly the input fields the plan reads (`cs.indices`)
    (∀ fa fo cs vs, goodFields fa fo cs = true → hasTypeRec vs fa = true →
      ∃ rs, buildFields cs vs = some (.ok rs) ∧ (∀ p ∈ rs, p.2.1 = p.1) ∧
        ∀ l, (l ∈ leavesRec fo (Vals.ofList (rs.map (·.2.2))) ↔
          ∃ i ∈ cs.indices, ∃ n t, fa.get? i = some (n, t) ∧ l ∈ pre (.fld n) (leaves t (vs.getD i)))) ∧
    (∀ ms cs to, goodMembers ms cs to = true → ∀ tag m, ms.get? tag = some m → ∀ x, hasType x m = true →
      ∃ v', buildNth cs tag x = .ok to v' ∧ ∀ l, l ∈ leaves to v' ↔ l ∈ leaves m x) := by
  apply goodStep.mutual_induct
  case case1 =>  -- copy
    intro a to v hg _
    simp only [goodStep, beq_iff_eq] at hg
    exact ⟨v, build_copy to v, fun l => by rw [Step.toType, leaves_under hg.symm v]⟩
  case case2 =>  -- null
    intro a to v hg ht
    simp only [goodStep, beq_iff_eq] at hg
    rw [hasType_nullTy hg ht]
    exact build_good_null _ a
  case case3 => intro _ _ _ _ hg; simp [goodStep] at hg  -- castPrim
  case case4 =>  -- toUnion
    intro a tag to m hm v hg _
    by_cases hv : v = .null
    · rw [hv]; exact build_good_null _ a
    · simp only [goodStep, hm, beq_iff_eq] at hg
      refine ⟨.union tag v, build_toUnion tag to hv, fun l => ?_⟩
      simp only [Step.toType, leaves, hm, Option.getD_some]
      rw [leaves_under hg v]
  case case5 => intro a tag to hm v hg; simp [goodStep, hm] at hg  -- toUnion, tag out of range
  case case6 =>  -- fromUnion
    intro a to cs ihcs v hg ht
    simp only [goodStep, Bool.and_eq_true] at hg
    rcases hasType_union_inv hg.1 ht with rfl | ⟨tag, x, m, rfl, hm, hx⟩
    · exact build_good_null _ a
    · obtain ⟨v', h1, h2⟩ := ihcs hg.2 tag m hm x hx
      refine ⟨v', h1, fun l => ?_⟩
      simp only [Step.toType, leaves, hm, Option.getD_some]
      exact h2 l
  case case7 | case9 =>  -- array, set
    intro a to c i oi ho hi ihc v hg ht
    simp only [goodStep, hi, ho, Bool.and_eq_true, beq_iff_eq] at hg
    rcases hasType_list_inv hi ht with rfl | ⟨vs, rfl, hvs⟩
    · exact build_good_null _ a
    · exact list_good _ hi ho hg.2 (fun x hx => ihc x hg.1 hx) hvs
  case case8 | case10 =>  -- array, set without an element type
    intro a to c hno v hg
    simp only [goodStep] at hg
    exact absurd hg (by decide)
  case case11 =>  -- record
    intro a to cs ihcs v hg ht
    simp only [goodStep, Bool.and_eq_true, List.all_eq_true, List.mem_range] at hg
    obtain ⟨⟨⟨hra, hrt⟩, hgf⟩, hcov⟩ := hg
    rcases hasType_record_inv hra ht with rfl | ⟨vs, rfl, hvs⟩
    · exact build_good_null _ a
    · obtain ⟨rs, h1, h2, h3⟩ := ihcs vs hgf hvs
      refine ⟨.recd (Vals.ofList (rs.map (·.2.2))), ?_, fun l => ?_⟩
      · simp only [build, h1, Step.toType, finishRecord]
        have hneed : (rs.any fun x => x.2.1.under != x.1.under) = false := by
          rw [List.any_eq_false]
          intro p hp
          simp [h2 p hp]
        simp [hneed]
      · simp only [Step.toType, leaves]
        rw [h3 l, mem_leavesRec]
        constructor
        · rintro ⟨i, _, n, t, hi, hl⟩; exact ⟨i, n, t, hi, hl⟩
        · rintro ⟨i, n, t, hi, hl⟩
          have := hcov i (get?_isSome_iff.1 ⟨_, hi⟩)
          exact ⟨i, by simpa using this, n, t, hi, hl⟩
  case case12 => intro to _ tag m hm; simp [Tys.get?] at hm  -- members
  case case13 =>
    intro m' ms s ss to ihs ihss hg tag m hm x hx
    simp only [goodMembers, Bool.and_eq_true, beq_iff_eq] at hg
    cases tag with
    | zero =>
      obtain rfl := Option.some.inj hm
      obtain ⟨v', h1, h2⟩ := ihs x hg.1.1 hx
      exact ⟨v', by simpa [buildNth, hg.1.2] using h1, by rw [← hg.1.2]; exact h2⟩
    | succ tag => exact ihss hg.2 tag m hm x hx
  case case14 =>  -- the catch-all arm: the guard is false
    intro cs ms to h1 h2 hg
    cases ms with
    | nil =>
      cases cs with
      | nil => exact (h1 rfl rfl).elim
      | cons _ _ => simp [goodMembers] at hg
    | cons _ _ =>
      cases cs with
      | nil => simp [goodMembers] at hg
      | cons _ _ => exact (h2 _ _ _ _ rfl rfl).elim
  case case15 =>  -- fields
    intro fa vs _ _
    exact ⟨[], by simp [buildFields], by simp, by simp [leavesRec, RSteps.indices, Vals.ofList]⟩
  case case16 =>  -- filled
    intro fa n t fo s cs ihcs vs hg hv
    simp only [goodFields, Bool.and_eq_true] at hg
    obtain ⟨rs, h1, h2, h3⟩ := ihcs vs hg.2 hv
    refine ⟨(s.toType, s.toType, .null) :: rs, ?_, ?_, fun l => ?_⟩
    · simp [buildFields, hg.1, h1, Except.map]
    · intro p hp
      rcases List.mem_cons.1 hp with rfl | hp
      · rfl
      · exact h2 p hp
    · simp only [List.map_cons, Vals.ofList, leavesRec, leaves_null, pre, List.map_nil, List.nil_append,
        h3 l, RSteps.indices]
  case case17 =>  -- read from input field `i`
    intro fa n t fo i s cs ihs ihcs vs hg hv
    simp only [goodFields, Bool.and_eq_true] at hg
    obtain ⟨hg1, hg2⟩ := hg
    obtain ⟨rs, h1, h2, h3⟩ := ihcs vs hg2 hv
    split at hg1
    next n' ti hfa =>
      simp only [Bool.and_eq_true, beq_iff_eq] at hg1
      obtain ⟨⟨rfl, hgs⟩, hty⟩ := hg1
      have hxi := hasTypeRec_getD hv hfa
      obtain ⟨x', hb, hl⟩ := ihs ti (vs.getD i) hgs hxi
      have hhere := build_of_isNull hgs hxi
      rw [hb] at hhere
      refine ⟨(s.toType, s.toType, x') :: rs, ?_, ?_, fun l => ?_⟩
      · simp only [buildFields, Option.getD_some, hb, hhere, h1, Option.map_some, Except.map]
      · intro p hp
        rcases List.mem_cons.1 hp with rfl | hp
        · rfl
        · exact h2 p hp
      · simp only [List.map_cons, Vals.ofList, leavesRec, List.mem_append, h3 l, RSteps.indices, List.mem_cons]
        have hpc : ∀ l, l ∈ pre (.fld n') (leaves t x') ↔ l ∈ pre (.fld n') (leaves ti (vs.getD i)) :=
          pre_congr (fun l => by rw [leaves_under hty.symm x']; exact hl l)
        rw [hpc l]
        constructor
        · rintro (h | ⟨j, hj, r⟩)
          · exact ⟨i, Or.inl rfl, n', ti, hfa, h⟩
          · exact ⟨j, Or.inr hj, r⟩
        · rintro ⟨j, hj | hj, n2, t2, hj2, hl2⟩
          · subst hj
            rw [hfa] at hj2
            simp only [Option.some.injEq, Prod.mk.injEq] at hj2
            obtain ⟨rfl, rfl⟩ := hj2
            exact Or.inl hl2
          · exact Or.inr ⟨j, hj, n2, t2, hj2, hl2⟩
    next => exact absurd hg1 (by decide)
  case case18 =>  -- the catch-all arm
    intro cs fa fo h1 h2 h3 vs hg
    cases fo with
    | nil =>
      cases cs with
      | nil => exact (h1 rfl rfl).elim
      | cons _ _ _ => simp [goodFields] at hg
    | cons _ _ _ =>
      cases cs with
      | nil => simp [goodFields] at hg
      | cons idx _ _ =>
        cases idx with
        | none => exact (h2 _ _ _ _ _ rfl rfl).elim
        | some _ => exact (h3 _ _ _ _ _ _ rfl rfl).elim

theorem build_good (s : Step) (a : Ty) (v : Val) (hg : goodStep a s = true) (ht : hasType v a = true) :
    ∃ v', build s v = .ok s.toType v' ∧ ∀ l, l ∈ leaves s.toType v' ↔ l ∈ leaves a v :=
  build_good_all.1 a s v hg ht

theorem buildNth_good : (cs : Steps) → (ms : Tys) → (to : Ty) → goodMembers ms cs to = true →
    (tag : Nat) → (m : Ty) → ms.get? tag = some m → (x : Val) → hasType x m = true →
    ∃ v', buildNth cs tag x = .ok to v' ∧ ∀ l, l ∈ leaves to v' ↔ l ∈ leaves m x :=
  fun cs ms to hg tag m hm x hx => build_good_all.2.2 ms cs to hg tag m hm x hx

theorem buildFields_good : (cs : RSteps) → (fa fo : Fields) → (vs : Vals) → goodFields fa fo cs = true →
    hasTypeRec vs fa = true →
    ∃ rs, buildFields cs vs = some (.ok rs) ∧ (∀ p ∈ rs, p.2.1 = p.1) ∧
      ∀ l, (l ∈ leavesRec fo (Vals.ofList (rs.map (·.2.2))) ↔
        ∃ i ∈ cs.indices, ∃ n t, fa.get? i = some (n, t) ∧ l ∈ pre (.fld n) (leaves t (vs.getD i))) :=
  fun cs fa fo vs hg hv => build_good_all.2.1 fa fo cs vs hg hv

end Zed.Fuse

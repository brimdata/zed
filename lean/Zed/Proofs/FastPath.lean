import Zed.Proofs.CompareValEq
/-! The int64 fast path of `sortStableIndices` orders like `Comparator.Compare` (`sortRows_eq_ref`). -/
namespace Zed

theorem fastPath_isNumber (id : Nat) (h : fastPathId id = true) : isNumberId id = true := by
  rw [isNumberId_iff]
  simp [fastPathId, evalBounds, evalBound, Generated.C06.fastPathGuard] at h
  omega

theorem min_neg : minInt64 < 0 := by decide
theorem max_pos : 0 < maxInt64 := by decide

/-- the integer a fast-path value stands for (a null: beyond every int64 and uint64);
    `compareValues` compares these, and `i64s[i]` is this integer clamped to the int64 range -/
def exactKey (nm : Bool) : Val → Int
  | .null _ => if nm then 2 ^ 64 else -(2 ^ 64)
  | .num _ n => n.toInt
  | _ => 0

def clamp64 (z : Int) : Int := max minInt64 (min maxInt64 z)

theorem clamp64_mono {a b : Int} (h : a ≤ b) : clamp64 a ≤ clamp64 b := by unfold clamp64; omega

theorem clamp64_of_mem {a : Int} (h1 : clamp64 a ≠ maxInt64) (h2 : clamp64 a ≠ minInt64) : clamp64 a = a := by
  have := min_neg; have := max_pos; unfold clamp64 at *; omega

theorem clamp64_cmp (a b : Int) :
    (clamp64 a ≠ clamp64 b → compare a b = if clamp64 a < clamp64 b then .lt else .gt) ∧
    (clamp64 a = clamp64 b → clamp64 a ≠ maxInt64 → clamp64 a ≠ minInt64 → compare a b = .eq) := by
  refine ⟨fun h => ?_, fun h h1 h2 => Int.compare_eq_eq.mpr ?_⟩
  · split
    · exact Int.compare_eq_lt.mpr (Int.not_le.mp fun hba => by have := clamp64_mono hba; omega)
    · exact Int.compare_eq_gt.mpr (Int.not_le.mp fun hab => by have := clamp64_mono hab; omega)
  · rw [← clamp64_of_mem h1 h2, h, clamp64_of_mem (h ▸ h1) (h ▸ h2)]

theorem fastKey_clamp {nm : Bool} {v : Val} {k : Int} (h : fastKey nm v = some k) (ok : v.ok = true) :
    k = clamp64 (exactKey nm v) ∧
    (v.isNull = true ∨ ∃ t n, v = .num t n ∧ t.isNumber = true ∧ n.isFloat = false ∧
      -(2 ^ 64) < n.toInt ∧ n.toInt < 2 ^ 64) := by
  unfold fastKey at h
  cases hp : v.ty.primId? with
  | none => simp [hp] at h
  | some id =>
    simp only [hp] at h
    by_cases f : fastPathId id = true
    case neg => simp [f] at h
    simp only [f, Bool.not_true, Bool.false_eq_true, if_false] at h
    have nt : v.ty.isNumber = true := by simp [Ty.isNumber, hp, fastPath_isNumber _ f]
    have lo : -(2 ^ 64) < minInt64 := by decide
    have hi : maxInt64 < 2 ^ 64 := by decide
    cases v with
    | null t =>
      cases h
      exact ⟨by cases nm <;> simp only [exactKey] <;> decide, .inl rfl⟩
    | num t n =>
      simp only [Val.ty] at hp nt
      have r : numOk id n = true := by simp [Val.ok, hp] at ok; exact ok.2
      cases n with
      | int i =>
        cases h
        simp only [numOk, Bool.and_eq_true, decide_eq_true_eq] at r
        exact ⟨by simp only [exactKey, clamp64, Num.toInt]; omega,
          .inr ⟨t, _, rfl, nt, rfl, Int.lt_of_lt_of_le lo r.1.2, Int.lt_of_le_of_lt r.2 hi⟩⟩
      | uint u =>
        cases h
        simp only [numOk, Bool.and_eq_true, decide_eq_true_eq] at r
        refine ⟨?_, .inr ⟨t, _, rfl, nt, rfl, Int.lt_of_lt_of_le (by decide) (Int.natCast_nonneg u),
          by simp only [Num.toInt]; omega⟩⟩
        have := min_neg; have := max_pos
        simp only [exactKey, Num.toInt]; unfold clamp64; split <;> omega
      | float f => simp at h
    | _ => simp at h

theorem cmpVal_exactKey (nm : Bool) (x y : Val) (ka kb : Int)
    (hx : fastKey nm x = some ka) (hy : fastKey nm y = some kb) (okx : x.ok = true) (oky : y.ok = true) :
    cmpVal nm x y = compare (exactKey nm x) (exactKey nm y) := by
  obtain ⟨-, sx⟩ := fastKey_clamp hx okx
  obtain ⟨-, sy⟩ := fastKey_clamp hy oky
  rcases sx with nx | ⟨t, n, rfl, ht, hn, l, u⟩ <;> rcases sy with ny | ⟨t', n', rfl, ht', hn', l', u'⟩
  · cases x <;> cases y <;> simp only [Val.isNull, Bool.false_eq_true] at nx ny
    rw [cmpVal_null_null]; exact (Int.compare_eq_eq.mpr rfl).symm
  · cases x <;> simp only [Val.isNull, Bool.false_eq_true] at nx
    rw [cmpVal_null_left nm _ _ rfl]
    cases nm <;> simp only [exactKey, if_true, if_false, Bool.false_eq_true]
    · exact (Int.compare_eq_lt.mpr l').symm
    · exact (Int.compare_eq_gt.mpr u').symm
  · cases y <;> simp only [Val.isNull, Bool.false_eq_true] at ny
    rw [cmpVal_null_right nm _ _ rfl]
    cases nm <;> simp only [exactKey, if_true, if_false, Bool.false_eq_true]
    · exact (Int.compare_eq_gt.mpr l).symm
    · exact (Int.compare_eq_lt.mpr u).symm
  · rw [cmpVal_num nm t t' n n' ht ht', cmpNum_ints n n' hn hn']; rfl

theorem fastKey_cmp (nm : Bool) (x y : Val) (ka kb : Int)
    (hx : fastKey nm x = some ka) (hy : fastKey nm y = some kb) (okx : x.ok = true) (oky : y.ok = true) :
    (ka ≠ kb → cmpVal nm x y = if ka < kb then .lt else .gt) ∧
    (ka = kb → ka ≠ maxInt64 → ka ≠ minInt64 → cmpVal nm x y = .eq) := by
  rw [cmpVal_exactKey nm x y ka kb hx hy okx oky, (fastKey_clamp hx okx).1, (fastKey_clamp hy oky).1]
  exact clamp64_cmp _ _

/-- `o`: the comparison of the first keys (swapped for a descending key), `R`: that of the rest -/
theorem lessFast_step (o R : Ordering) (ka kb : Int)
    (k : (ka ≠ kb → o = if ka < kb then .lt else .gt) ∧ (ka = kb → ka ≠ maxInt64 → ka ≠ minInt64 → o = .eq)) :
    (if ka ≠ kb then decide (ka < kb)
      else if ka ≠ maxInt64 ∧ ka ≠ minInt64 then R == .lt
      else if o ≠ .eq then o == .lt else R == .lt) = ((if o ≠ .eq then o else R) == .lt) := by
  by_cases hne : ka = kb
  · simp only [hne, ne_eq, not_true_eq_false, if_false]
    by_cases hs : kb ≠ maxInt64 ∧ kb ≠ minInt64
    · simp [hs, k.2 hne (hne ▸ hs.1) (hne ▸ hs.2)]
    · simp only [hs, if_false]; split <;> rfl
  · simp only [ne_eq, hne, not_false_eq_true, if_true, k.1 hne]
    by_cases hl : ka < kb <;> simp [hl]

theorem lessFast_eq (nm : Bool) (dirs : List Bool) (a b : Row) (x y : Val) (xs ys : List Val) (ka kb : Int)
    (ha : a.keys = x :: xs) (hb : b.keys = y :: ys)
    (hx : fastKey nm x = some ka) (hy : fastKey nm y = some kb) (okx : x.ok = true) (oky : y.ok = true) :
    lessFast nm dirs a b ka kb = lessSlow nm dirs a b := by
  unfold lessFast lessSlow cmpRow
  rw [ha, hb]
  cases dirs with
  | nil => simp [cmpKeys]
  | cons d ds =>
    simp only [cmpKeys]
    cases d with
    | false =>
      simp only [Bool.false_eq_true, if_false]
      exact lessFast_step _ _ ka kb (fastKey_cmp nm x y ka kb hx hy okx oky)
    | true =>
      simp only [if_true]
      exact lessFast_step _ _ kb ka (fastKey_cmp nm y x kb ka hy hx oky okx)

theorem lessUsed_eq (nm : Bool) (dirs : List Bool) (rows : List Row) (a b : Row)
    (oka : ∀ k ∈ a.keys, k.ok = true) (okb : ∀ k ∈ b.keys, k.ok = true) :
    lessUsed nm dirs rows a b = lessSlow nm dirs a b := by
  unfold lessUsed
  split
  · cases ha : a.keys with
    | nil => rfl
    | cons x xs =>
      cases hb : b.keys with
      | nil => rfl
      | cons y ys =>
        simp only
        cases hx : fastKey nm x with
        | none => rfl
        | some ka =>
          cases hy : fastKey nm y with
          | none => rfl
          | some kb =>
            simp only
            exact lessFast_eq nm dirs a b x y xs ys ka kb ha hb hx hy (oka x (by simp [ha])) (okb y (by simp [hb]))
  · rfl

theorem sortRows_eq_ref (nm : Bool) (dirs : List Bool) (rows : List Row)
    (hok : ∀ r ∈ rows, ∀ k ∈ r.keys, k.ok = true) : sortRows nm dirs rows = sortRowsRef nm dirs rows := by
  unfold sortRows sortRowsRef stableSortBy
  have := List.map_mergeSort (f := id) (r := fun a b => !lessUsed nm dirs rows b a)
    (s := fun a b => !lessSlow nm dirs b a) (l := rows)
    (fun a ha b hb => by simp only [id]; rw [lessUsed_eq nm dirs rows b a (hok b hb) (hok a ha)])
  simpa using this

end Zed

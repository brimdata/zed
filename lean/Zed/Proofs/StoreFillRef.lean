/-
  C12 / C17: the create-then-fill put discipline (Zed/Model/StoreFill.lean)
  refines the atomic system; half-written files are never the ones readers rely on.
-/
import Zed.Proofs.StoreBranch
import Zed.Model.StoreFill
namespace Zed.Store

/-- Each create-then-fill transition is, on the atomic component, a stutter, the atomic
    transition of the same client, or the truncation of a snapshot file. -/
theorem fill_step_refines (f : FSys) (c : Nat) :
    (f.step c).1.a = f.a ∨ (f.step c).1.a = (f.a.step c).1 ∨ ∃ j, (f.step c).1.a = f.a.exec (.truncSnap j) := by
  unfold FSys.step
  split
  · rename_i p hp
    split
    · left; rfl
    · right; left; rfl
  · split
    · left; rfl
    · rename_i ev hev
      split
      · split
        · right; left; rfl
        · rename_i j' _; right; right; exact ⟨j', rfl⟩
        · left; rfl
      · split
        · split
          · left; rfl
          · right; left; rfl
          · right; left; rfl
        · right; left; rfl

theorem noReset_nil (j : Nat) : NoReset j [] := fun _ hl => by cases hl
theorem noDrop_nil (j : Nat) : NoDrop j [] := fun _ hl => by cases hl

def FLabel.resets (j : Nat) : FLabel → Bool
  | .start _ st => st.resets j
  | .step _ => false

def FLabel.drops (j : Nat) : FLabel → Bool
  | .start _ st => st.drops j
  | .step _ => false

def NoResetF (j : Nat) (ls : List FLabel) : Prop := ∀ l ∈ ls, l.resets j = false
def NoDropF (j : Nat) (ls : List FLabel) : Prop := ∀ l ∈ ls, l.drops j = false

/-- One create-then-fill label is zero or one atomic label that neither resets nor drops
    anything the original label did not. -/
theorem fill_exec_refines (f : FSys) (l : FLabel) :
    ∃ ls : List Label, (f.exec l).a = f.a.run ls ∧
      (∀ j, l.resets j = false → NoReset j ls) ∧ (∀ j, l.drops j = false → NoDrop j ls) := by
  cases l with
  | start c st =>
    refine ⟨[.start c st], rfl, ?_, ?_⟩
    · intro j h l hl; simp at hl; subst hl; simpa [Label.resets, FLabel.resets] using h
    · intro j h l hl; simp at hl; subst hl; simpa [Label.drops, FLabel.drops] using h
  | step c =>
    rcases fill_step_refines f c with h | h | ⟨j', h⟩
    · exact ⟨[], by simpa [FSys.exec, Sys.run] using h, ⟨fun j _ => noReset_nil j, fun j _ => noDrop_nil j⟩⟩
    · refine ⟨[.step c], by simpa [FSys.exec, Sys.run, Sys.exec] using h, ?_, ?_⟩
      · intro j _ l hl; simp at hl; subst hl; rfl
      · intro j _ l hl; simp at hl; subst hl; rfl
    · refine ⟨[.truncSnap j'], by simpa [FSys.exec, Sys.run] using h, ?_, ?_⟩
      · intro j _ l hl; simp at hl; subst hl; rfl
      · intro j _ l hl; simp at hl; subst hl; rfl

theorem fill_run_refines (ls : List FLabel) : ∀ (f : FSys),
    ∃ ls' : List Label, (f.run ls).a = f.a.run ls' ∧
      (∀ j, NoResetF j ls → NoReset j ls') ∧ (∀ j, NoDropF j ls → NoDrop j ls') := by
  induction ls with
  | nil => intro f; exact ⟨[], rfl, ⟨fun j _ => noReset_nil j, fun j _ => noDrop_nil j⟩⟩
  | cons l ls ih =>
    intro f
    obtain ⟨l1, h1, r1, d1⟩ := fill_exec_refines f l
    obtain ⟨l2, h2, r2, d2⟩ := ih (f.exec l)
    refine ⟨l1 ++ l2, ?_, ?_, ?_⟩
    · simp only [FSys.run]; rw [h2, h1, Sys.run_append]
    · intro j hn x hx
      rcases List.mem_append.mp hx with hx | hx
      · exact r1 j (hn l (by simp)) x hx
      · exact r2 j (fun y hy => hn y (by simp [hy])) x hx
    · intro j hn x hx
      rcases List.mem_append.mp hx with hx | hx
      · exact d1 j (hn l (by simp)) x hx
      · exact d2 j (fun y hy => hn y (by simp [hy])) x hx

/-- The atomic component of every create-then-fill run is a reachable atomic state: all C12 /
    C17 theorems of the atomic system hold of it. -/
theorem fill_reach {j : Nat} {f : FSys} (h : Reach j f.a) (ls : List FLabel) (hn : NoResetF j ls) :
    Reach j (f.run ls).a := by
  obtain ⟨ls', h1, r1, _⟩ := fill_run_refines ls f
  rw [h1]; exact h.run ls' (r1 j hn)

theorem fill_reachB {j : Nat} {f : FSys} (h : ReachB j f.a) (ls : List FLabel) (hn : NoResetF j ls)
    (hd : NoDropF j ls) : ReachB j (f.run ls).a := by
  obtain ⟨ls', h1, r1, d1⟩ := fill_run_refines ls f
  rw [h1]; exact h.run ls' (r1 j hn) (d1 j hd)

/-- Entry files are touched by journal machines only. -/
theorem step_ev (s : Sys) (c : Nat) (ev : Ev) (h : (s.step c).2 = some ev) :
    (∃ j slot k pc, (s.cl c).onJ j = some (slot, pc) ∧ (s.cl c).kindOn j = some k ∧
      ev = (jstep s.store j ((s.cl c).cache j slot) k pc).ev) ∨
    ∀ j n, ev.path ≠ .ent j n := by
  cases hp : (s.cl c).proc with
  | none => rw [step_idle s c hp] at h; cases h
  | some p =>
    rcases step_cases s c p hp with ⟨j, slot, k, pc, hon, hk⟩ | ⟨st, f, x, ev', o⟩
    · refine Or.inl ⟨j, slot, k, pc, hon, hk, ?_⟩
      rw [(step_machine s c j slot k pc hon hk).2] at h; exact (Option.some.inj h).symm
    · rw [o.eq] at h; exact Or.inr (Option.some.inj h ▸ o.noEnt)

/-- The files of journal j that are half-written: an entry only by its creator, who has already
    won the exclusive create (atomic component at `putHead n`). -/
structure FInv (j : Nat) (f : FSys) : Prop where
  ent_mid : ∀ c n, f.mid c = some (.ent j n) → (f.a.cl c).pcOn j = some (.putHead n)
  ent_half : ∀ n, f.half (.ent j n) = true → ∃ c, f.mid c = some (.ent j n)

theorem FInv.ofSys (j : Nat) (a : Sys) : FInv j (FSys.ofSys a) :=
  ⟨fun c n h => by simp [FSys.ofSys] at h, fun n h => by simp [FSys.ofSys] at h⟩

theorem start_keeps_busy (s : Sys) (c c' : Nat) (st : Start) (j : Nat) (pc : JPc)
    (h : (s.cl c').pcOn j = some pc) : ((s.start c st).cl c').pcOn j = some pc := by
  rw [start_busy s c c' st fun hn => by simp [Client.pcOn, Client.onJ, hn] at h]; exact h

/-- c begins a file: an entry of j only if its atomic state is already at the HEAD write for it. -/
theorem FInv.setHalf {j : Nat} {f : FSys} (hi : FInv j f) (c : Nat) (p : Path) (a' : Sys) (hmid : f.mid c = none)
    (hoth : ∀ c', c' ≠ c → a'.cl c' = f.a.cl c')
    (hp : ∀ n, p = .ent j n → (a'.cl c).pcOn j = some (.putHead n)) : FInv j { f.setHalf c p with a := a' } := by
  refine ⟨fun c' n hm => ?_, fun n hh => ?_⟩
  · simp only [FSys.setHalf] at hm
    by_cases hcc : c' = c
    · subst hcc; rw [if_pos rfl] at hm; exact hp n (Option.some.inj hm)
    · rw [if_neg hcc] at hm
      show (a'.cl c').pcOn j = _
      rw [hoth c' hcc]; exact hi.ent_mid c' n hm
  · simp only [FSys.setHalf] at hh ⊢
    split at hh
    · rename_i hq; exact ⟨c, by rw [if_pos rfl, hq]⟩
    · obtain ⟨c'', hc''⟩ := hi.ent_half n hh
      have : c'' ≠ c := by rintro rfl; rw [hmid] at hc''; cases hc''
      exact ⟨c'', by rw [if_neg this]; exact hc''⟩

theorem FInv.clear {j : Nat} {f : FSys} (hi : FInv j f) (c : Nat) (p : Path) (a' : Sys) (hmid : f.mid c = some p)
    (hoth : ∀ c', c' ≠ c → a'.cl c' = f.a.cl c') : FInv j { f.clear c p with a := a' } := by
  refine ⟨fun c' n hm => ?_, fun n hh => ?_⟩
  · simp only [FSys.clear] at hm
    by_cases hcc : c' = c
    · rw [if_pos hcc] at hm; cases hm
    · rw [if_neg hcc] at hm
      show (a'.cl c').pcOn j = _
      rw [hoth c' hcc]; exact hi.ent_mid c' n hm
  · simp only [FSys.clear] at hh ⊢
    split at hh
    · cases hh
    · rename_i hne
      obtain ⟨c'', hc''⟩ := hi.ent_half n hh
      have : c'' ≠ c := by rintro rfl; rw [hmid] at hc''; exact hne (Option.some.inj hc'').symm
      exact ⟨c'', by rw [if_neg this]; exact hc''⟩

theorem fill_inv_exec {j : Nat} {f : FSys} (l : FLabel) (hi : FInv j f) : FInv j (f.exec l) := by
  cases l with
  | start c st =>
    exact ⟨fun c' n hm => start_keeps_busy _ _ _ _ _ _ (hi.ent_mid c' n hm), hi.ent_half⟩
  | step c =>
    simp only [FSys.exec]
    have hoth := step_others f.a c
    unfold FSys.step
    split
    · rename_i p hp
      split
      · exact hi.clear c _ f.a hp fun _ _ => rfl
      · exact hi.clear c _ _ hp hoth
    · rename_i hmid
      have hkeep : ∀ a' b, (∀ c', c' ≠ c → a'.cl c' = f.a.cl c') → FInv j { f with a := a', broken := b } :=
        fun a' b ho => ⟨fun c' n hm => by
          have hcc : c' ≠ c := by rintro rfl; rw [hmid] at hm; cases hm
          show (a'.cl c').pcOn j = _
          rw [ho c' hcc]; exact hi.ent_mid c' n hm, hi.ent_half⟩
      split
      · exact hi
      · rename_i ev hev
        split
        · rename_i hw
          split
          · -- exclusive create of an entry: the atomic step is taken now
            rename_i j' n' hpath
            refine hi.setHalf c _ _ hmid hoth fun n hn => ?_
            rw [hpath] at hn
            obtain ⟨rfl, rfl⟩ := Path.ent.inj hn
            -- the event goes to an entry file: it is that of a journal machine, a successful put-if-absent
            obtain ⟨j2, sl, k, pc, hon, hk, hev2⟩ := (step_ev _ _ _ hev).resolve_right fun h => h _ _ hpath
            have hw' : ev.op = .putx ∧ ev.res = .ok := by
              simp only [Ev.isWrite, Bool.or_eq_true, Bool.and_eq_true, beq_iff_eq] at hw
              rcases hw with hw | hw
              · exact absurd (by rw [← hev2]; exact hpath)
                  (jstep_put_not_ent _ _ _ _ _ (by rw [← hev2]; exact hw) j' n')
              · exact hw
            obtain ⟨rfl, hpc⟩ := jstep_putx_ok _ _ _ _ _ j' n' (by rw [← hev2]; exact hw'.1)
              (by rw [← hev2]; exact hw'.2) (by rw [← hev2]; exact hpath)
            rw [(step_jrun _ _ _ _ _ _ hon hk).pc]; exact hpc
          · rename_i j' hpath
            exact hi.setHalf c _ _ hmid (fun _ _ => rfl) fun n hn => by rw [hpath] at hn; cases hn
          · rename_i hne _
            exact hi.setHalf c _ _ hmid (fun _ _ => rfl) fun n hn => (hne _ _ hn).elim
        · split
          · split
            · exact hi
            · exact hkeep _ true hoth
            · exact hkeep _ f.broken hoth
          · exact hkeep _ f.broken hoth

/-- A half-written entry file is the newest entry, one beyond HEAD. -/
theorem fill_half_entry_is_end {j : Nat} {f : FSys} {e : Nat} (h1 : Inv1 j f.a e) (hi : FInv j f) (n : Nat)
    (hh : f.half (.ent j n) = true) : n = e ∧ headOf f.a.store j + 1 = e := by
  obtain ⟨c, hc⟩ := hi.ent_half n hh
  exact h1.ph c n (hi.ent_mid c n hc)

theorem fill_complete_below_head {j : Nat} {f : FSys} {e : Nat} (h1 : Inv1 j f.a e) (hi : FInv j f) (n : Nat)
    (hn : n ≤ headOf f.a.store j) : f.half (.ent j n) = false := by
  cases hx : f.half (.ent j n) with
  | false => rfl
  | true => have := fill_half_entry_is_end h1 hi n hx; omega

/-- No client ever reads a journal entry file between its exclusive create and its filling. -/
theorem fill_entry_reads_complete {j : Nat} {f : FSys} (hr : Reach j f.a) (hi : FInv j f) (c n : Nat) (ev : Ev)
    (hev : (f.a.step c).2 = some ev) (hop : ev.op = .get) (hpath : ev.path = .ent j n) :
    f.half (.ent j n) = false := by
  obtain ⟨e, h1, h2⟩ := hr.inv12
  obtain ⟨j2, sl, k, pc, hon, hk, hev2⟩ := (step_ev _ _ _ hev).resolve_right fun h => h j n hpath
  obtain ⟨hjj, h, t, a0, hpc⟩ := jstep_get_ent _ _ _ _ _ j n (by rw [← hev2]; exact hop) (by rw [← hev2]; exact hpath)
  subst hjj; subst hpc
  have hh : h ≤ headOf f.a.store j2 := h1.known c _ h (pcOn_of_onJ hon) (by simp [JPc.known])
  obtain ⟨_, hnh, _, _⟩ := h2.pcs c sl k _ hon hk
  exact fill_complete_below_head h1 hi n (by omega)

/-- States of the create-then-fill system reachable from a fresh journal j. -/
def FReach (j : Nat) (f : FSys) : Prop :=
  ∃ a0 ls, JFresh j a0 ∧ NoResetF j ls ∧ f = (FSys.ofSys a0).run ls

theorem fill_inv_run {j : Nat} (ls : List FLabel) : ∀ {f : FSys}, FInv j f → FInv j (f.run ls) := by
  induction ls with
  | nil => exact fun hi => hi
  | cons l ls ih => exact fun hi => ih (fill_inv_exec l hi)

theorem FReach.inv {j : Nat} {f : FSys} (h : FReach j f) : Reach j f.a ∧ FInv j f := by
  obtain ⟨a0, ls, hf, hn, rfl⟩ := h
  exact ⟨fill_reach (f := FSys.ofSys a0) ⟨a0, [], hf, noReset_nil j, rfl⟩ ls hn, fill_inv_run ls (FInv.ofSys j a0)⟩

end Zed.Store

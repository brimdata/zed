/-
  Proofs about the slicer model (C08): `slice` partitions the lister output into non-empty,
  pairwise strictly separated runs, for ascending (by `min`) and descending (by `max`) lister
  orders; the span reported by nextPartition is the hull of the partition.
-/
import Zed.Model.ParSlicer
import Zed.Proofs.LakeOrder
namespace Zed.Proofs.ParSlicer
open Zed.Par

/-! `slice` opens a partition at the first object, and from then on the partition in hand is never
empty: the lemmas about `sliceAux` assume `cur ≠ []` (with nothing in hand `lo` and `hi` are not
looked at). -/

theorem slice_nil : slice [] = [] := rfl

theorem slice_cons (o : Obj) (rest : List Obj) :
    slice (o :: rest) = sliceAux [o] o.min o.max rest := rfl

theorem sliceAux_empty (lo hi : Int) (rest : List Obj) : sliceAux [] lo hi rest = slice rest := by
  cases rest <;> rfl

theorem sliceAux_nil {cur : List Obj} (hc : cur ≠ []) (lo hi : Int) :
    sliceAux cur lo hi [] = [cur] := by
  cases cur with
  | nil => exact absurd rfl hc
  | cons c cs => rfl

theorem sliceAux_cut {cur : List Obj} (hc : cur ≠ []) {lo hi : Int} {o : Obj}
    (hd : o.max < lo ∨ o.min > hi) (rest : List Obj) :
    sliceAux cur lo hi (o :: rest) = cur :: sliceAux [o] o.min o.max rest := by
  cases cur with
  | nil => exact absurd rfl hc
  | cons c cs => exact if_pos hd

theorem sliceAux_extend {cur : List Obj} (hc : cur ≠ []) {lo hi : Int} {o : Obj}
    (hd : ¬(o.max < lo ∨ o.min > hi)) (rest : List Obj) :
    sliceAux cur lo hi (o :: rest) =
      sliceAux (cur ++ [o]) (if o.min < lo then o.min else lo) (if hi < o.max then o.max else hi)
        rest := by
  cases cur with
  | nil => exact absurd rfl hc
  | cons c cs => exact if_neg hd

theorem sliceAux_flatten (rest : List Obj) : ∀ (cur : List Obj) (lo hi : Int), cur ≠ [] →
    (sliceAux cur lo hi rest).flatten = cur ++ rest := by
  induction rest with
  | nil =>
    intro cur lo hi hc
    rw [sliceAux_nil hc, List.flatten_singleton, List.append_nil]
  | cons o rest ih =>
    intro cur lo hi hc
    by_cases hd : o.max < lo ∨ o.min > hi
    · rw [sliceAux_cut hc hd, List.flatten_cons, ih _ _ _ (List.cons_ne_nil o [])]
      rfl
    · rw [sliceAux_extend hc hd, ih _ _ _ (List.concat_ne_nil o cur), List.append_assoc]
      rfl

theorem slice_flatten (objs : List Obj) : (slice objs).flatten = objs := by
  cases objs with
  | nil => rfl
  | cons o rest =>
    rw [slice_cons]
    exact sliceAux_flatten rest [o] o.min o.max (List.cons_ne_nil o [])

theorem sliceAux_nonempty (rest : List Obj) : ∀ (cur : List Obj) (lo hi : Int), cur ≠ [] →
    ∀ p ∈ sliceAux cur lo hi rest, p ≠ [] := by
  induction rest with
  | nil =>
    intro cur lo hi hc p hp
    rw [sliceAux_nil hc, List.mem_singleton] at hp
    rw [hp]
    exact hc
  | cons o rest ih =>
    intro cur lo hi hc p hp
    by_cases hd : o.max < lo ∨ o.min > hi
    · rw [sliceAux_cut hc hd] at hp
      rcases List.mem_cons.1 hp with h | h
      · rw [h]
        exact hc
      · exact ih _ _ _ (List.cons_ne_nil o []) p h
    · rw [sliceAux_extend hc hd] at hp
      exact ih _ _ _ (List.concat_ne_nil o cur) p hp

theorem slice_nonempty (objs : List Obj) : ∀ p ∈ slice objs, p ≠ [] := by
  cases objs with
  | nil => exact fun p hp => absurd hp List.not_mem_nil
  | cons o rest =>
    rw [slice_cons]
    exact sliceAux_nonempty rest [o] o.min o.max (List.cons_ne_nil o [])

/-! C14's `Lake.slicer` models the same `meta.Slicer` over abstract keys, as a fold over the slicer's
state.  At `K = Int` it computes `slice` (`slice_eq_slicer`), so the separation of the partitions is
`Lake.slicer_separated`, for ascending and for descending pools alike. -/

/-- `Int` ranks as a pool configuration; only `kle` and `desc` matter to the slicer. -/
def icfg (desc : Bool) : Lake.Cfg Int Unit :=
  { key := fun _ => 0, mkey := fun _ => 0, kle := fun a b => decide (a ≤ b), keq := fun a b => a == b,
    vle := fun _ _ => true, desc := desc, thresh := 0, size := fun _ => 0 }

def conv (o : Obj) : Lake.Obj Int := ⟨o.id, o.min, o.max, 0⟩

theorem klt_icfg (d : Bool) (a b : Int) : Lake.klt (icfg d) a b = true ↔ a < b := by
  simp only [Lake.klt, icfg, Bool.and_eq_true, Bool.not_eq_true', decide_eq_true_eq,
    decide_eq_false_iff_not]
  omega

theorem icfg_total (d : Bool) : Lake.KeyTotal (icfg d) where
  refl a := decide_eq_true (Int.le_refl a)
  trans a b c h1 h2 := decide_eq_true (Int.le_trans (of_decide_eq_true h1) (of_decide_eq_true h2))
  total a b := by simp only [icfg, Bool.or_eq_true, decide_eq_true_eq]; exact Int.le_total a b

/-- what `Lake.slicer` returns from a final state -/
def flushed (st : Lake.SlicerSt Int) : List (List (Lake.Obj Int)) :=
  if st.group.isEmpty then st.out else st.out ++ [st.group]

theorem sliceAux_sim (d : Bool) (rest : List Obj) : ∀ (cur : List Obj) (lo hi : Int)
    (out : List (List (Lake.Obj Int))), cur ≠ [] →
    flushed ((rest.map conv).foldl (Lake.slicerStep (icfg d)) ⟨cur.map conv, some lo, some hi, out⟩) =
      out ++ (sliceAux cur lo hi rest).map (List.map conv) := by
  induction rest with
  | nil =>
    intro cur lo hi out hc
    rw [sliceAux_nil hc]
    cases cur with
    | nil => exact absurd rfl hc
    | cons c cs => rfl
  | cons o rest ih =>
    intro cur lo hi out hc
    have hg : cur.map conv ≠ [] := fun e => hc (List.map_eq_nil_iff.1 e)
    show flushed ((rest.map conv).foldl _ (Lake.slicerStep _ _ (conv o))) = _
    by_cases hd : o.max < lo ∨ o.min > hi
    · rw [sliceAux_cut hc hd, Lake.step_cut _ hg out (by
        rw [Bool.or_eq_true, klt_icfg, klt_icfg]; exact hd)]
      exact (ih [o] o.min o.max _ (List.cons_ne_nil o [])).trans (by
        rw [List.map_cons, List.append_assoc]; rfl)
    · rw [sliceAux_extend hc hd, Lake.step_extend _ hg out (by
        rw [Bool.eq_false_iff, Ne, Bool.or_eq_true, klt_icfg, klt_icfg]; exact hd)]
      rw [show cur.map conv ++ [conv o] = (cur ++ [o]).map conv by simp]
      simp only [klt_icfg, conv]
      exact ih _ _ _ out (List.concat_ne_nil o cur)

theorem slice_eq_slicer (d : Bool) (objs : List Obj) :
    (slice objs).map (List.map conv) = Lake.slicer (icfg d) (objs.map conv) := by
  cases objs with
  | nil => rfl
  | cons o rest =>
    have := sliceAux_sim d rest [o] o.min o.max [] (List.cons_ne_nil o [])
    rw [List.nil_append] at this
    rw [slice_cons, ← this]; rfl

theorem slice_separated (d : Bool) (objs : List Obj) (hwf : ∀ o ∈ objs, o.min ≤ o.max)
    (hs : objs.Pairwise fun a b => if d then b.max ≤ a.max else a.min ≤ b.min) :
    (slice objs).Pairwise fun p q => ∀ a ∈ p, ∀ b ∈ q, if d then b.max < a.min else a.max < b.min := by
  have h := Lake.slicer_separated (icfg d) (icfg_total d) (objs.map conv)
    (List.pairwise_map.2 (hs.imp fun {a b} h => by
      cases d
      · exact decide_eq_true (p := a.min ≤ b.min) h
      · exact decide_eq_true (p := b.max ≤ a.max) h))
    (fun o ho => by
      obtain ⟨o', ho', rfl⟩ := List.mem_map.1 ho
      exact decide_eq_true (hwf o' ho'))
  rw [← slice_eq_slicer, List.pairwise_map] at h
  refine h.imp fun {p q} hpq a ha b hb => ?_
  have := hpq (conv a) (List.mem_map_of_mem ha) (conv b) (List.mem_map_of_mem hb)
  cases d
  · exact (klt_icfg false _ _).1 this
  · exact (klt_icfg true _ _).1 this

theorem slicer_partitions_asc (objs : List Obj)
    (hwf : ∀ o ∈ objs, o.min ≤ o.max)
    (hsorted : objs.Pairwise (fun a b => a.min ≤ b.min)) :
    (slice objs).flatten = objs ∧ (∀ p ∈ slice objs, p ≠ []) ∧
    (slice objs).Pairwise (fun p q => ∀ a ∈ p, ∀ b ∈ q, a.max < b.min) :=
  ⟨slice_flatten objs, slice_nonempty objs, slice_separated false objs hwf hsorted⟩

theorem slicer_partitions_desc (objs : List Obj)
    (hwf : ∀ o ∈ objs, o.min ≤ o.max)
    (hsorted : objs.Pairwise (fun a b => b.max ≤ a.max)) :
    (slice objs).flatten = objs ∧ (∀ p ∈ slice objs, p ≠ []) ∧
    (slice objs).Pairwise (fun p q => ∀ a ∈ p, ∀ b ∈ q, b.max < a.min) :=
  ⟨slice_flatten objs, slice_nonempty objs, slice_separated true objs hwf hsorted⟩

theorem foldl_extremum {r : Int → Int → Prop} (hrefl : ∀ a, r a a)
    (htrans : ∀ {a b c}, r a b → r b c → r a c)
    (c : Int → Int → Prop) [∀ m k, Decidable (c m k)]
    (hpos : ∀ {m k}, c m k → r k m) (hneg : ∀ {m k}, ¬c m k → r m k) (ks : List Int) :
    ∀ (k0 : Int),
      (∀ k ∈ k0 :: ks, r (ks.foldl (fun m k => if c m k then k else m) k0) k) ∧
        ks.foldl (fun m k => if c m k then k else m) k0 ∈ k0 :: ks := by
  induction ks with
  | nil => exact fun k0 => ⟨List.forall_mem_singleton.2 (hrefl k0), List.mem_singleton.2 rfl⟩
  | cons k ks ih =>
    intro k0
    rw [List.foldl_cons]
    by_cases h : c k0 k
    · rw [if_pos h]
      obtain ⟨hle, hmem⟩ := ih k
      exact ⟨List.forall_mem_cons.2 ⟨htrans (hle k List.mem_cons_self) (hpos h), hle⟩,
        List.mem_cons_of_mem k0 hmem⟩
    · rw [if_neg h]
      obtain ⟨hle, hmem⟩ := ih k0
      obtain ⟨hle0, hle⟩ := List.forall_mem_cons.1 hle
      refine ⟨List.forall_mem_cons.2
        ⟨hle0, List.forall_mem_cons.2 ⟨htrans hle0 (hneg h), hle⟩⟩, ?_⟩
      rcases List.mem_cons.1 hmem with h | h
      · rw [h]
        exact List.mem_cons_self
      · exact List.mem_cons_of_mem k0 (List.mem_cons_of_mem k h)

/-- the span nextPartition reports is the hull of the partition -/
theorem span_hull (p : List Obj) (hp : p ≠ []) :
    (∀ o ∈ p, spanMin p ≤ o.min) ∧ (∃ o ∈ p, spanMin p = o.min) ∧
    (∀ o ∈ p, o.max ≤ spanMax p) ∧ (∃ o ∈ p, spanMax p = o.max) := by
  cases p with
  | nil => exact absurd rfl hp
  | cons o rest =>
    have hmin := foldl_extremum (r := (· ≤ ·)) Int.le_refl Int.le_trans (fun m k => k < m)
      Int.le_of_lt Int.not_lt.1 (rest.map Obj.min) o.min
    have hmax := foldl_extremum (r := (· ≥ ·)) Int.le_refl (fun h1 h2 => Int.le_trans h2 h1)
      (fun m k => m < k) Int.le_of_lt Int.not_lt.1 (rest.map Obj.max) o.max
    rw [List.foldl_map, ← List.map_cons] at hmin hmax
    refine ⟨fun x hx => hmin.1 x.min (List.mem_map_of_mem hx), ?_,
      fun x hx => hmax.1 x.max (List.mem_map_of_mem hx), ?_⟩
    · obtain ⟨x, hx, h⟩ := List.mem_map.1 hmin.2
      exact ⟨x, hx, h.symm⟩
    · obtain ⟨x, hx, h⟩ := List.mem_map.1 hmax.2
      exact ⟨x, hx, h.symm⟩

private def o1 : Obj := { id := 1, min := 1, max := 5 }
private def o2 : Obj := { id := 2, min := 2, max := 3 }
private def o3 : Obj := { id := 3, min := 6, max := 9 }

/-- the ascending hypotheses are satisfiable, and the slicer output on the instance is the
    expected one: [(1,5),(2,3)] (overlapping) then [(6,9)]. -/
example : (∀ o ∈ [o1, o2, o3], o.min ≤ o.max) ∧
    [o1, o2, o3].Pairwise (fun a b => a.min ≤ b.min) ∧
    slice [o1, o2, o3] = [[o1, o2], [o3]] := by
  decide +kernel

example : (slice [o1, o2, o3]).Pairwise (fun p q => ∀ a ∈ p, ∀ b ∈ q, a.max < b.min) :=
  (slicer_partitions_asc [o1, o2, o3] (by decide) (by decide)).2.2

/-- the descending hypotheses are satisfiable: [(6,9),(1,5),(2,3)] is sorted by max descending -/
example : (∀ o ∈ [o3, o1, o2], o.min ≤ o.max) ∧
    [o3, o1, o2].Pairwise (fun a b => b.max ≤ a.max) ∧
    slice [o3, o1, o2] = [[o3], [o1, o2]] := by
  decide +kernel

example : (slice [o3, o1, o2]).Pairwise (fun p q => ∀ a ∈ p, ∀ b ∈ q, b.max < a.min) :=
  (slicer_partitions_desc [o3, o1, o2] (by decide) (by decide)).2.2

example : spanMin [o1, o2] = 1 ∧ spanMax [o1, o2] = 5 := by decide

/-- the sortedness hypothesis matters: (6,9) before (1,5) is not sorted by `min`, and the first two
    partitions [(6,9)], [(1,5)] already fail `a.max < b.min` -/
example : ¬ (slice [o3, o1, { id := 4, min := 7, max := 8 }]).Pairwise
    (fun p q => ∀ a ∈ p, ∀ b ∈ q, a.max < b.min) := by decide

end Zed.Proofs.ParSlicer

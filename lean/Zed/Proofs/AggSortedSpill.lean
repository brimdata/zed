/-
  Sorted-input mode of the group-by Aggregator WITH spills (C10): Zed/Model/AggSortedSpill.lean.
  `sorted_spill_release_safe` — for every batching, table limit and choice `pick` of the row
  maxSpillKey is taken from: if the input is sorted on the primary key and the comparator is
  faithful on the keys present, the early releases (from the table before the first spill, from
  the front of the merged spill stream afterwards) never emit a group that is needed again.

  Method: an invariant `SInv st xs ys` (xs consumed, ys still to come).  Without its spill files
  a state is a state of the in-memory mode (`core`), and `SInv` is the `Ledger` of released rows,
  spill files and table, the in-memory order invariant `Past` of `core st`, and what ties the
  spill files in (`SInv.of`).  A spill is "move the table to the spill files, then consume into
  the empty table"; the release from the spill files rests on `AggGroupby.relSpill_ok`.
-/
import Zed.Model.AggSortedSpill
import Zed.Proofs.AggGroupby
import Zed.Proofs.AggSorted
namespace Zed.Proofs.AggSortedSpill
open Zed.Agg
open Zed.Proofs.AggGroupby
open Zed.Proofs.ListLift (foldl_invariant foldl_batches_invariant)
open Zed.Proofs.AggSorted (keys_tableRows supsert_of_not_mem supsert_mem newMaxKey_cases
  sConsume_eq sRelease_some Past MemInv past_consume)
variable {K S P : Type} [DecidableEq K]

theorem any_key_iff (t : List (SRow K S P)) (k : K) :
    t.any (fun x => x.key == k) = true ↔ k ∈ t.map (·.key) := by
  simp only [List.any_eq_true, List.mem_map, beq_iff_eq]

theorem ssConsume_keep (m : Mon S) (le : K → K → Bool) (prim : K → P) (vle : P → P → Bool)
    (pick : List (K × S) → Option (K × S)) (limit : Nat) (st : SSGB K S P) (r : K × S)
    (h : r.1 ∈ st.table.map (·.key) ∨ st.table.length < limit) :
    ssConsume m le prim vle pick limit st r =
      { st with table := supsert m st.table r.1 r.2 (newMaxKey vle st.maxKey (prim r.1)),
                maxKey := some (newMaxKey vle st.maxKey (prim r.1)) } := by
  unfold ssConsume
  by_cases hin : r.1 ∈ st.table.map (·.key)
  · rw [if_pos ((any_key_iff _ _).2 hin)]
  · rw [if_neg (fun e => hin ((any_key_iff _ _).1 e)),
      if_neg (Nat.not_le.2 (h.resolve_left hin)), supsert_of_not_mem m _ _ _ _ hin]

/-- the new maxSpillKey is the old one or the primary key of a spilled row -/
theorem ssConsume_spill (m : Mon S) (le : K → K → Bool) (prim : K → P) (vle : P → P → Bool)
    (pick : List (K × S) → Option (K × S)) (hpick : ∀ l x, pick l = some x → x ∈ l)
    (limit : Nat) (st : SSGB K S P) (r : K × S)
    (hin : r.1 ∉ st.table.map (·.key)) (hlen : st.table.length ≥ limit) :
    ∃ ms', (∀ q, ms' = some q →
        st.maxSpill = some q ∨ ∃ x ∈ tableRows st.table, q = prim x.1) ∧
      ssConsume m le prim vle pick limit st r =
        { st with table := [⟨r.1, m.op m.e r.2, newMaxKey vle st.maxKey (prim r.1)⟩],
                  maxKey := some (newMaxKey vle st.maxKey (prim r.1)),
                  pending := isort (rowLe le) (st.pending ++ isort (rowLe le) (tableRows st.table)),
                  maxSpill := ms',
                  spilled := true } := by
  unfold ssConsume
  rw [if_neg (fun e => hin ((any_key_iff _ _).1 e)), if_pos hlen]
  refine ⟨_, fun q hq => ?_, rfl⟩
  split at hq
  · exact Or.inl hq
  · rename_i x hx
    cases hq
    exact (newMaxKey_cases vle st.maxSpill (prim x.1)).elim
      (fun e => Or.inr ⟨x, hpick _ _ hx, e⟩) Or.inl

theorem ledger_relSpill {m : Mon S} (hm : m.Laws) {le : K → K → Bool} (hle : TotalPreorder le)
    {prim : K → P} {vle : P → P → Bool} {ks : List K}
    (hf : ∀ a ∈ ks, ∀ b ∈ ks, eqv le a b = true → a = b) {out ext tab xs : List (K × S)}
    (hxs : ∀ k ∈ xs.map (·.1), k ∈ ks) (h : Ledger m out ext tab xs)
    (hsorted : ext.Pairwise (fun a b => rowLe le a b = true)) (ms : P)
    (htab : ∀ r ∈ tab, vle ms (prim r.1) = true) :
    Ledger m (out ++ (relSpill m le prim vle ms none ext).1) (relSpill m le prim vle ms none ext).2
      tab xs ∧
    (∀ k ∈ (relSpill m le prim vle ms none ext).1.map (·.1), ltOf vle (prim k) ms = true) ∧
    (relSpill m le prim vle ms none ext).2.Pairwise (fun a b => rowLe le a b = true) := by
  have hpk : ∀ r ∈ ext, r.1 ∈ ks := fun r hr => hxs _ ((h.same.1 r.1).1 (by
    rw [List.map_append, List.map_append]
    exact List.mem_append_left _ (List.mem_append_right _ (List.mem_map.2 ⟨r, hr, rfl⟩))))
  obtain ⟨pre, hr⟩ := relSpill_ok hm hle prim vle ms hf none ext hsorted hpk nofun
  generalize relSpill m le prim vle ms none ext = res at hr ⊢
  refine ⟨Ledger.releaseExt hm (hr.split ▸ h) hr.same hr.nodup hr.apart fun k hk hin => ?_,
    hr.below, (List.pairwise_append.1 (hr.split ▸ hsorted)).2.1⟩
  -- an emitted key is strictly below maxSpillKey, the table's keys are not
  obtain ⟨r0, h0, e⟩ := List.mem_map.1 hin
  exact BoolOrder.strict_not_le (hr.below k hk) (e ▸ htab r0 h0)

/-- `xs` is the input consumed so far, `ys` the input still to come -/
structure SInv (m : Mon S) (le : K → K → Bool) (prim : K → P) (vle : P → P → Bool)
    (st : SSGB K S P) (xs ys : List (K × S)) : Prop where
  /-- released + spilled + table rows hold exactly the keys and per-key aggregates of `xs` -/
  same : Same m (st.out ++ st.pending ++ tableRows st.table) xs
  outNodup : (st.out.map (·.1)).Nodup
  tabNodup : (st.table.map (·.key)).Nodup
  outPend : ∀ k ∈ st.out.map (·.1), k ∉ st.pending.map (·.1)
  outTab : ∀ k ∈ st.out.map (·.1), k ∉ st.table.map (·.key)
  pendSorted : st.pending.Pairwise (fun a b => rowLe le a b = true)
  unspilled : st.spilled = false → st.pending = [] ∧ st.maxSpill = none
  sorted : ys.Pairwise (fun a b => vle (prim a.1) (prim b.1) = true)
  /-- released keys are strictly in the past -/
  past : ∀ k ∈ st.out.map (·.1), ∀ y ∈ ys, ltOf vle (prim k) (prim y.1) = true
  gvge : ∀ r ∈ st.table, vle (prim r.key) r.gv = true
  mkle : ∀ mk, st.maxKey = some mk → ∀ y ∈ ys, vle mk (prim y.1) = true
  /-- so that a maxSpillKey from any table row is ≤ everything to come -/
  tabYs : ∀ r ∈ st.table, ∀ y ∈ ys, vle (prim r.key) (prim y.1) = true
  /-- maxSpillKey is at most every primary key in the table and still to come -/
  msTab : ∀ ms, st.maxSpill = some ms → ∀ r ∈ st.table, vle ms (prim r.key) = true
  msYs : ∀ ms, st.maxSpill = some ms → ∀ y ∈ ys, vle ms (prim y.1) = true

/-- the state without its spill files: a state of the in-memory mode -/
def core (st : SSGB K S P) : SGB K S P := ⟨st.table, st.maxKey, st.out⟩

section
variable {m : Mon S} {le : K → K → Bool} {prim : K → P} {vle : P → P → Bool}
  {st : SSGB K S P} {xs ys : List (K × S)}

theorem SInv.ledger (h : SInv m le prim vle st xs ys) :
    Ledger m st.out st.pending (tableRows st.table) xs :=
  ⟨h.same, h.outNodup, keys_tableRows st.table ▸ h.tabNodup, h.outPend,
    keys_tableRows st.table ▸ h.outTab⟩

theorem SInv.order (h : SInv m le prim vle st xs ys) : Past prim vle (core st) ys :=
  ⟨h.sorted, h.past, h.gvge, h.mkle⟩

theorem SInv.of (hl : Ledger m st.out st.pending (tableRows st.table) xs)
    (hp : Past prim vle (core st) ys)
    (pendSorted : st.pending.Pairwise (fun a b => rowLe le a b = true))
    (unspilled : st.spilled = false → st.pending = [] ∧ st.maxSpill = none)
    (tabYs : ∀ r ∈ st.table, ∀ y ∈ ys, vle (prim r.key) (prim y.1) = true)
    (msTab : ∀ ms, st.maxSpill = some ms → ∀ r ∈ st.table, vle ms (prim r.key) = true)
    (msYs : ∀ ms, st.maxSpill = some ms → ∀ y ∈ ys, vle ms (prim y.1) = true) :
    SInv m le prim vle st xs ys :=
  { same := hl.same, outNodup := hl.outNodup, tabNodup := keys_tableRows st.table ▸ hl.tabNodup,
    outPend := hl.outExt, outTab := keys_tableRows st.table ▸ hl.outTab, pendSorted := pendSorted,
    unspilled := unspilled, sorted := hp.sorted, past := hp.past, gvge := hp.gvge, mkle := hp.mkle,
    tabYs := tabYs, msTab := msTab, msYs := msYs }

theorem forall_supsert_key (m : Mon S) {t : List (SRow K S P)} {k : K} (s : S) (g : P)
    {Q : K → Prop} (hold : ∀ r ∈ t, Q r.key) (hnew : Q k) : ∀ r ∈ supsert m t k s g, Q r.key :=
  fun r hr => (supsert_mem m t k s g r hr).elim (fun ⟨r0, h0, hk, _⟩ => hk ▸ hold r0 h0)
    (fun ⟨hk, _⟩ => hk ▸ hnew)

theorem sinv_keep (hm : m.CommLaws) (hv : TotalPreorder vle) {r : K × S}
    (h : SInv m le prim vle st xs (r :: ys)) :
    SInv m le prim vle
      { st with table := supsert m st.table r.1 r.2 (newMaxKey vle st.maxKey (prim r.1)),
                maxKey := some (newMaxKey vle st.maxKey (prim r.1)) } (xs ++ [r]) ys := by
  have hs := List.pairwise_cons.1 h.sorted
  obtain ⟨hled, hord⟩ := sConsume_eq m prim vle (core st) r ▸
    MemInv.consume hm hv (⟨SInv.ledger h, h.order⟩ : MemInv m prim vle st.pending (core st) xs (r :: ys))
  exact SInv.of hled hord h.pendSorted h.unspilled
    (forall_supsert_key m _ _ (Q := fun k => ∀ y ∈ ys, vle (prim k) (prim y.1) = true)
      (fun r0 h0 y hy => h.tabYs r0 h0 y (List.mem_cons_of_mem _ hy)) hs.1)
    (fun ms hms => forall_supsert_key m _ _ (Q := fun k => vle ms (prim k) = true)
      (h.msTab ms hms) (h.msYs ms hms r List.mem_cons_self))
    (fun ms hms y hy => h.msYs ms hms y (List.mem_cons_of_mem _ hy))

theorem sinv_spill (hm : m.CommLaws) (hle : TotalPreorder le) (hv : TotalPreorder vle)
    {r : K × S} {ms' : Option P}
    (hms' : ∀ q, ms' = some q → st.maxSpill = some q ∨ ∃ x ∈ tableRows st.table, q = prim x.1)
    (h : SInv m le prim vle st xs (r :: ys)) :
    SInv m le prim vle
      { st with table := [⟨r.1, m.op m.e r.2, newMaxKey vle st.maxKey (prim r.1)⟩],
                maxKey := some (newMaxKey vle st.maxKey (prim r.1)),
                pending := isort (rowLe le) (st.pending ++ isort (rowLe le) (tableRows st.table)),
                maxSpill := ms',
                spilled := true } (xs ++ [r]) ys := by
  have hs := List.pairwise_cons.1 h.sorted
  -- the table moves to the spill files, then the row is consumed into the empty table
  have hled := ((SInv.ledger h).spill hm
    ((isort_perm (rowLe le) _).trans (List.Perm.append_left _ (isort_perm (rowLe le) _)))).upsert hm r
      h.order.head_not_released
  have hord := past_consume m hv (st := ⟨[], st.maxKey, st.out⟩)
    ⟨h.sorted, h.past, (fun _ hr => nomatch hr), h.mkle⟩
  rw [sConsume_eq] at hord
  -- the new maxSpillKey is at most the primary key of the row being consumed and of all later rows
  have hmsle : ∀ q, ms' = some q → ∀ y ∈ r :: ys, vle q (prim y.1) = true := by
    intro q hq y hy
    rcases hms' q hq with e | ⟨x, hx, e⟩
    · exact h.msYs q e y hy
    · obtain ⟨r0, h0, rfl⟩ := List.mem_map.1 hx
      rw [e]
      exact h.tabYs r0 h0 y hy
  exact SInv.of hled hord (isort_sorted _ (rowLe_totalPreorder hle) _) (fun hf => nomatch hf)
    (List.forall_mem_singleton.2 hs.1)
    (fun q hq => List.forall_mem_singleton.2 (hmsle q hq r List.mem_cons_self))
    (fun q hq y hy => hmsle q hq y (List.mem_cons_of_mem _ hy))

variable {ks : List K}

variable {pick : List (K × S) → Option (K × S)} {limit : Nat}

theorem sinv_consume (hm : m.CommLaws) (hle : TotalPreorder le) (hv : TotalPreorder vle)
    (hpick : ∀ l x, pick l = some x → x ∈ l) {r : K × S}
    (h : SInv m le prim vle st xs (r :: ys)) :
    SInv m le prim vle (ssConsume m le prim vle pick limit st r) (xs ++ [r]) ys := by
  by_cases hc : r.1 ∈ st.table.map (·.key) ∨ st.table.length < limit
  · rw [ssConsume_keep m le prim vle pick limit st r hc]
    exact sinv_keep hm hv h
  · rw [not_or, Nat.not_lt] at hc
    obtain ⟨ms', hms', e⟩ := ssConsume_spill m le prim vle pick hpick limit st r hc.1 hc.2
    rw [e]
    exact sinv_spill hm hle hv hms' h

omit [DecidableEq K] in
theorem ssRelease_spill (hsp : st.spilled = true) {ms : P} (hms : st.maxSpill = some ms) :
    ssRelease m le prim vle st =
      { st with out := st.out ++ (relSpill m le prim vle ms none st.pending).1,
                pending := (relSpill m le prim vle ms none st.pending).2 } := by
  unfold ssRelease
  rw [if_pos hsp, hms]

omit [DecidableEq K] in
theorem ssRelease_table (hsp : st.spilled = false) {mk : P} (hmk : st.maxKey = some mk) :
    ssRelease m le prim vle st =
      { st with out := st.out ++ tableRows (st.table.filter fun r => ltOf vle r.gv mk),
                table := st.table.filter fun r => !ltOf vle r.gv mk } := by
  unfold ssRelease
  rw [if_neg (hsp ▸ Bool.false_ne_true), hmk]

omit [DecidableEq K] in
theorem ssRelease_idle
    (h : if st.spilled = true then st.maxSpill = none else st.maxKey = none) :
    ssRelease m le prim vle st = st := by
  unfold ssRelease
  split at h <;> rename_i hsp
  · rw [if_pos hsp, h]
  · rw [if_neg hsp, h]

theorem sinv_release_spill (hm : m.CommLaws) (hle : TotalPreorder le) (hv : TotalPreorder vle)
    (hf : ∀ a ∈ ks, ∀ b ∈ ks, eqv le a b = true → a = b) (hxs : ∀ k ∈ xs.map (·.1), k ∈ ks)
    (h : SInv m le prim vle st xs ys) (hsp : st.spilled = true) {ms : P}
    (hms : st.maxSpill = some ms) :
    SInv m le prim vle
      { st with out := st.out ++ (relSpill m le prim vle ms none st.pending).1,
                pending := (relSpill m le prim vle ms none st.pending).2 } xs ys := by
  obtain ⟨hled, hbelow, hsorted⟩ := ledger_relSpill hm.toLaws hle (prim := prim) (vle := vle) hf hxs
    (SInv.ledger h) h.pendSorted ms (fun r hr => by
      obtain ⟨r0, h0, rfl⟩ := List.mem_map.1 hr
      exact h.msTab ms hms r0 h0)
  refine SInv.of hled ⟨h.sorted, fun k hk y hy => ?_, h.gvge, h.mkle⟩ hsorted
    (fun hfalse => nomatch hsp.symm.trans hfalse) h.tabYs h.msTab h.msYs
  rcases List.mem_append.1 (List.map_append ▸ hk) with hk | hk
  · exact h.past k hk y hy
  · exact BoolOrder.le_strict_le hv.trans (hv.refl _) (hbelow k hk) (h.msYs ms hms y hy)

theorem sinv_release_table (hm : m.CommLaws) (hv : TotalPreorder vle)
    (h : SInv m le prim vle st xs ys) (hsp : st.spilled = false) {mk : P}
    (hmk : st.maxKey = some mk) :
    SInv m le prim vle
      { st with out := st.out ++ tableRows (st.table.filter fun r => ltOf vle r.gv mk),
                table := st.table.filter fun r => !ltOf vle r.gv mk } xs ys := by
  have hpend : st.pending = [] := (h.unspilled hsp).1
  obtain ⟨hled, hord⟩ := sRelease_some vle (core st) mk hmk ▸
    MemInv.release hm hv (⟨hpend ▸ SInv.ledger h, h.order⟩ : MemInv m prim vle [] (core st) xs ys)
  have hsub : ∀ r, r ∈ st.table.filter (fun r => !ltOf vle r.gv mk) → r ∈ st.table :=
    fun r hr => (List.mem_filter.1 hr).1
  exact SInv.of (hpend ▸ hled) hord h.pendSorted h.unspilled (fun r hr => h.tabYs r (hsub r hr))
    (fun ms hms r hr => h.msTab ms hms r (hsub r hr)) h.msYs

theorem sinv_release (hm : m.CommLaws) (hle : TotalPreorder le) (hv : TotalPreorder vle)
    (hf : ∀ a ∈ ks, ∀ b ∈ ks, eqv le a b = true → a = b) (hxs : ∀ k ∈ xs.map (·.1), k ∈ ks)
    (h : SInv m le prim vle st xs ys) :
    SInv m le prim vle (ssRelease m le prim vle st) xs ys := by
  cases hsp : st.spilled with
  | true =>
    cases hms : st.maxSpill with
    | none => rw [ssRelease_idle (by rw [if_pos hsp]; exact hms)]; exact h
    | some ms =>
      rw [ssRelease_spill hsp hms]
      exact sinv_release_spill hm hle hv hf hxs h hsp hms
  | false =>
    cases hmk : st.maxKey with
    | none => rw [ssRelease_idle (by rw [if_neg (hsp ▸ Bool.false_ne_true)]; exact hmk)]; exact h
    | some mk =>
      rw [ssRelease_table hsp hmk]
      exact sinv_release_table hm hv h hsp hmk

theorem sinv_batches (hm : m.CommLaws) (hle : TotalPreorder le) (hv : TotalPreorder vle)
    (hpick : ∀ l x, pick l = some x → x ∈ l)
    (hf : ∀ a ∈ ks, ∀ b ∈ ks, eqv le a b = true → a = b) (bs : List (List (K × S)))
    (hxs : ∀ k ∈ (xs ++ bs.flatten).map (·.1), k ∈ ks)
    (h : SInv m le prim vle st xs bs.flatten) :
    SInv m le prim vle (bs.foldl (ssBatch m le prim vle pick limit) st) (xs ++ bs.flatten) [] := by
  -- "all keys, consumed or to come, lie in `ks`" is carried along
  let I := fun (st : SSGB K S P) (xs ys : List (K × S)) =>
    SInv m le prim vle st xs ys ∧ ∀ k ∈ (xs ++ ys).map (·.1), k ∈ ks
  -- a batch: the fold of `sinv_consume`, then `sinv_release`
  have hbatch : ∀ st xs b ys, I st xs (b ++ ys) → I (ssBatch m le prim vle pick limit st b) (xs ++ b) ys := by
    intro st xs b ys h
    refine ⟨sinv_release hm hle hv hf (fun k hk => h.2 k ?_)
      (foldl_invariant (fun _ _ _ _ h => sinv_consume hm hle hv hpick h) b h.1), ?_⟩
    · rw [← List.append_assoc, List.map_append]
      exact List.mem_append_left _ hk
    · rw [List.append_assoc]
      exact h.2
  exact (foldl_batches_invariant (ys := []) hbatch bs ⟨List.append_nil _ ▸ h, List.append_nil _ ▸ hxs⟩).1

end

/-- For every batching, every table limit and every choice `pick` of the row maxSpillKey is taken from:
    if the input is sorted on the primary key and the full-key comparator identifies only identical
    keys among the keys present, then the output has exactly one row per distinct key, holding the
    aggregate of exactly that key's rows. -/
theorem sorted_spill_release_safe (m : Mon S) (hm : m.CommLaws)
    (le : K → K → Bool) (hle : TotalPreorder le)
    (prim : K → P) (vle : P → P → Bool) (hv : TotalPreorder vle)
    (pick : List (K × S) → Option (K × S)) (hpick : ∀ l x, pick l = some x → x ∈ l)
    (limit : Nat) (batches : List (List (K × S)))
    (hsorted : batches.flatten.Pairwise (fun a b => vle (prim a.1) (prim b.1) = true))
    (hfaith : Zed.Proofs.AggGroupby.CompareFaithful le batches.flatten) :
    GroupsAgree m (groupbySortedSpill m le prim vle pick limit batches) batches.flatten := by
  have h := sinv_batches hm hle hv hpick (limit := limit) hfaith batches (fun _ hk => hk)
    (SInv.of (st := {}) (le := le) (Ledger.init m) (AggSorted.past_init prim vle _ hsorted) .nil (fun _ => ⟨rfl, rfl⟩)
      (fun _ hr => nomatch hr) (fun _ h => nomatch h) (fun _ h => nomatch h))
  rw [List.nil_append] at h
  unfold groupbySortedSpill ssFinish
  generalize batches.foldl (ssBatch m le prim vle pick limit) {} = st at h
  cases hsp : st.spilled with
  | true =>
    rw [if_pos rfl]
    exact (SInv.ledger h).agree_regroup hm hle hfaith
      ((isort_perm _ _).trans (List.Perm.append_left _ (isort_perm _ _)))
      (isort_sorted _ (rowLe_totalPreorder hle) _)
  | false =>
    rw [if_neg Bool.false_ne_true]
    exact ((h.unspilled hsp).1 ▸ SInv.ledger h : Ledger m st.out [] _ _).agree hm.toLaws

section Examples

def lexLe : Nat × Nat → Nat × Nat → Bool :=
  fun a b => decide (a.1 < b.1) || (decide (a.1 = b.1) && decide (a.2 ≤ b.2))

theorem lexLe_iff (a b : Nat × Nat) :
    lexLe a b = true ↔ a.1 < b.1 ∨ (a.1 = b.1 ∧ a.2 ≤ b.2) := by
  simp only [lexLe, Bool.or_eq_true, Bool.and_eq_true, decide_eq_true_eq]

theorem lexLe_totalPreorder : TotalPreorder lexLe := by
  refine ⟨fun a b => ?_, fun a b c => ?_⟩
  · rw [lexLe_iff, lexLe_iff]
    rcases Nat.lt_trichotomy a.1 b.1 with h | h | h
    · exact Or.inl (Or.inl h)
    · exact (Nat.le_total a.2 b.2).imp (fun h' => Or.inr ⟨h, h'⟩) (fun h' => Or.inr ⟨h.symm, h'⟩)
    · exact Or.inr (Or.inl h)
  · rw [lexLe_iff, lexLe_iff, lexLe_iff]
    rintro (h1 | ⟨e1, h1⟩) (h2 | ⟨e2, h2⟩)
    · exact Or.inl (Nat.lt_trans h1 h2)
    · exact Or.inl (e2 ▸ h1)
    · exact Or.inl (e1 ▸ h2)
    · exact Or.inr ⟨e1.trans e2, Nat.le_trans h1 h2⟩

theorem lexLe_prim (a b : Nat × Nat) (h : lexLe a b = true) : natLe a.1 b.1 = true := by
  rw [lexLe_iff] at h
  rw [natLe, decide_eq_true_eq]
  exact h.elim Nat.le_of_lt fun h => Nat.le_of_eq h.1

theorem lexLe_faithful (rows : List ((Nat × Nat) × Nat)) : CompareFaithful lexLe rows := by
  intro a _ b _ h
  have h := BoolOrder.sym_iff.1 h
  rw [lexLe_iff, lexLe_iff] at h
  apply Prod.ext <;> omega

/-- sorted on the first key component; keys (2,1) and (3,1) span batch boundaries -/
def exBatches : List (List ((Nat × Nat) × Nat)) :=
  [[((1, 1), 1), ((1, 2), 1), ((2, 1), 1)],
   [((2, 1), 1), ((3, 1), 1), ((3, 2), 1)],
   [((3, 1), 5), ((4, 1), 1)]]

/-- the table (limit 2) spills during the input … -/
example : ssSpilled addMon lexLe (·.1) natLe List.getLast? 2 exBatches = true := by decide

/-- … already in the first batch … -/
example : ssSpilled addMon lexLe (·.1) natLe List.getLast? 2 (exBatches.take 1) = true := by
  decide

/-- … groups are released early from the spill stream (after two batches: everything with
    primary key below maxSpillKey = 3; key (2,1) was spread over two runs and the table) … -/
example : ((exBatches.take 2).foldl (ssBatch addMon lexLe (·.1) natLe List.getLast? 2) {}).out
    = [((1, 1), 1), ((1, 2), 1), ((2, 1), 2)] := by decide +kernel

example : ((exBatches.take 2).foldl (ssBatch addMon lexLe (·.1) natLe List.getLast? 2) {}).pending
    = [((3, 1), 1)] := by decide +kernel

example : groupbySortedSpill addMon lexLe (·.1) natLe List.getLast? 2 exBatches
    = [((1, 1), 1), ((1, 2), 1), ((2, 1), 2), ((3, 1), 6), ((3, 2), 1), ((4, 1), 1)] := by decide +kernel

example : GroupsAgree addMon
    (groupbySortedSpill addMon lexLe (·.1) natLe List.getLast? 2 exBatches) exBatches.flatten :=
  sorted_spill_release_safe addMon addMon_commLaws lexLe lexLe_totalPreorder (·.1) natLe
    natLe_totalPreorder List.getLast? (fun _ _ h => List.mem_of_getLast? h) 2
    exBatches (by decide) (lexLe_faithful _)

/-! ### the hypothesis `hsorted` is needed -/

/-- NOT sorted on the first key component: key (1,1) comes back after the spill of (1,1), (2,1)
    set maxSpillKey = 2 and released (1,1) from the spill stream -/
def badBatches : List (List ((Nat × Nat) × Nat)) :=
  [[((1, 1), 1), ((2, 1), 1), ((3, 1), 1)], [((1, 1), 1)]]

example : ¬ badBatches.flatten.Pairwise (fun a b => natLe a.1.1 b.1.1 = true) := by decide

example : groupbySortedSpill addMon lexLe (·.1) natLe List.getLast? 2 badBatches
    = [((1, 1), 1), ((1, 1), 1), ((2, 1), 1), ((3, 1), 1)] := by decide +kernel

/-- on unsorted input the early release from the spill stream emits a key twice (all other
    hypotheses of `sorted_spill_release_safe` hold for this instance) -/
theorem not_sorted_spill_release_safe_unsorted :
    ¬ GroupsAgree addMon
      (groupbySortedSpill addMon lexLe (·.1) natLe List.getLast? 2 badBatches)
      badBatches.flatten := by
  intro h
  have hn := h.nodup
  revert hn
  decide +kernel

/-- the same without any spill (release from the table), limit 10 -/
example : ¬ GroupsAgree addMon
    (groupbySortedSpill addMon lexLe (·.1) natLe List.getLast? 10
      [[((1, 1), 1), ((2, 1), 1)], [((1, 1), 1), ((1, 2), 1)]])
    [((1, 1), 1), ((2, 1), 1), ((1, 1), 1), ((1, 2), 1)] := by
  intro h
  have hn := h.nodup
  revert hn
  decide +kernel

end Examples

end Zed.Proofs.AggSortedSpill

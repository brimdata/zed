/- The join as planned (C10): a right join is the left join of the swapped inputs; an ascending plan
   hands the merge join sorted inputs, so it equals the nested loop. -/
import Zed.Model.AggJoinPlan
import Zed.Proofs.AggGroupby
namespace Zed.Proofs.AggJoinPlan
open Zed.Join Zed.Agg

def flipRow {A B : Type} : Row B A → Row A B
  | .both b a => .both a b
  | .leftOnly b => .rightOnly b
  | .rightOnly a => .leftOnly a

theorem join_right_left_symmetry {A B : Type} (lleg rleg : Leg) (l : List (JKey × A)) (r : List (JKey × B)) :
    joinFull .right lleg rleg l r = (joinFull .left rleg lleg r l).map flipRow := by
  simp only [joinFull, List.map_map]
  apply List.map_congr_left
  intro x _
  cases x <;> rfl

theorem jle_asc_none (a : JKey) : jle false a none = true := by cases a <;> rfl

theorem jle_asc_totalPreorder : TotalPreorder (jle false) := by
  constructor
  · intro a b
    cases b with
    | none => exact .inl (jle_asc_none a)
    | some y => cases a with
      | none => exact .inr rfl
      | some x => exact (Int.le_total x y).imp decide_eq_true decide_eq_true
  · intro a b c hab hbc
    cases c with
    | none => exact jle_asc_none a
    | some z => cases b with
      | none => cases hbc
      | some y => cases a with
        | none => cases hab
        | some x =>
          exact decide_eq_true (Int.le_trans (of_decide_eq_true hab) (of_decide_eq_true hbc))

theorem sle_asc_eq_jle : sle false = jle false := by
  funext a b; cases a <;> cases b <;> rfl

theorem sortOp_asc_sorted {α : Type} (rows : List (JKey × α)) :
    (sortOp false rows).Pairwise (fun a b => jle false a.1 b.1 = true) := by
  unfold sortOp
  rw [sle_asc_eq_jle]
  exact Zed.Proofs.AggGroupby.isort_sorted _ (jle_asc_totalPreorder.comap Prod.fst) rows

theorem asc_input_sorted {α : Type} (d : Int) (rows : List (JKey × α))
    (h : d = 1 → rows.Pairwise (fun a b => jle false a.1 b.1 = true)) :
    (if d = 1 then rows else sortOp false rows).Pairwise (fun a b => jle false a.1 b.1 = true) := by
  split
  · exact h ‹_›
  · exact sortOp_asc_sorted rows

/-- join.New when neither side is declared descending: ascending, a sort on a side not declared so -/
theorem joinRun_asc {A B : Type} (kind : Zed.Join.Kind) {ld rd : Int}
    (hld : ld = 0 ∨ ld = 1) (hrd : rd = 0 ∨ rd = 1) (l : List (JKey × A)) (r : List (JKey × B)) :
    joinRun kind ld rd l r = mergeJoin (jle false) kind
      (if ld = 1 then l else sortOp false l) (if rd = 1 then r else sortOp false r) := by
  rcases hld with rfl | rfl <;> rcases hrd with rfl | rfl <;> rfl

end Zed.Proofs.AggJoinPlan

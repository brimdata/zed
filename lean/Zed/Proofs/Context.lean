import Zed.Proofs.TypeValueRT
namespace Zed
open Zcode List Generated.C05
namespace Ctx

/-- decoding a serialized well-formed type in a context that satisfies the invariant gives that
    type back and consumes exactly its bytes -/
theorem decodeC_encodeTV (c : Ctx) (hc : c.Inv) (t : Ty) (w : t.wf = true) (rest : Bytes) :
    ∃ c', c.decodeC (encodeTV t ++ rest) = (c', some (t, rest)) ∧ Good c (some t, c') := by
  obtain ⟨c', h, i, _, m, x⟩ := (rt_all ((encodeTV t ++ rest).length + 1)).1 t [] c rest w hc
    (fun _ _ h => by simp [List.lookup] at h) (by simp [encodeTV, length_append])
  exact ⟨c', h, i, m, fun _ e => by cases e; exact x⟩

/-- the last critical section of `LookupByValue` keeps the invariant when the stored type is the
    one the bytes denote (for canonical bytes) -/
theorem storeByValue_inv (c : Ctx) (hc : c.Inv) (tv : Bytes) (t : Ty) (ht : c.has t)
    (hcanon : ∀ u, u.wf = true → encodeTV u = tv → u = t) :
    Good c (some t, c.storeByValue tv t) := by
  refine ⟨hc.add_key (new := []) rfl rfl (append_nil _).symm nodup_nil nofun ?_ hcanon ht ?_, fun u h => h,
    fun _ e => by cases e; exact ht⟩
  · simp only [storeByValue]; split
    · exact Or.inl rfl
    · exact Or.inr rfl
  · simp only [storeByValue]; split
    · assumption
    · simp

theorem lookupByValue_good (c : Ctx) (hc : c.Inv) (tv : Bytes) : Good c (c.lookupByValue tv) := by
  unfold lookupByValue
  cases hl : c.toType.lookup tv with
  | some t => exact .same hc fun t' e => by cases e; exact hc.range _ _ hl
  | none =>
    simp only
    have dg := dec_inv (tv.length + 1) c tv hc
    unfold decodeC
    cases hd : decodeTV (tv.length + 1) c tv with
    | mk c1 o =>
      rw [hd] at dg
      cases o with
      | none => exact ⟨dg.1, dg.2.1, nofun⟩
      | some p =>
        obtain ⟨t, rest⟩ := p
        have ht := dg.2.2 t rest rfl
        -- if the bytes are the canonical serialization of a well-formed type, that type is `t`
        have hcanon : ∀ u, u.wf = true → encodeTV u = tv → u = t := by
          intro u wu e
          obtain ⟨c2, h2, _⟩ := decodeC_encodeTV c hc u wu []
          rw [append_nil, e] at h2
          unfold decodeC at h2
          rw [hd] at h2
          simp only [Prod.mk.injEq, Option.some.injEq] at h2
          exact h2.2.1.symm
        have si := storeByValue_inv c1 dg.1 tv t ht hcanon
        exact ⟨si.1, fun u h => si.2.1 u (dg.2.1 u h), si.2.2⟩

/-- `TranslateType` of a well-formed type of any context returns the structurally same type -/
theorem translate_spec (c : Ctx) (hc : c.Inv) (ext : Ty) (w : ext.wf = true) :
    (c.translate ext).1 = some ext ∧ Good c (c.translate ext) := by
  have g := lookupByValue_good c hc (encodeTV ext)
  unfold translate at *
  have hres : (c.lookupByValue (encodeTV ext)).1 = some ext := by
    unfold lookupByValue
    cases hl : c.toType.lookup (encodeTV ext) with
    | some t => simp only; rw [hc.sound t ext w hl]
    | none =>
      simp only
      obtain ⟨c2, h2, _⟩ := decodeC_encodeTV c hc ext w []
      rw [append_nil] at h2
      rw [h2]
  exact ⟨hres, g⟩

/-- the bytes `LookupTypeValue` returns for a well-formed type are its canonical serialization -/
theorem lookupTypeValue_canonical (c : Ctx) (hc : c.Inv) (t : Ty) (w : t.wf = true) (b : Bytes)
    (h : (c.lookupTypeValue t).1 = some b) : b = encodeTV t := by
  unfold lookupTypeValue at h
  cases hl : c.toValue.lookup t with
  | some b' => simp only [hl] at h; cases h; exact hc.tvcanon t b hl
  | none =>
    simp only [hl] at h
    have sp := translate_spec c hc t w
    unfold translate at sp
    cases hb : c.lookupByValue (encodeTV t) with
    | mk o c' =>
      rw [hb] at sp h
      simp only at sp
      cases o with
      | none => simp at sp
      | some t' =>
        simp only at h
        have e : t' = t := by simpa using sp.1
        subst e
        exact sp.2.1.tvcanon _ b h

theorem lookupTypeValue_good (c : Ctx) (hc : c.Inv) (t : Ty) :
    (c.lookupTypeValue t).2.Inv ∧ ∀ u, c.has u → (c.lookupTypeValue t).2.has u := by
  unfold lookupTypeValue
  cases hl : c.toValue.lookup t with
  | some b => exact ⟨hc, fun _ h => h⟩
  | none =>
    simp only
    have g := lookupByValue_good c hc (encodeTV t)
    cases hb : c.lookupByValue (encodeTV t) with
    | mk o c' =>
      rw [hb] at g
      cases o with
      | none => exact ⟨g.1, g.2.1⟩
      | some t' => exact ⟨g.1, g.2.1⟩

def EnvOk (c : Ctx) (env : Env) : Prop := ∀ r ∈ env, ∀ t, r = some t → c.has t

theorem argOf_has (c : Ctx) (env : Env) (he : EnvOk c env) (a : Arg) (t : Ty) (h : argOf env a = some t) : c.has t := by
  cases a with
  | prim id => exact primitiveByID?_has c id t h
  | res k =>
    simp only [argOf] at h
    cases hk : env[k]? with
    | none => simp [hk] at h
    | some r =>
      simp only [hk, Option.join] at h
      exact he r (List.mem_of_getElem? hk) t (by simpa using h)

theorem argsOf_has (c : Ctx) (env : Env) (he : EnvOk c env) : (as : List Arg) → (ts : List Ty) →
    argsOf env as = some ts → ts.length = as.length ∧ ∀ t ∈ ts, c.has t
  | [], ts, h => by simp [argsOf] at h; subst h; simp
  | a :: r, ts, h => by
    simp only [argsOf] at h
    cases ha : argOf env a with
    | none => simp [ha] at h
    | some t =>
      cases hr : argsOf env r with
      | none => simp [ha, hr] at h
      | some ts' =>
        simp only [ha, hr, Option.some.injEq] at h
        have ih := argsOf_has c env he r ts' hr
        subst h
        refine ⟨by simp [ih.1], fun u hu => ?_⟩
        rcases mem_cons.mp hu with rfl | hu
        · exact argOf_has c env he a _ ha
        · exact ih.2 u hu

theorem fieldsOf_has (c : Ctx) (env : Env) (he : EnvOk c env) : (fs : List (Name × Arg)) → (l : List (Name × Ty)) →
    fieldsOf env fs = some l → ∀ p ∈ l, c.has p.2
  | [], l, h => by simp [fieldsOf] at h; subst h; simp
  | (n, a) :: r, l, h => by
    simp only [fieldsOf] at h
    cases ha : argOf env a with
    | none => simp [ha] at h
    | some t =>
      cases hr : fieldsOf env r with
      | none => simp [ha, hr] at h
      | some l' =>
        simp only [ha, hr, Option.some.injEq] at h
        have ih := fieldsOf_has c env he r l' hr
        subst h
        intro p hp
        simp only [mem_cons] at hp
        rcases hp with rfl | hp
        · exact argOf_has c env he a _ ha
        · exact ih p hp

theorem exec_good (c : Ctx) (hc : c.Inv) (env : Env) (he : EnvOk c env) (op : Op) :
    Good c ((c.exec env op).1, (c.exec env op).2.2) := by
  have skip : Good c (none, c) := .same hc nofun
  unfold exec
  cases op with
  | record fs =>
    simp only
    cases hf : fieldsOf env fs with
    | none => exact skip
    | some l =>
      simp only
      split
      · rename_i hlim
        exact lookupRecord_good c hc l
          (fun p hp => ⟨all_eq_true.mp hlim.2 p hp, fieldsOf_has c env he fs l hf p hp⟩) hlim.1
      · exact skip
  | array a =>
    simp only
    cases ha : argOf env a with
    | none => exact skip
    | some t => exact .of_spec (lookupArray_spec c hc t (argOf_has c env he a t ha))
  | set a =>
    simp only
    cases ha : argOf env a with
    | none => exact skip
    | some t => exact .of_spec (lookupSet_spec c hc t (argOf_has c env he a t ha))
  | error a =>
    simp only
    cases ha : argOf env a with
    | none => exact skip
    | some t => exact .of_spec (lookupError_spec c hc t (argOf_has c env he a t ha))
  | map k v =>
    simp only
    cases hk : argOf env k with
    | none => exact skip
    | some kt =>
      cases hv : argOf env v with
      | none => exact skip
      | some vt =>
        exact .of_spec (lookupMap_spec c hc kt vt (argOf_has c env he k kt hk) (argOf_has c env he v vt hv))
  | union as =>
    simp only
    cases ha : argsOf env as with
    | none => exact skip
    | some ts =>
      simp only
      split
      · rename_i hlim
        exact .of_spec (lookupUnion_spec c hc ts (argsOf_has c env he as ts ha).2 hlim)
      · exact skip
  | enum syms =>
    simp only
    split
    · rename_i hlim
      exact .of_spec (lookupEnum_spec c hc syms hlim.2 hlim.1)
    · exact skip
  | named n a =>
    simp only
    cases ha : argOf env a with
    | none => exact skip
    | some t =>
      simp only
      split
      · rename_i hn
        exact lookupNamed_good c hc n t hn (argOf_has c env he a t ha)
      · exact skip
  | byValue tv => exact lookupByValue_good c hc tv
  | translate ext =>
    simp only
    split
    · rename_i w
      exact (translate_spec c hc ext w).2
    · exact skip
  | typeValue a =>
    simp only
    cases ha : argOf env a with
    | none => exact skip
    | some t => exact ⟨(lookupTypeValue_good c hc t).1, (lookupTypeValue_good c hc t).2, nofun⟩
  | typeDef n => exact lookupTypeDef_good c hc n

theorem Good.envOk {c c' : Ctx} {o : Option Ty} {env : Env} (g : Good c (o, c')) (he : EnvOk c env) :
    EnvOk c' (env ++ [o]) := by
  intro r hr t e
  rcases mem_append.mp hr with hr | hr
  · exact g.2.1 t (he r hr t e)
  · rw [mem_singleton.mp hr] at e; exact g.2.2 t e

theorem runOps_good : (ops : List Op) → (c : Ctx) → (env : Env) → c.Inv → EnvOk c env →
    (runOps ops c env).1.Inv ∧ EnvOk (runOps ops c env).1 (runOps ops c env).2
  | [], _, _, hc, he => ⟨hc, he⟩
  | op :: rest, c, env, hc, he =>
    have g := exec_good c hc env he op
    runOps_good rest _ _ g.1 (g.envOk he)

end Ctx
end Zed

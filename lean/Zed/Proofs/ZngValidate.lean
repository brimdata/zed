import Zed.Model.ZngValidate
/-!
  `WellFormed t b`: the body `b` is structurally consistent with the type `t` — stated
  declaratively, not in terms of `walk` (but a set's order is `checkSetFrom` itself) — and `walk_iff`: the model of `Value.Validate` accepts
  exactly the well-formed values of types without enums and sets of containers (for those two
  the statement is false of the current code: see `Props/C11`).
-/
namespace Zed.Zng

mutual
inductive WellFormed : ZTy → Option Bytes → Prop where
  | null (t : ZTy) : WellFormed t none
  | prim (id : Nat) (b : Bytes) : WellFormed (.prim id) (some b)
  | named (n : Bytes) {t : ZTy} {b : Option Bytes} : WellFormed t b → WellFormed (.named n t) b
  | error {t : ZTy} {b : Option Bytes} : WellFormed t b → WellFormed (.error t) b
  | enum (syms : List Bytes) (body : Bytes) :
      decodeCountedUvarint body < syms.length → WellFormed (.enum syms) (some body)
  | array {e : ZTy} {body : Bytes} {items : List (Option Bytes)} :
      ziterAll body = .ok items → (∀ it ∈ items, WellFormed e it) → WellFormed (.array e) (some body)
  | set {e : ZTy} {body : Bytes} {items : List (Option Bytes)} :
      ziterAll body = .ok items → (∀ it ∈ items, WellFormed e it) → checkSetFrom none body = .ok () →
      WellFormed (.set e) (some body)
  | map {k v : ZTy} {body : Bytes} {items : List (Option Bytes)} :
      ziterAll body = .ok items → PairsWF k v items → WellFormed (.map k v) (some body)
  | record {fs : ZFields} {body : Bytes} : FieldsWF fs body → WellFormed (.record fs) (some body)
  | union {ts : ZTys} {body r1 : Bytes} {tagB inner : Option Bytes} {tm : ZTy} :
      znext body = .ok (tagB, r1) → znext r1 = .ok (inner, []) →
      0 ≤ decodeCountedVarint (tagB.getD []) →
      ts.toList[(decodeCountedVarint (tagB.getD [])).toNat]? = some tm →
      WellFormed tm inner → WellFormed (.union ts) (some body)
/-- one well-formed item per field, in order (trailing items are not constrained) -/
inductive FieldsWF : ZFields → Bytes → Prop where
  | nil (body : Bytes) : FieldsWF .nil body
  | cons {n : Bytes} {t : ZTy} {r : ZFields} {body rest : Bytes} {item : Option Bytes} :
      znext body = .ok (item, rest) → WellFormed t item → FieldsWF r rest → FieldsWF (.cons n t r) body
/-- keys and values alternate -/
inductive PairsWF : ZTy → ZTy → List (Option Bytes) → Prop where
  | nil (k v : ZTy) : PairsWF k v []
  | cons {k v : ZTy} {a b : Option Bytes} {r : List (Option Bytes)} :
      WellFormed k a → WellFormed v b → PairsWF k v r → PairsWF k v (a :: b :: r)
end

/-- leaf types: primitives under names and error wrappers (any body is consistent with them) -/
def ZTy.leafy : ZTy → Bool
  | .prim _ => true
  | .named _ t => t.leafy
  | .error t => t.leafy
  | _ => false

/-! the guard: no enum components, and sets only of leaf types (`Validate` checks the order of a
    set's elements but never walks them) -/
mutual
def ZTy.plain : ZTy → Bool
  | .prim _ => true
  | .record fs => fs.plain
  | .array t => t.plain
  | .set e => e.leafy
  | .map k v => k.plain && v.plain
  | .union ts => ts.plain
  | .enum _ => false
  | .error t => t.plain
  | .named _ t => t.plain
def ZFields.plain : ZFields → Bool
  | .nil => true
  | .cons _ t r => t.plain && r.plain
def ZTys.plain : ZTys → Bool
  | .nil => true
  | .cons t r => t.plain && r.plain
end

theorem leafy_wf : ∀ (t : ZTy), t.leafy = true → ∀ b, WellFormed t b
  | .prim id, _, b => by cases b with
    | none => exact .null _
    | some b => exact .prim id b
  | .named n t, h, b => by simp only [ZTy.leafy] at h; exact .named n (leafy_wf t h b)
  | .error t, h, b => by simp only [ZTy.leafy] at h; exact .error (leafy_wf t h b)
  | .record _, h, _ | .array _, h, _ | .set _, h, _ | .map _ _, h, _ | .union _, h, _
  | .enum _, h, _ => by simp [ZTy.leafy] at h

theorem checkSetFrom_nil (prev : Option Bytes) : checkSetFrom prev [] = .ok () := by
  rw [checkSetFrom]; rfl

theorem checkSetFrom_none_of_znext {bs rest : Bytes} {v : Option Bytes} (h : znext bs = .ok (v, rest)) :
    checkSetFrom none bs = checkSetFrom (some (bs.take (bs.length - rest.length))) rest := by
  rw [checkSetFrom, if_neg (by rw [znext_nonempty h]; exact Bool.false_ne_true)]
  split
  · next he => rw [h] at he; cases he
  · next he => rw [h] at he; cases he; rfl

/-- a set body that `checkSet` accepts iterates without error -/
theorem checkSet_iter {prev : Option Bytes} {body : Bytes} :
    checkSetFrom prev body = .ok () → ∃ items, ziterAll body = .ok items := by
  have step {bs rest : Bytes} {v : Option Bytes} (hn : znext bs = .ok (v, rest)) :
      (∃ items, ziterAll rest = .ok items) → ∃ items, ziterAll bs = .ok items :=
    fun ⟨items, hit⟩ => ⟨v :: items, by rw [ziterAll_of_znext hn, hit]⟩
  fun_induction checkSetFrom prev body with
  | case1 _ bs he => intro _; rw [List.isEmpty_iff.mp he]; exact ⟨[], ziterAll_nil⟩
  | case2 => nofun
  | case3 => nofun
  | case4 => nofun
  | case5 bs hne v rest hn _ cur p c _ _ ih => exact fun h => step hn (ih h)
  | case6 bs hne v rest hn _ cur ih => exact fun h => step hn (ih h)

theorem walk_null : ∀ (t : ZTy), walk t none = .ok ()
  | .named _ t | .error t => by simp only [walk]; exact walk_null t
  | .prim _ | .enum _ | .set _ | .record _ | .array _ | .map _ _ | .union _ => by simp only [walk]

theorem walkItems_iff {f : Option Bytes → Except VErr Unit} {l : List (Option Bytes)} :
    walkItems f l = .ok () ↔ ∀ x ∈ l, f x = .ok () := by
  induction l with
  | nil => exact ⟨fun _ => nofun, fun _ => rfl⟩
  | cons a r ih =>
    rw [walkItems, List.forall_mem_cons, ← ih]
    split
    · next e he => exact ⟨nofun, fun h => nomatch he.symm.trans h.1⟩
    · next he => exact ⟨fun h => ⟨he, h⟩, fun h => h.2⟩

theorem walkPairs_iff {wk wv : Option Bytes → Except VErr Unit} {k v : ZTy}
    (hk : ∀ b, wk b = .ok () ↔ WellFormed k b) (hv : ∀ b, wv b = .ok () ↔ WellFormed v b) :
    ∀ (l : List (Option Bytes)), walkPairs wk wv l = .ok () ↔ PairsWF k v l
  | [] => ⟨fun _ => .nil k v, fun _ => rfl⟩
  | [a] => by
    rw [walkPairs]
    constructor
    · intro h; split at h <;> cases h
    · nofun
  | a :: b :: r => by
    rw [walkPairs]
    constructor
    · intro h
      split at h
      · cases h
      · next ha =>
        split at h
        · cases h
        · next hb => exact .cons ((hk a).mp ha) ((hv b).mp hb) ((walkPairs_iff hk hv r).mp h)
    · intro h
      cases h with
      | cons ha hb hr =>
        rw [(hk a).mpr ha]
        simp only
        rw [(hv b).mpr hb]
        exact (walkPairs_iff hk hv r).mpr hr

theorem validate_iff_walk {t : ZTy} {b : Option Bytes} : validate t b = true ↔ walk t b = .ok () := by
  unfold validate
  split
  · next h => exact ⟨fun _ => h, fun _ => rfl⟩
  · next h => exact ⟨nofun, fun h' => nomatch h.symm.trans h'⟩

mutual
theorem walk_iff : ∀ (t : ZTy) (b : Option Bytes), t.plain = true → (walk t b = .ok () ↔ WellFormed t b)
  | t, none, _ => ⟨fun _ => .null t, fun _ => walk_null t⟩
  | .prim id, some b, _ => ⟨fun _ => .prim id b, fun _ => by simp only [walk]⟩
  | .named n t, some b, hp => by
    simp only [ZTy.plain] at hp
    simp only [walk]
    exact (walk_iff t (some b) hp).trans ⟨.named n, fun h => by cases h; assumption⟩
  | .error t, some b, hp => by
    simp only [ZTy.plain] at hp
    simp only [walk]
    exact (walk_iff t (some b) hp).trans ⟨.error, fun h => by cases h; assumption⟩
  | .enum _, some _, hp => by simp [ZTy.plain] at hp
  | .set e, some body, hp => by
    simp only [ZTy.plain] at hp
    simp only [walk]
    constructor
    · intro h
      obtain ⟨items, hit⟩ := checkSet_iter h
      exact .set hit (fun it _ => leafy_wf e hp it) h
    · intro h; cases h; assumption
  | .record fs, some body, hp => by
    simp only [ZTy.plain] at hp
    simp only [walk]
    exact (walkFields_iff fs body hp).trans ⟨.record, fun h => by cases h; assumption⟩
  | .array e, some body, hp => by
    simp only [ZTy.plain] at hp
    simp only [walk]
    constructor
    · intro h
      split at h
      · cases h
      · next items hit =>
        exact .array hit fun it hm => (walk_iff e it hp).mp (walkItems_iff.mp h it hm)
    · intro h
      cases h with
      | array hit hall =>
        rw [hit]
        exact walkItems_iff.mpr fun it hm => (walk_iff e it hp).mpr (hall it hm)
  | .map k v, some body, hp => by
    simp only [ZTy.plain, Bool.and_eq_true] at hp
    simp only [walk]
    have hkv := walkPairs_iff (fun b => walk_iff k b hp.1) (fun b => walk_iff v b hp.2)
    constructor
    · intro h
      split at h
      · cases h
      · next items hit => exact .map hit ((hkv items).mp h)
    · intro h
      cases h with
      | map hit hpairs => rw [hit]; exact (hkv _).mpr hpairs
  | .union ts, some body, hp => by
    simp only [ZTy.plain] at hp
    simp only [walk]
    constructor
    · intro h
      by_cases he : body.isEmpty = true
      · rw [if_pos he] at h; cases h
      rw [if_neg he] at h
      split at h
      · cases h
      · next tagB r1 h1 =>
        split at h
        · split at h <;> cases h
        · next inner r2 h2 =>
          by_cases hrange : decodeCountedVarint (tagB.getD []) < 0 ∨
              decodeCountedVarint (tagB.getD []) ≥ Int.ofNat ts.toList.length
          · rw [if_pos hrange] at h; cases h
          rw [if_neg hrange] at h
          cases r2 with
          | cons _ _ => cases h
          | nil =>
            have hge : 0 ≤ decodeCountedVarint (tagB.getD []) := by omega
            obtain ⟨tm, htm, hw⟩ := (walkNth_iff ts _ inner hp).mp h
            exact .union h1 h2 hge htm hw
    · intro h
      cases h with
      | union h1 h2 hge hnth hw =>
        rename_i r1 tagB inner tm
        have hlt : (decodeCountedVarint (tagB.getD [])).toNat < ts.toList.length :=
          (List.getElem?_eq_some_iff.mp hnth).1
        have hrange : ¬ (decodeCountedVarint (tagB.getD []) < 0 ∨
            decodeCountedVarint (tagB.getD []) ≥ Int.ofNat ts.toList.length) := by
          simp only [Int.ofNat_eq_natCast]; omega
        simp only [znext_nonempty h1, Bool.false_eq_true, if_false, h1, h2, hrange, List.isEmpty_nil,
          Bool.not_true]
        exact (walkNth_iff ts _ inner hp).mpr ⟨tm, hnth, hw⟩
termination_by structural t => t
theorem walkFields_iff : ∀ (fs : ZFields) (body : Bytes), fs.plain = true →
    (walkFields fs body = .ok () ↔ FieldsWF fs body)
  | .nil, body, _ => ⟨fun _ => .nil body, fun _ => rfl⟩
  | .cons n t r, body, hp => by
    simp only [ZFields.plain, Bool.and_eq_true] at hp
    simp only [walkFields]
    constructor
    · intro h
      split at h
      · cases h
      · split at h
        · cases h
        · next item rest hn =>
          split at h
          · cases h
          · next hw =>
            exact .cons hn ((walk_iff t item hp.1).mp hw) ((walkFields_iff r rest hp.2).mp h)
    · intro h
      cases h with
      | cons hn hw hr =>
        simp only [znext_nonempty hn, Bool.false_eq_true, if_false, hn]
        rw [(walk_iff t _ hp.1).mpr hw]
        exact (walkFields_iff r _ hp.2).mpr hr
termination_by structural fs => fs
theorem walkNth_iff : ∀ (ts : ZTys) (n : Nat) (b : Option Bytes), ts.plain = true →
    (walkNth ts n b = .ok () ↔ ∃ tm, ts.toList[n]? = some tm ∧ WellFormed tm b)
  | .nil, _, _, _ => ⟨nofun, fun ⟨_, h, _⟩ => nomatch h⟩
  | .cons t _, 0, b, hp => by
    simp only [ZTys.plain, Bool.and_eq_true] at hp
    simp only [walkNth]
    exact (walk_iff t b hp.1).trans ⟨fun h => ⟨t, rfl, h⟩, fun ⟨_, h, hw⟩ => Option.some.inj h ▸ hw⟩
  | .cons _ r, n + 1, b, hp => by
    simp only [ZTys.plain, Bool.and_eq_true] at hp
    simp only [walkNth]
    exact walkNth_iff r n b hp.2
termination_by structural ts => ts
end

theorem walkFields_sound : ∀ (fs : ZFields) (body : Bytes), fs.plain = true → walkFields fs body = .ok () → FieldsWF fs body :=
  fun fs body hp => (walkFields_iff fs body hp).mp

theorem walkNth_sound : ∀ (ts : ZTys) (n : Nat) (b : Option Bytes), ts.plain = true → walkNth ts n b = .ok () →
    ∃ tm, ts.toList[n]? = some tm ∧ WellFormed tm b :=
  fun ts n b hp => (walkNth_iff ts n b hp).mp

theorem walkFields_complete : ∀ (fs : ZFields) (body : Bytes), fs.plain = true → FieldsWF fs body → walkFields fs body = .ok () :=
  fun fs body hp => (walkFields_iff fs body hp).mpr

theorem walkNth_complete : ∀ (ts : ZTys) (n : Nat) (b : Option Bytes) (tm : ZTy), ts.plain = true →
    ts.toList[n]? = some tm → WellFormed tm b → walkNth ts n b = .ok () :=
  fun ts n b tm hp h hw => (walkNth_iff ts n b hp).mpr ⟨tm, h, hw⟩

end Zed.Zng

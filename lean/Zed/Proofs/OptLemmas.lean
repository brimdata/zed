/-
  What the theorems of Props/C07 need of the semantics, of the rewrites and of the regenerated tables.
-/
import Zed.Model.OptSem
namespace Zed.Opt
variable {V : Type}

theorem filterSem_nil (I : Interp V) (e : Expr) : filterSem I e [] = [] := rfl

theorem filterSem_cons (I : Interp V) (e : Expr) (v : V) (xs : List V) :
    filterSem I e (v :: xs) = filterOut I e v ++ filterSem I e xs := by
  simp [filterSem]

theorem filterSem_append (I : Interp V) (e : Expr) (xs ys : List V) :
    filterSem I e (xs ++ ys) = filterSem I e xs ++ filterSem I e ys := by
  simp [filterSem]

theorem evalB_and (I : Interp V) (a b : Expr) (v : V) :
    evalB I (.bin "and" a b) v = andR (evalB I a v) (evalB I b v) := by
  rw [evalB]; rfl

theorem filterOut_and (I : Interp V) (hT : Total I) (a b : Expr) (v : V) :
    filterOut I (.bin "and" a b) v = filterSem I b (filterOut I a v) := by
  unfold filterOut
  rw [evalB_and]
  cases h : evalB I a v with
  | tt => simp [andR, filterSem, filterOut]
  | ff => simp [andR, filterSem]
  | miss => simp [andR, filterSem]
  | err w => simp [andR, filterSem, hT _ _ _ h]

theorem filterSem_and (I : Interp V) (hT : Total I) (a b : Expr) (xs : List V) :
    filterSem I (.bin "and" a b) xs = filterSem I b (filterSem I a xs) := by
  simp only [filterSem, List.flatMap_assoc]
  congr 1; funext v
  exact filterOut_and I hT a b v

/-- under `Total` the filter operator is `List.filter` on "predicate is true". -/
theorem filterSem_eq_keepTrue (I : Interp V) (hT : Total I) (e : Expr) (xs : List V) :
    filterSem I e xs = keepTrue I e xs := by
  induction xs with
  | nil => rfl
  | cons v xs ih =>
    rw [filterSem_cons, ih]
    unfold keepTrue filterOut
    cases h : evalB I e v with
    | tt => simp [h]
    | ff => simp [h]
    | miss => simp [h]
    | err w => simp [h, hT _ _ _ h]

theorem keepTrue_sublist (I : Interp V) (e : Expr) (xs : List V) : (keepTrue I e xs).Sublist xs := by
  unfold keepTrue; exact List.filter_sublist

theorem andR_noerr {a b : R V} (ha : ∀ w, a ≠ .err w) (hb : ∀ w, b ≠ .err w) : ∀ w, andR a b ≠ .err w := by
  cases a with
  | tt => exact hb
  | err w' => exact absurd rfl (ha w')
  | _ => exact fun _ => nofun

theorem orR_noerr {a b : R V} (ha : ∀ w, a ≠ .err w) (hb : ∀ w, b ≠ .err w) : ∀ w, orR a b ≠ .err w := by
  cases a with
  | tt => exact fun _ => nofun
  | err w' => exact absurd rfl (ha w')
  | _ => exact hb

theorem notR_noerr {a : R V} (ha : ∀ w, a ≠ .err w) : ∀ w, notR a ≠ .err w := by
  cases a with
  | err w' => exact absurd rfl (ha w')
  | _ => exact fun _ => nofun

/-- if no atom evaluates to an error value, no predicate does. -/
theorem evalB_noerr (I : Interp V) (h : ∀ e v w, I.atom e v ≠ .err w) (e : Expr) (v : V) :
    ∀ w, evalB I e v ≠ .err w := by
  fun_induction evalB I e v with
  | case1 op a b v hop ih1 ih2 => exact andR_noerr ih1 ih2
  | case2 op a b v _ hop ih1 ih2 => exact orR_noerr ih1 ih2
  | case4 op a v hop ih => exact notR_noerr ih
  | case3 | case5 | case6 => exact h _ _

theorem total_of_atom (I : Interp V) (h : ∀ e v w, I.atom e v ≠ .err w) : Total I := by
  intro e v w he; exact absurd he (evalB_noerr I h e v w)

theorem semSeq_cons (I : Interp V) (S : Sched V) (o : Op) (r : Seq) (ins : List (List V)) :
    semSeq I S (.cons o r) ins = semSeq I S r (semOp I S o ins) := by
  simp [semSeq]

theorem semOp_filter (I : Interp V) (S : Sched V) (e : Expr) (ins : List (List V)) :
    semOp I S (.filter e) ins = [filterSem I e (S.comb ins)] := by
  simp only [semOp, leafSem]

theorem semSeq_mergeFiltersSeq (I : Interp V) (S : Sched V) (hT : Total I)
    (hc : Zed.Generated.C07.mergeFiltersCombiner = "and") (s : Seq) (ins : List (List V)) :
    semSeq I S (mergeFiltersSeq s) ins = semSeq I S s ins := by
  fun_induction mergeFiltersSeq s generalizing ins with
  | case1 => rfl
  | case2 r a b r' heq ih =>
    rw [semSeq_cons, semSeq_cons, ← ih, heq, semSeq_cons, semOp_filter, semOp_filter, semOp_filter,
      S.comb_single, hc, filterSem_and I hT]
  | case3 r o _ ih => rw [semSeq_cons, semSeq_cons, ih]

theorem scan_pushdown (I : Interp V) (hT : Total I) {f : Expr} (hf : f ≠ .none) (xs ys : List V) :
    (∀ sk, leafSem I (.defaultScan f sk) xs = filterSem I f (leafSem I (.defaultScan .none sk) ys)) ∧
    (∀ h sk, leafSem I (.fileScan h f sk) xs = filterSem I f (leafSem I (.fileScan h .none sk) ys)) ∧
    (∀ p c fl, leafSem I (.seqScan p c fl f) xs = filterSem I f (leafSem I (.seqScan p c fl .none) ys)) := by
  refine ⟨fun _ => ?_, fun _ _ => ?_, fun _ _ _ => ?_⟩ <;> simp only [leafSem] <;>
    rw [filterSem_eq_keepTrue I hT]

/-- the last equation of `walkOp`: an operator that is not over / fork / scatter / mirror / scope is
    left as it is. -/
theorem walkOp_other (over : Bool) (post : Seq → Seq) (o : Op)
    (hover : ∀ h hb body, o ≠ .over h hb body) (hfork : ∀ ps, o ≠ .fork ps) (hscatter : ∀ ps, o ≠ .scatter ps)
    (hmirror : ∀ m mi, o ≠ .mirror m mi) (hscope : ∀ h b, o ≠ .scope h b) : walkOp over post o = o :=
  walkOp.eq_6 over post o hover hfork hscatter hmirror hscope

/-- congruence of the semantics under `walk`: a rewrite that preserves the meaning of every
    sequence it is applied to preserves the meaning of the DAG.  The cases are those of
    `walkOp.mutual_induct`: each descending operator twice (descended into or not), any other operator,
    then `walkKids` and `walkPaths` on nil and cons. -/
theorem walk_sound_parts (I : Interp V) (S : Sched V) (over : Bool) (post : Seq → Seq)
    (hpost : ∀ s ins, semSeq I S (post s) ins = semSeq I S s ins) :
    (∀ o ins, semOp I S (walkOp over post o) ins = semOp I S o ins) ∧
    (∀ ps, (∀ x, semPaths I S (walkPaths over post ps) x = semPaths I S ps x) ∧
      (∀ sh, semScatter I S (walkPaths over post ps) sh = semScatter I S ps sh) ∧
      -- a scatter splits its input by the number of its paths
      (walkPaths over post ps).toList.length = ps.toList.length) ∧
    (∀ s ins, semSeq I S (walkKids over post s) ins = semSeq I S s ins) := by
  apply walkOp.mutual_induct over
  case case1 =>  -- over, descended into
    intro h hb b hdesc ih ins
    simp only [walkOp, hdesc, if_true, semOp]
    have : (fun xs => S.comb (semSeq I S (post (walkKids over post b)) [xs])) =
        (fun xs => S.comb (semSeq I S b [xs])) := by
      funext xs; rw [hpost, ih]
    rw [this]
  case case2 =>  -- over, left alone
    intro h hb b hdesc ins
    rw [walkOp, if_neg hdesc]
  case case3 =>  -- fork
    intro ps hdesc ih ins
    simp only [walkOp, hdesc, if_true, semOp]
    exact ih.1 _
  case case4 =>
    intro ps hdesc ins
    rw [walkOp, if_neg hdesc]
  case case5 =>  -- scatter
    intro ps hdesc ih ins
    simp only [walkOp, hdesc, if_true, semOp]
    rw [ih.2.2, ih.2.1]
  case case6 =>
    intro ps hdesc ins
    rw [walkOp, if_neg hdesc]
  case case7 =>  -- mirror
    intro m mi hdesc ihm ihmi ins
    simp only [walkOp, hdesc, if_true, semOp]
    rw [hpost, hpost, ihm, ihmi]
  case case8 =>
    intro m mi hdesc ins
    rw [walkOp, if_neg hdesc]
  case case9 =>  -- scope
    intro h b hdesc ih ins
    simp only [walkOp, hdesc, if_true, semOp]
    rw [hpost, ih]
  case case10 =>
    intro h b hdesc ins
    rw [walkOp, if_neg hdesc]
  case case11 =>  -- any other operator
    intro o hover hfork hscatter hmirror hscope ins
    rw [walkOp_other over post o hover hfork hscatter hmirror hscope]
  case case12 =>  -- walkKids nil
    intro ins
    rfl
  case case13 =>  -- walkKids cons
    intro o r iho ihr ins
    rw [walkKids, semSeq_cons, semSeq_cons, iho, ihr]
  case case14 =>  -- walkPaths nil
    exact ⟨fun _ => rfl, fun _ => rfl, rfl⟩
  case case15 =>  -- walkPaths cons
    intro s r ihs ihr
    refine ⟨?_, ?_, ?_⟩
    · intro x; simp only [walkPaths, semPaths]; rw [hpost, ihs, ihr.1]
    · intro sh; simp only [walkPaths, semScatter]; rw [hpost, ihs, ihr.2.1]
    · simp only [walkPaths, Seqs.toList, List.length_cons]; rw [ihr.2.2]

theorem walk_sound (I : Interp V) (S : Sched V) (over : Bool) (post : Seq → Seq)
    (hpost : ∀ s ins, semSeq I S (post s) ins = semSeq I S s ins) (s : Seq) (ins : List (List V)) :
    semSeq I S (walk over post s) ins = semSeq I S s ins := by
  unfold walk; rw [hpost, (walk_sound_parts I S over post hpost).2.2]

/-- operators whose meaning depends on how many parents they have (a `pass` in front of them
    makes one parent out of several). -/
def faninSensitive : Op → Bool
  | .merge .. | .join .. | .scope .. => true
  | _ => false

theorem semOp_pass (I : Interp V) (S : Sched V) (ins : List (List V)) :
    semOp I S .pass ins = [S.comb ins] := by
  simp only [semOp, leafSem]

theorem semOp_after_comb (I : Interp V) (S : Sched V) (o : Op) (h : faninSensitive o = false)
    (ins : List (List V)) : semOp I S o [S.comb ins] = semOp I S o ins := by
  cases o with
  | scope _ _ | merge _ _ | join _ _ _ _ _ _ => exact absurd h (by simp [faninSensitive])
  | _ => simp only [semOp, S.comb_single]

/-- every `pass` of the sequence is followed by an operator that reads the combine of its
    parents anyway. -/
def passOK : Seq → Bool
  | .nil => true
  | .cons .pass .nil => false
  | .cons .pass (.cons o r) => !(faninSensitive o) && passOK (.cons o r)
  | .cons _ r => passOK r

theorem passOK_cons {o : Op} (hne : o ≠ .pass) (r : Seq) : passOK (.cons o r) = passOK r :=
  -- the last equation of `passOK` (the head is not a `pass`)
  passOK.eq_4 o r (fun h _ => hne h) (fun _ _ h _ => hne h)

theorem semSeq_dropPass (I : Interp V) (S : Sched V) (s : Seq) :
    passOK s = true → ∀ ins, semSeq I S (dropPass s) ins = semSeq I S s ins := by
  fun_induction dropPass s with
  | case1 => intro _ _; rfl
  | case2 r ih =>
    intro h ins
    cases r with
    | nil => simp [passOK] at h
    | cons o' r' =>
      simp only [passOK, Bool.and_eq_true, Bool.not_eq_true'] at h
      rw [ih h.2, semSeq_cons, semSeq_cons, semSeq_cons, semOp_pass, semOp_after_comb I S o' h.1]
  | case3 o r hne ih =>
    intro h ins
    rw [passOK_cons hne] at h
    rw [semSeq_cons, semSeq_cons, ih h]

/-- `-r` flips the key's direction; nulls go last (first with `-nulls first`) in the *effective*
    direction `d`, i.e. null is the greatest value exactly when `d` and `-nulls first` disagree. -/
theorem sortCmp_single (I : Interp V) (a : SortArg) (nf rev : Bool) (x y : V) :
    sortCmp I [a] nf rev x y =
      (let d := if rev then !a.desc else a.desc
       let nullsMax := if d then nf else !nf
       if d then I.cmp nullsMax a.key y x else I.cmp nullsMax a.key x y) := by
  simp only [sortCmp, sortCmp.go, Bool.not_not]
  split
  next h => exact h.symm
  next => rfl

theorem sortCmp_eq_mergeCmp (I : Interp V) (a : SortArg) (nf rev : Bool)
    (h : (if rev then !a.desc else a.desc) = nf) :
    sortCmp I [a] nf rev = mergeCmp I a.key (if rev then !a.desc else a.desc) := by
  funext x y
  simp only [sortCmp_single, h, mergeCmp]
  cases nf <;> rfl

open Zed.Generated.C07

theorem liftTag_sort : lookupTag "Sort" liftOps liftOpsDefault = "sort" := by decide +kernel

theorem liftTag_head : lookupTag "Head" liftOps liftOpsDefault = "copy-keep" := by decide +kernel

theorem liftTag_filter : lookupTag "Filter" liftOps liftOpsDefault = "lift-if-key-kept" := by decide +kernel

theorem keep_rows : ∀ p ∈ analyzeOps, p.2 = "keep" →
    p.1 ∈ ["Filter", "Head", "Pass", "Uniq", "Tail", "Fuse", "Output"] ∧
    lookupTag p.1 analyzeOps analyzeOpsDefault = "keep" ∧
    lookupTag p.1 analyzeInputIndependentOps analyzeInputIndependentOpsDefault = "none" := by
  decide +kernel

theorem analyzeSortKeys_keep (pools : Pools) (op : Op) (hk : (op.kind, "keep") ∈ analyzeOps)
    (inp : SortKeys) : analyzeSortKeys pools op inp = .ok inp := by
  obtain ⟨-, h1, h2⟩ := keep_rows _ hk rfl
  simp only at h1 h2
  unfold analyzeSortKeys
  rw [h1, h2]
  split
  next h => exact absurd h (by decide)
  next h => exact absurd h (by decide)
  next => cases inp <;> rfl

theorem kernelJoinArgs_eq (style : String) (L R : List V) (lk rk : Expr) (ld rd : Int) :
    kernelJoinArgs style L R lk rk ld rd =
      if style == "right" then ⟨R, L, rk, lk, rd, ld⟩ else ⟨L, R, lk, rk, ld, rd⟩ := by
  -- all three swaps of the `case "right":` clause are in the regenerated list
  simp only [kernelJoinArgs, rightJoinSwaps, List.contains_cons, beq_self_eq_true, Bool.or_true,
    Bool.true_or, if_true]


/-- every operator kind the regenerated table classifies as order-preserving ("keep")
    preserves any order — for a new kind added to that list in the Go source `keep_rows` fails,
    and there is no case below.  (`hX`: the kind of `.X k _` is the arbitrary string `k`, so
    `.X "Filter" _` would pass for a filter.) -/
theorem sortkey_keep_sound (I : Interp V) (hT : Total I)
    (hopq : ∀ (op : Op), (op.kind = "Uniq" ∨ op.kind = "Fuse") → ∀ (c : V → V → Ordering) (xs : List V),
      SortedBy c xs → SortedBy c (I.opq op xs))
    (op : Op) (hX : ∀ k j, op ≠ .X k j) (hk : (op.kind, "keep") ∈ analyzeOps)
    (c : V → V → Ordering) (xs : List V) (hs : SortedBy c xs) : SortedBy c (leafSem I op xs) := by
  replace hk := (keep_rows _ hk rfl).1
  cases op
  case filter e =>
    simp only [leafSem]; rw [filterSem_eq_keepTrue I hT]
    exact List.Pairwise.sublist (keepTrue_sublist I e xs) hs
  case pass => exact hs
  case output n => exact hs
  case head n => exact List.Pairwise.sublist (List.take_sublist _ _) hs
  case tail n => exact List.Pairwise.sublist (List.drop_sublist _ _) hs
  case uniq c' => exact hopq (.uniq c') (Or.inl rfl) c xs hs
  case fuse => exact hopq .fuse (Or.inr rfl) c xs hs
  case X k j => exact absurd rfl (hX k j)
  all_goals simp [Op.kind] at hk

theorem leafSem_perValue (I : Interp V) (op : Op) (hX : ∀ k j, op ≠ .X k j)
    (hop : op.kind = "Cut" ∨ op.kind = "Drop" ∨ op.kind = "Put" ∨ op.kind = "Rename") (xs : List V) :
    leafSem I op xs = xs.flatMap (I.perValue op) := by
  cases op
  case cut | drop | put | rename => rfl
  case X k j => exact absurd rfl (hX k j)
  all_goals simp [Op.kind] at hop

theorem pairwise_flatMap_frame {R R' : V → V → Prop} (f : V → List V) (xs : List V)
    (hs : xs.Pairwise R) (hsingle : ∀ v, (f v).length ≤ 1)
    (hframe : ∀ v w v' w', v' ∈ f v → w' ∈ f w → R v w → R' v' w') : (xs.flatMap f).Pairwise R' := by
  induction xs with
  | nil => simp
  | cons v xs ih =>
    rw [List.pairwise_cons] at hs
    simp only [List.flatMap_cons, List.pairwise_append]
    refine ⟨?_, ih hs.2, ?_⟩
    · have := hsingle v
      match hfv : f v with
      | [] => simp
      | [a] => simp
      | a :: b :: r => rw [hfv] at this; simp at this
    · intro a ha b hb
      rw [List.mem_flatMap] at hb
      obtain ⟨w, hw, hbw⟩ := hb
      exact hframe v w a b ha hbw (hs.1 w hw)

theorem joinSide_sorted (I : Interp V) (key : Expr) (d : Int) (o : Desc) (xs : List V)
    (h : d ≠ 0 → SortedBy (joinSortCmp I key (decide (d < 0))) xs) :
    joinSide I key d o xs = xs.mergeSort (leOf (joinSortCmp I key o)) := by
  unfold joinSide
  split
  · rename_i ho
    have hd : d ≠ 0 ∧ decide (d < 0) = o := by
      simp only [hasOrder, Bool.or_eq_true, Bool.and_eq_true, decide_eq_true_eq, Bool.not_eq_true'] at ho
      rcases ho with ⟨h1, h2⟩ | ⟨h1, h2⟩
      · exact ⟨by omega, by simp [h2]; omega⟩
      · exact ⟨by omega, by simp [h2, h1]⟩
    have hs := h hd.1
    rw [hd.2] at hs
    symm
    apply List.mergeSort_of_pairwise
    simpa [SortedBy, leOf] using hs
  · rfl

theorem joinNew_declared (I : Interp V) (J : Desc → List V → List V → List V) (a : JoinArgs V)
    (hl : a.ldir ≠ 0 → SortedBy (joinSortCmp I a.lkey (decide (a.ldir < 0))) a.left)
    (hr : a.rdir ≠ 0 → SortedBy (joinSortCmp I a.rkey (decide (a.rdir < 0))) a.right) :
    joinNew I J a =
      (let o := joinOrder a.ldir a.rdir
       J o (a.left.mergeSort (leOf (joinSortCmp I a.lkey o))) (a.right.mergeSort (leOf (joinSortCmp I a.rkey o)))) := by
  simp only [joinNew, joinSide_sorted I _ _ _ _ hl, joinSide_sorted I _ _ _ _ hr]

end Zed.Opt

import Zed.Proofs.ZsonPlainValues
import Zed.Proofs.ZsonWrap
/-!
  C02 — value round trip, plain fragment: the whole-value entry point, implied types.
-/
namespace Zed.Zson
open Generated

theorem beq_null_false (v : Val) (h : v ≠ .null) : (v == Val.null) = false := by
  simpa [beq_eq_false_iff_ne] using h

/-- the whole-value entry point differs from the nested one only in the `null` flag it hands
    to `decorate` — which matters exactly for empty containers. -/
theorem fmtTop_eq (fst : FState) (t : Ty) (v : Val) (hp : plainTy t = true) (hv : wfVal t v = true)
    (hb : bareEmpty v = false) :
    fmtTop fst t v =
      ((fmtValue fst t v false (implied t) true false).1,
       mkVal (fmtValue fst t v false (implied t) true false).2.1 (fmtValue fst t v false (implied t) true false).2.2) := by
  cases hn : v.isNull
  · exact fmtTop_shaped fst t v (shaped_of_wf hv hn) (emptyC_of_bareEmpty hb) (Or.inl (hasName_plain fst t hp))
  · obtain rfl : v = .null := by cases v <;> first | rfl | cases hn
    exact fmtTop_null fst t (hasName_plain fst t hp)

theorem roundtrip_plain (fst : FState) (a0 : AState) (t : Ty) (v : Val)
    (hp : plainTy t = true) (hw : wfTy t = true) (hv : wfVal t v = true) (hb : bareEmpty v = false)
    (he : errOK v = true) :
    (fmtTop fst t v).1 = fst ∧ analyzeTop a0 (fmtTop fst t v).2 = .ok (a0, (t, v)) := by
  obtain ⟨any, ds, hf, _, hA, _⟩ := goodV_all v t false hp hw hv he (implied t) fst a0
  rw [fmtTop_eq fst t v hp hv hb, hf]
  refine ⟨rfl, ?_⟩
  simp only [analyzeTop, hA, Except.map, expA, Bool.false_and, if_false, Bool.false_eq_true]
  rw [wrapAll_strip v t hv]

theorem implied_notUnion (t : Ty) (h : implied t = true) : t.isUnion = false := by
  cases t <;> simp_all [implied, Ty.isUnion]

mutual
theorem implied_plain : (t : Ty) → implied t = true → plainTy t = true
  | .prim _, _ => rfl
  | .record fs, h => by simp only [implied] at h; simp [plainTy, impliedFields_plain fs h]
  | .array t, h => by simp only [implied] at h; simp [plainTy, implied_plain t h]
  | .set t, h => by simp only [implied] at h; simp [plainTy, implied_plain t h]
  | .map k v, h => by
    simp only [implied, Bool.and_eq_true] at h
    simp [plainTy, implied_plain k h.1, implied_plain v h.2]
  | .error t, h => by simp only [implied] at h; simp [plainTy, implied_plain t h]
  | .union _, h => by simp [implied] at h
  | .enum _, _ => rfl
  | .named _ _, h => by simp [implied] at h
theorem impliedFields_plain : (fs : Fields) → impliedFields fs = true → plainFields fs = true
  | .nil, _ => rfl
  | .cons _ t r, h => by
    simp only [impliedFields, Bool.and_eq_true] at h
    simp [plainFields, implied_plain t h.1, implied_notUnion t h.1, impliedFields_plain r h.2]
end

theorem implied_selfDescribing (t : Ty) (h : implied t = true) : selfDescribing t = true := by
  cases t <;> first | rfl | exact h | simp [implied] at h

theorem implied_noOwnDeco (t : Ty) (v : Val) (hi : implied t = true) : noOwnDeco t v = true := by
  have hp := implied_plain t hi
  unfold noOwnDeco
  split
  · simp only [implied] at hi; simp only [plainTy] at hp
    simp [needsDecoration_notUnion _ _ hp (implied_notUnion _ hi)]
  · simp only [implied] at hi; simp only [plainTy] at hp
    simp [needsDecoration_notUnion _ _ hp (implied_notUnion _ hi)]
  · simp only [implied, Bool.and_eq_true] at hi; simp only [plainTy, Bool.and_eq_true] at hp
    simp [needsDecoration_notUnion _ _ hp.1 (implied_notUnion _ hi.1),
      needsDecoration_notUnion _ _ hp.2 (implied_notUnion _ hi.2)]
  · rfl

/-- no decorator follows a (non-null, non-empty) value of a self-describing plain type whose
    union element types are fully populated. -/
theorem selfdesc_ds (fst : FState) (t : Ty) (v : Val) (pi e : Bool) (hs : selfDescribing t = true)
    (hp : plainTy t = true) (hv : wfVal t v = true) (hn : v.isNull = false) (hb : bareEmpty v = false)
    (hod : noOwnDeco t v = true) :
    (fmtValue fst t v false pi true e).2.2 = [] := by
  have hu : t.isUnion = false := by cases t <;> first | rfl | simp [selfDescribing, implied] at hs
  have hnn : t.isNamed = false := by cases t <;> first | rfl | simp [plainTy] at hp
  have hsh := shaped_of_wf hv hn
  have he : fmtValue fst t v false pi true e = fmtValue fst t v false pi true false := by
    cases e
    · rfl
    · exact fmtValue_elem_plain fst v false pi true hp hu
  rw [he, fmtValue_decorate fst t v false pi hsh, emptyC_of_bareEmpty hb, decorateM_plain _ t false hp,
    decoP_selfdesc t hs, fmtValue_noOwnDeco fst t v false pi hsh hod hu hnn]
  rfl

theorem implied_ds (fst : FState) (t : Ty) (v : Val) (pi e : Bool) (hi : implied t = true)
    (hv : wfVal t v = true) (hn : v.isNull = false) (hb : bareEmpty v = false) :
    (fmtValue fst t v false pi true e).2.2 = [] :=
  selfdesc_ds fst t v pi e (implied_selfDescribing t hi) (implied_plain t hi) hv hn hb (implied_noOwnDeco t v hi)

/-- in the plain fragment what is read back does not depend on the formatter's typedef state. -/
theorem fmtTop_state_irrelevant (fst1 fst2 : FState) (a0 : AState) (t : Ty) (v : Val)
    (hp : plainTy t = true) (hw : wfTy t = true) (hv : wfVal t v = true) (hb : bareEmpty v = false)
    (he : errOK v = true) :
    analyzeTop a0 (fmtTop fst1 t v).2 = analyzeTop a0 (fmtTop fst2 t v).2 := by
  rw [(roundtrip_plain fst1 a0 t v hp hw hv hb he).2, (roundtrip_plain fst2 a0 t v hp hw hv hb he).2]

end Zed.Zson

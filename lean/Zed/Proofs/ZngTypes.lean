import Zed.Model.ZngTypes
import Zed.Proofs.ZngUvarint
/-!
  The typedef encoder and decoder agree: the typedef bytes one `Encoder.Encode` call emits
  decode — starting from the context before the call — to exactly the context after the
  call, and the returned id denotes the encoded type.  (`typedefs_before_use` and the core of
  `zng_roundtrip`.)
-/
namespace Zed.Zng
open Zed.Generated.C01

/-! ### well-formed types: what `zed.Context` builds, within the reader's `Max*` limits -/

mutual
def ZTy.valid : ZTy → Bool
  | .prim id => primitiveIDs.contains id
  | .record fs => fs.valid && !hasDup (fs.toList.map (·.1)) && decide (fs.toList.length ≤ maxRecordFields)
  | .array t => t.valid
  | .set t => t.valid
  | .map k v => k.valid && v.valid
  | .union ts => ts.valid && decide (ts.toList.length ≠ 0) && sortedTys ts.toList &&
      decide (ts.toList.length ≤ maxUnionTypes)
  | .enum syms => decide (syms.length ≤ maxEnumSymbols)
  | .error t => t.valid
  | .named n t => validTypeName n && t.valid
def ZFields.valid : ZFields → Bool
  | .nil => true
  | .cons _ t r => t.valid && r.valid
def ZTys.valid : ZTys → Bool
  | .nil => true
  | .cons t r => t.valid && r.valid
end

theorem ZTy.valid_record {fs : ZFields} (h : (ZTy.record fs).valid = true) :
    fs.valid = true ∧ hasDup (fs.toList.map (·.1)) = false ∧ fs.toList.length ≤ maxRecordFields := by
  have h : (fs.valid && !hasDup (fs.toList.map (·.1)) && decide (fs.toList.length ≤ maxRecordFields)) = true := h
  simpa only [Bool.and_eq_true, Bool.not_eq_true', decide_eq_true_eq, and_assoc] using h

theorem ZTy.valid_union {ts : ZTys} (h : (ZTy.union ts).valid = true) :
    ts.valid = true ∧ ts.toList.length ≠ 0 ∧ sortedTys ts.toList = true ∧ ts.toList.length ≤ maxUnionTypes := by
  have h : (ts.valid && decide (ts.toList.length ≠ 0) && sortedTys ts.toList &&
      decide (ts.toList.length ≤ maxUnionTypes)) = true := h
  simpa only [Bool.and_eq_true, decide_eq_true_eq, and_assoc] using h

theorem ZTy.valid_map {k v : ZTy} (h : (ZTy.map k v).valid = true) : k.valid = true ∧ v.valid = true :=
  Bool.and_eq_true_iff.mp h

theorem ZTy.valid_named {n : Bytes} {t : ZTy} (h : (ZTy.named n t).valid = true) :
    validTypeName n = true ∧ t.valid = true :=
  Bool.and_eq_true_iff.mp h

theorem ZFields.valid_cons {n : Bytes} {t : ZTy} {r : ZFields} (h : (ZFields.cons n t r).valid = true) :
    t.valid = true ∧ r.valid = true :=
  Bool.and_eq_true_iff.mp h

theorem ZTys.valid_cons {t : ZTy} {r : ZTys} (h : (ZTys.cons t r).valid = true) :
    t.valid = true ∧ r.valid = true :=
  Bool.and_eq_true_iff.mp h

theorem Ctx.find_some {ctx : Ctx} {t : ZTy} : ∀ {i : Nat}, Ctx.find ctx t = some i → ctx[i]? = some t := by
  induction ctx with
  | nil => intro i h; cases h
  | cons x xs ih =>
    intro i h
    rw [Ctx.find] at h
    by_cases hx : x = t
    · rw [if_pos hx] at h; cases h; rw [hx]; rfl
    · rw [if_neg hx] at h
      cases hf : Ctx.find xs t with
      | none => rw [hf] at h; cases h
      | some j => rw [hf] at h; cases h; exact ih hf

theorem Ctx.find_append (ctx e : Ctx) (t : ZTy) : Ctx.find (ctx ++ e) t =
    (Ctx.find ctx t).or ((Ctx.find e t).map (ctx.length + ·)) := by
  induction ctx with
  | nil => simp [Ctx.find]
  | cons x xs ih =>
    rw [List.cons_append, Ctx.find, Ctx.find, ih]
    by_cases hx : x = t
    · rw [if_pos hx, if_pos hx]; rfl
    · rw [if_neg hx, if_neg hx]
      cases Ctx.find xs t with
      | some i => rfl
      | none =>
        cases Ctx.find e t with
        | none => rfl
        | some j => exact congrArg some (Nat.add_right_comm _ _ _)

theorem typeOfId_natCast (ctx : Ctx) (n : Nat) : ctx.typeOfId (n : Int) =
    if n < idTypeComplex then (if primitiveIDs.contains n then some (.prim n) else none)
    else ctx[n - idTypeComplex]? := by
  rw [Ctx.typeOfId, if_neg (by omega), Int.toNat_natCast]

theorem typeOfId_complex (ctx : Ctx) (i : Nat) :
    ctx.typeOfId ((idTypeComplex + i : Nat) : Int) = ctx[i]? := by
  rw [typeOfId_natCast, if_neg (by omega), Nat.add_sub_cancel_left]

theorem typeOfId_prim {ctx : Ctx} {id : Nat} (h : primitiveIDs.contains id = true) :
    ctx.typeOfId (id : Int) = some (.prim id) := by
  have : ∀ x ∈ primitiveIDs, x < idTypeComplex := by decide
  rw [typeOfId_natCast, if_pos (this id (List.contains_iff_mem.mp h)), if_pos h]

theorem typeOfId_append {ctx : Ctx} {id : Int} {t : ZTy} (e : Ctx) (h : ctx.typeOfId id = some t) :
    (ctx ++ e).typeOfId id = some t := by
  unfold Ctx.typeOfId at h ⊢
  by_cases h0 : id < 0
  · rw [if_pos h0] at h; cases h
  · rw [if_neg h0] at h ⊢
    by_cases h1 : id.toNat < idTypeComplex
    · rw [if_pos h1] at h ⊢; exact h
    · rw [if_neg h1] at h ⊢
      rw [List.getElem?_append_left (List.getElem?_eq_some_iff.mp h).1]; exact h

theorem enter_typeOfId (ctx : Ctx) (t : ZTy) :
    (ctx.enter t).1.typeOfId ((ctx.enter t).2 : Int) = some t := by
  unfold Ctx.enter
  cases hf : Ctx.find ctx t with
  | some i => simp only; rw [typeOfId_complex]; exact Ctx.find_some hf
  | none => simp only; rw [typeOfId_complex]; simp

theorem enter_ext (ctx : Ctx) (t : ZTy) : ∃ e, (ctx.enter t).1 = ctx ++ e := by
  unfold Ctx.enter
  cases Ctx.find ctx t with
  | some i => exact ⟨[], by simp⟩
  | none => exact ⟨[t], rfl⟩

theorem enter_find (ctx : Ctx) (t : ZTy) : ∃ i, Ctx.find (ctx.enter t).1 t = some i := by
  unfold Ctx.enter
  cases hf : Ctx.find ctx t with
  | some i => exact ⟨i, hf⟩
  | none => exact ⟨ctx.length, by rw [Ctx.find_append, hf]; simp [Ctx.find]⟩

theorem rdInt_uvarint (n : Nat) (rest : Bytes) (hn : n < two63) :
    rdInt (uvarint n ++ rest) = .ok ((n : Int), rest) := by
  unfold rdInt; rw [readUvarintAsInt_uvarint n rest hn]

theorem rdType_uvarint {ctx : Ctx} {id : Nat} {t : ZTy} (rest : Bytes) (hn : id < two63)
    (ht : ctx.typeOfId (id : Int) = some t) : rdType ctx (uvarint id ++ rest) = .ok (t, rest) := by
  unfold rdType; rw [rdInt_uvarint id rest hn]; simp only [ht]

theorem rdCounted_counted (b rest : Bytes) (hn : b.length < two63) :
    rdCounted (uvarint b.length ++ (b ++ rest)) = .ok (b, rest) := by
  rw [rdCounted, rdInt_uvarint b.length _ hn]
  simp only [if_neg (Int.not_lt.mpr (Int.natCast_nonneg _)), Int.toNat_natCast, hasLen_append,
    Bool.not_true, Bool.false_eq_true, if_false, List.take_left', List.drop_left']

theorem putList_eq {α : Type} {put : List α → EncSt → EncSt} {B : α → Bytes} {S : α → Bool}
    (hnil : ∀ s, put [] s = s)
    (hcons : ∀ a r s, put (a :: r) s = put r { s with bytes := s.bytes ++ B a, small := s.small && S a }) :
    ∀ l s, put l s = { s with bytes := s.bytes ++ l.flatMap B, small := s.small && l.all S } := by
  intro l
  induction l with
  | nil => intro s; rw [hnil]; simp
  | cons a r ih => intro s; rw [hcons, ih]; simp [Bool.and_assoc]

def fieldsBytes (ids : List (Bytes × Nat)) : Bytes :=
  ids.flatMap fun x => uvarint x.1.length ++ (x.1 ++ uvarint x.2)
def idsBytes (ids : List Nat) : Bytes := ids.flatMap uvarint
def symsBytes (ss : List Bytes) : Bytes := ss.flatMap fun b => uvarint b.length ++ b

def fieldsSmall (ids : List (Bytes × Nat)) : Bool :=
  ids.all fun x => decide (x.1.length < two63) && decide (x.2 < two63)
def idsSmall (ids : List Nat) : Bool := ids.all fun id => decide (id < two63)
def symsSmall (ss : List Bytes) : Bool := ss.all fun b => decide (b.length < two63)

theorem putFields_eq (ids : List (Bytes × Nat)) (s : EncSt) :
    putFields ids s = { s with bytes := s.bytes ++ fieldsBytes ids, small := s.small && fieldsSmall ids } :=
  putList_eq (fun _ => rfl)
    (fun a r s => by simp [putFields, EncSt.putCounted, EncSt.putUv, EncSt.put, Bool.and_assoc]) ids s

theorem putIds_eq (ids : List Nat) (s : EncSt) :
    putIds ids s = { s with bytes := s.bytes ++ idsBytes ids, small := s.small && idsSmall ids } :=
  putList_eq (fun _ => rfl) (fun _ _ _ => rfl) ids s

theorem putSyms_eq (ss : List Bytes) (s : EncSt) :
    putSyms ss s = { s with bytes := s.bytes ++ symsBytes ss, small := s.small && symsSmall ss } :=
  putList_eq (fun _ => rfl)
    (fun a r s => by simp [putSyms, EncSt.putCounted, EncSt.putUv, EncSt.put]) ss s

/-- ids resolve, pairwise, to the field types -/
def FieldsResolve (ctx : Ctx) : List (Bytes × Nat) → List (Bytes × ZTy) → Prop
  | [], [] => True
  | (n, id) :: r, (n', t) :: r' => n = n' ∧ ctx.typeOfId (id : Int) = some t ∧ FieldsResolve ctx r r'
  | _, _ => False

def IdsResolve (ctx : Ctx) : List Nat → List ZTy → Prop
  | [], [] => True
  | id :: r, t :: r' => ctx.typeOfId (id : Int) = some t ∧ IdsResolve ctx r r'
  | _, _ => False

theorem FieldsResolve.append {ctx : Ctx} (e : Ctx) : ∀ {ids fs}, FieldsResolve ctx ids fs → FieldsResolve (ctx ++ e) ids fs := by
  intro ids
  induction ids with
  | nil => intro fs h; cases fs <;> exact h
  | cons x r ih =>
    intro fs h
    cases fs with
    | nil => exact h
    | cons y r' => exact ⟨h.1, typeOfId_append e h.2.1, ih h.2.2⟩

theorem IdsResolve.append {ctx : Ctx} (e : Ctx) : ∀ {ids ts}, IdsResolve ctx ids ts → IdsResolve (ctx ++ e) ids ts := by
  intro ids
  induction ids with
  | nil => intro ts h; cases ts <;> exact h
  | cons x r ih =>
    intro ts h
    cases ts with
    | nil => exact h
    | cons y r' => exact ⟨typeOfId_append e h.1, ih h.2⟩

theorem FieldsResolve.names {ctx : Ctx} : ∀ {ids : List (Bytes × Nat)} {fs : List (Bytes × ZTy)},
    FieldsResolve ctx ids fs → ids.map (·.1) = fs.map (·.1) := by
  intro ids
  induction ids with
  | nil => intro fs h; cases fs with
    | nil => rfl
    | cons => exact h.elim
  | cons x r ih =>
    intro fs h
    cases fs with
    | nil => exact h.elim
    | cons y r' => rw [List.map_cons, List.map_cons, h.1, ih h.2.2]

theorem FieldsResolve.length {ctx : Ctx} : ∀ {ids fs}, FieldsResolve ctx ids fs → ids.length = fs.length := by
  intro ids fs h
  simpa using congrArg List.length h.names

theorem IdsResolve.length {ctx : Ctx} : ∀ {ids ts}, IdsResolve ctx ids ts → ids.length = ts.length := by
  intro ids
  induction ids with
  | nil => intro ts h; cases ts with
    | nil => rfl
    | cons => exact h.elim
  | cons x r ih =>
    intro ts h
    cases ts with
    | nil => exact h.elim
    | cons y r' => exact congrArg (· + 1) (ih h.2)

theorem rdFields_fieldsBytes {ctx : Ctx} (rest : Bytes) {ids : List (Bytes × Nat)} : ∀ {fs : List (Bytes × ZTy)},
    FieldsResolve ctx ids fs → fieldsSmall ids = true →
    rdFields ctx ids.length (fieldsBytes ids ++ rest) = .ok (fs, rest) := by
  induction ids with
  | nil => intro fs h _; cases fs with
    | nil => rfl
    | cons => exact h.elim
  | cons x r ih =>
    intro fs h hs
    obtain ⟨n, id⟩ := x
    cases fs with
    | nil => exact h.elim
    | cons y r' =>
      obtain ⟨n', t⟩ := y
      obtain ⟨rfl, h2, h3⟩ := h
      simp only [fieldsSmall, List.all_cons, Bool.and_eq_true, decide_eq_true_eq] at hs
      rw [List.length_cons, rdFields, fieldsBytes, List.flatMap_cons, List.append_assoc, List.append_assoc, List.append_assoc,
        rdCounted_counted n _ hs.1.1]
      have ih := ih h3 hs.2
      rw [fieldsBytes] at ih
      simp only [rdType_uvarint _ hs.1.2 h2, ih]

theorem rdTypes_idsBytes {ctx : Ctx} (rest : Bytes) {ids : List Nat} : ∀ {ts : List ZTy},
    IdsResolve ctx ids ts → idsSmall ids = true →
    rdTypes ctx ids.length (idsBytes ids ++ rest) = .ok (ts, rest) := by
  induction ids with
  | nil => intro ts h _; cases ts with
    | nil => rfl
    | cons => exact h.elim
  | cons id r ih =>
    intro ts h hs
    cases ts with
    | nil => exact h.elim
    | cons t r' =>
      simp only [idsSmall, List.all_cons, Bool.and_eq_true, decide_eq_true_eq] at hs
      rw [List.length_cons, rdTypes, idsBytes, List.flatMap_cons, List.append_assoc, rdType_uvarint _ hs.1 h.1]
      have ih := ih h.2 hs.2
      rw [idsBytes] at ih
      simp only [ih]

theorem rdSyms_symsBytes (rest : Bytes) {ss : List Bytes} (hs : symsSmall ss = true) :
    rdSyms ss.length (symsBytes ss ++ rest) = .ok (ss, rest) := by
  induction ss with
  | nil => rfl
  | cons b r ih =>
    simp only [symsSmall, List.all_cons, Bool.and_eq_true, decide_eq_true_eq] at hs
    rw [List.length_cons, rdSyms, symsBytes, List.flatMap_cons, List.append_assoc, List.append_assoc, rdCounted_counted b _ hs.1]
    have ih := ih hs.2
    rw [symsBytes] at ih
    simp only [ih]

theorem sortTys_sorted : ∀ (l : List ZTy), sortedTys l = true → sortTys l = l
  | [], _ => rfl
  | [x], _ => by simp [sortTys, insertTy]
  | x :: y :: r, h => by
    simp only [sortedTys, Bool.and_eq_true, Bool.not_eq_true', decide_eq_false_iff_not] at h
    obtain ⟨hxy, hr⟩ := h
    have ih := sortTys_sorted (y :: r) hr
    simp only [sortTys] at ih ⊢
    rw [ih]
    simp [insertTy, hxy]

theorem decTypedef_of_rdTypedef {ctx : Ctx} {code : Nat} {bs r : Bytes} {t : ZTy}
    (h : rdTypedef ctx code bs = .ok (t, r)) (ht : translatable t = true) :
    decTypedef ctx code bs = .ok ((ctx.enter t).1, r) := by
  unfold decTypedef enterLocal
  rw [h]; simp [ht]

/-- Decoding typedefs from `D` over `d` followed by anything is decoding from `D'` over what follows,
    whether that succeeds or not. -/
def Defines (D : Ctx) (d : Bytes) (D' : Ctx) : Prop :=
  ∀ rest, decTypedefs D (d ++ rest) = decTypedefs D' rest

theorem Defines.nil (D : Ctx) : Defines D [] D := fun _ => rfl

theorem Defines.trans {D D1 D2 : Ctx} {a b : Bytes} (h1 : Defines D a D1) (h2 : Defines D1 b D2) :
    Defines D (a ++ b) D2 := fun rest => by rw [List.append_assoc, h1, h2]

theorem Defines.ok {D D' : Ctx} {d : Bytes} (h : Defines D d D') : decTypedefs D d = .ok D' := by
  have := h []; rwa [List.append_nil, decTypedefs_nil] at this

def CacheOk (s : EncSt) : Prop := ∀ c t, (c, t) ∈ s.cache → ∃ i, Ctx.find s.ctx t = some i

/-- A run of the encoder from `s` to `s'`.  `dec`: the emitted bytes decode from the context before
    to the context after, whatever follows them (so runs compose).  `small` is about the start: the
    flag only ever falls. -/
structure EncOk (s s' : EncSt) : Prop where
  cache : CacheOk s'
  ext : ∃ e, s'.ctx = s.ctx ++ e
  dec : ∃ d, s'.bytes = s.bytes ++ d ∧ ∀ rest, decTypedefs s.ctx (d ++ rest) = decTypedefs s'.ctx rest
  small : s.small = true

theorem EncOk.refl {s : EncSt} (hc : CacheOk s) (hs : s.small = true) : EncOk s s :=
  ⟨hc, ⟨[], by simp⟩, ⟨[], by simp, Defines.nil _⟩, hs⟩

theorem EncOk.trans {s s1 s2 : EncSt} (h1 : EncOk s s1) (h2 : EncOk s1 s2) : EncOk s s2 := by
  obtain ⟨e1, he1⟩ := h1.ext
  obtain ⟨e2, he2⟩ := h2.ext
  obtain ⟨d1, hd1, hdec1⟩ := h1.dec
  obtain ⟨d2, hd2, hdec2⟩ := h2.dec
  exact ⟨h2.cache, ⟨e1 ++ e2, by rw [he2, he1, List.append_assoc]⟩,
    ⟨d1 ++ d2, by rw [hd2, hd1, List.append_assoc], Defines.trans hdec1 hdec2⟩, h1.small⟩

theorem EncOk.typeOfId {s s' : EncSt} (h : EncOk s s') {id : Int} {t : ZTy}
    (ht : s.ctx.typeOfId id = some t) : s'.ctx.typeOfId id = some t := by
  obtain ⟨e, he⟩ := h.ext
  rw [he]; exact typeOfId_append e ht

theorem cache_hit {s : EncSt} {cid : Nat} {t : ZTy} (hc : CacheOk s)
    (h : s.cache.contains (cid, t) = true) (hnp : ∀ id, t ≠ .prim id) :
    s.ctx.typeOfId ((s.ctx.idOf t : Nat) : Int) = some t := by
  have hm : (cid, t) ∈ s.cache := by simpa using h
  obtain ⟨i, hi⟩ := hc cid t hm
  have : s.ctx.idOf t = idTypeComplex + i := by
    cases t <;> simp [Ctx.idOf, hi] <;> exact absurd rfl (hnp _)
  rw [this, typeOfId_complex]
  exact Ctx.find_some hi

theorem finish_eq (s : EncSt) (cid : Nat) (t : ZTy) : s.finish cid t =
    ({ s with ctx := (s.ctx.enter t).1, cache := (cid, t) :: s.cache }, (s.ctx.enter t).2) := rfl

/-- The shape of every complex case of `encTy`: a cached `(cid, t)` gives the known id; otherwise,
    the children having taken `s` to `s1`, one typedef (code byte, `body`) is appended and `t`
    entered.  `sm`: the integers in `body` fit a Go `int`. -/
def emitDef (cid : Nat) (t : ZTy) (s s1 : EncSt) (code : Nat) (body : Bytes) (sm : Bool) : EncSt × Nat :=
  if s.cache.contains (cid, t) then (s, s.ctx.idOf t)
  else EncSt.finish { s1 with bytes := s1.bytes ++ UInt8.ofNat code :: body, small := s1.small && sm } cid t

inductive Unary : (ZTy → ZTy) → Nat → Prop
  | array : Unary .array typeDefArray
  | set : Unary .set typeDefSet
  | error : Unary .error typeDefError

theorem encTy_unary {mk : ZTy → ZTy} {code : Nat} (h : Unary mk code) (cid : Nat) (e : ZTy) (s : EncSt) :
    encTy cid (mk e) s = emitDef cid (mk e) s (encTy cid e s).1 code (uvarint (encTy cid e s).2)
      (decide ((encTy cid e s).2 < two63)) := by
  cases h <;> rw [encTy, emitDef] <;>
    simp only [EncSt.put, EncSt.putUv, List.append_assoc, List.cons_append, List.nil_append]

theorem encTy_named (cid : Nat) (n : Bytes) (e : ZTy) (s : EncSt) : encTy cid (.named n e) s =
    emitDef cid (.named n e) s (encTy cid e s).1 typeDefName
      (uvarint n.length ++ (n ++ uvarint (encTy cid e s).2))
      (decide (n.length < two63) && decide ((encTy cid e s).2 < two63)) := by
  rw [encTy, emitDef]
  simp only [EncSt.put, EncSt.putUv, EncSt.putCounted, List.append_assoc, List.cons_append, List.nil_append, Bool.and_assoc]

theorem encTy_map (cid : Nat) (k v : ZTy) (s : EncSt) : encTy cid (.map k v) s =
    emitDef cid (.map k v) s (encTy cid v (encTy cid k s).1).1 typeDefMap
      (uvarint (encTy cid k s).2 ++ uvarint (encTy cid v (encTy cid k s).1).2)
      (decide ((encTy cid k s).2 < two63) && decide ((encTy cid v (encTy cid k s).1).2 < two63)) := by
  rw [encTy, emitDef]
  simp only [EncSt.put, EncSt.putUv, List.append_assoc, List.cons_append, List.nil_append, Bool.and_assoc]

theorem encTy_record (cid : Nat) (fs : ZFields) (s : EncSt) : encTy cid (.record fs) s =
    emitDef cid (.record fs) s (encFields cid fs s).1 typeDefRecord
      (uvarint (encFields cid fs s).2.length ++ fieldsBytes (encFields cid fs s).2)
      (decide ((encFields cid fs s).2.length < two63) && fieldsSmall (encFields cid fs s).2) := by
  rw [encTy, emitDef]
  simp only [EncSt.put, EncSt.putUv, putFields_eq, List.append_assoc, List.cons_append, List.nil_append, Bool.and_assoc]

theorem encTy_union (cid : Nat) (ts : ZTys) (s : EncSt) : encTy cid (.union ts) s =
    emitDef cid (.union ts) s (encTys cid ts s).1 typeDefUnion
      (uvarint (encTys cid ts s).2.length ++ idsBytes (encTys cid ts s).2)
      (decide ((encTys cid ts s).2.length < two63) && idsSmall (encTys cid ts s).2) := by
  rw [encTy, emitDef]
  simp only [EncSt.put, EncSt.putUv, putIds_eq, List.append_assoc, List.cons_append, List.nil_append, Bool.and_assoc]

theorem encTy_enum (cid : Nat) (syms : List Bytes) (s : EncSt) : encTy cid (.enum syms) s =
    emitDef cid (.enum syms) s s typeDefEnum (uvarint syms.length ++ symsBytes syms)
      (decide (syms.length < two63) && symsSmall syms) := by
  rw [encTy, emitDef]
  simp only [EncSt.put, EncSt.putUv, putSyms_eq, List.append_assoc, List.cons_append, List.nil_append, Bool.and_assoc]

theorem encFields_cons (cid : Nat) (n : Bytes) (t : ZTy) (r : ZFields) (s : EncSt) :
    encFields cid (.cons n t r) s = ((encFields cid r (encTy cid t s).1).1,
      (n, (encTy cid t s).2) :: (encFields cid r (encTy cid t s).1).2) := by
  rw [encFields]

theorem encTys_cons (cid : Nat) (t : ZTy) (r : ZTys) (s : EncSt) :
    encTys cid (.cons t r) s = ((encTys cid r (encTy cid t s).1).1,
      (encTy cid t s).2 :: (encTys cid r (encTy cid t s).1).2) := by
  rw [encTys]

theorem emitDef_small {cid : Nat} {t : ZTy} {s s1 : EncSt} {code : Nat} {body : Bytes} {sm : Bool}
    (h : (emitDef cid t s s1 code body sm).1.small = true) (hk : s1.small = true → s.small = true) :
    s.small = true := by
  unfold emitDef at h
  split at h
  · exact h
  · rw [finish_eq] at h
    exact hk (Bool.and_eq_true_iff.mp h).1

theorem emitDef_spec {cid : Nat} {t : ZTy} {s s1 : EncSt} {code : Nat} {body : Bytes} {sm : Bool}
    (hnp : ∀ id, t ≠ .prim id) (hcode : code < 256) (htr : translatable t = true) (hc : CacheOk s)
    (hs : (emitDef cid t s s1 code body sm).1.small = true)
    (hkids : s1.small = true → sm = true →
      EncOk s s1 ∧ ∀ rest, rdTypedef s1.ctx code (body ++ rest) = .ok (t, rest)) :
    EncOk s (emitDef cid t s s1 code body sm).1 ∧
      (emitDef cid t s s1 code body sm).1.ctx.typeOfId ((emitDef cid t s s1 code body sm).2 : Int) = some t := by
  unfold emitDef at hs ⊢
  split
  · rename_i hit
    rw [if_pos hit] at hs
    exact ⟨EncOk.refl hc hs, cache_hit hc hit hnp⟩
  · rename_i miss
    rw [if_neg miss, finish_eq] at hs
    rw [finish_eq]
    obtain ⟨h1, hrd⟩ := hkids (Bool.and_eq_true_iff.mp hs).1 (Bool.and_eq_true_iff.mp hs).2
    obtain ⟨e1, he1⟩ := h1.ext
    obtain ⟨d1, hd1, hdec1⟩ := h1.dec
    obtain ⟨e2, he2⟩ := enter_ext s1.ctx t
    refine ⟨⟨?_, ⟨e1 ++ e2, ?_⟩, ⟨d1 ++ UInt8.ofNat code :: body, ?_, ?_⟩, h1.small⟩, enter_typeOfId s1.ctx t⟩
    · intro c t' hm
      rcases List.mem_cons.mp hm with h | hm
      · rw [(Prod.mk.inj h).2]; exact enter_find s1.ctx t
      · obtain ⟨i, hi⟩ := h1.cache c t' hm
        exact ⟨i, by rw [he2, Ctx.find_append, hi]; rfl⟩
    · show (s1.ctx.enter t).1 = _
      rw [he2, he1, List.append_assoc]
    · show s1.bytes ++ _ = _
      rw [hd1, List.append_assoc]
    · exact Defines.trans hdec1 fun rest => decTypedefs_cons
        (decTypedef_of_rdTypedef (by rw [UInt8.toNat_ofNat_of_lt' hcode]; exact hrd rest) htr)

mutual
theorem encTy_small (cid : Nat) : ∀ (t : ZTy) (s : EncSt), (encTy cid t s).1.small = true → s.small = true
  | .prim _ => fun _ h => by rwa [encTy] at h
  | .array e => fun s h => by rw [encTy_unary .array] at h; exact emitDef_small h (encTy_small cid e s)
  | .set e => fun s h => by rw [encTy_unary .set] at h; exact emitDef_small h (encTy_small cid e s)
  | .error e => fun s h => by rw [encTy_unary .error] at h; exact emitDef_small h (encTy_small cid e s)
  | .named n e => fun s h => by rw [encTy_named] at h; exact emitDef_small h (encTy_small cid e s)
  | .map k v => fun s h => by
    rw [encTy_map] at h
    exact emitDef_small h fun h2 => encTy_small cid k s (encTy_small cid v _ h2)
  | .record fs => fun s h => by rw [encTy_record] at h; exact emitDef_small h (encFields_small cid fs s)
  | .union ts => fun s h => by rw [encTy_union] at h; exact emitDef_small h (encTys_small cid ts s)
  | .enum syms => fun s h => by rw [encTy_enum] at h; exact emitDef_small h id
theorem encFields_small (cid : Nat) : ∀ (fs : ZFields) (s : EncSt), (encFields cid fs s).1.small = true → s.small = true
  | .nil => fun _ h => by rwa [encFields] at h
  | .cons n t r => fun s h => by
    rw [encFields_cons] at h
    exact encTy_small cid t s (encFields_small cid r _ h)
theorem encTys_small (cid : Nat) : ∀ (ts : ZTys) (s : EncSt), (encTys cid ts s).1.small = true → s.small = true
  | .nil => fun _ h => by rwa [encTys] at h
  | .cons t r => fun s h => by
    rw [encTys_cons] at h
    exact encTy_small cid t s (encTys_small cid r _ h)
end

/-! The readers are rewritten wherever they occur in `rdTypedef`'s chain of tests on the code; the
    tests are closed and the final `rfl` decides them. -/

theorem rdTypedef_unary {mk : ZTy → ZTy} {code : Nat} (h : Unary mk code) {ctx : Ctx} {eid : Nat} {e : ZTy}
    (rest : Bytes) (hid : eid < two63) (he : ctx.typeOfId (eid : Int) = some e) :
    rdTypedef ctx code (uvarint eid ++ rest) = .ok (mk e, rest) := by
  cases h <;> rw [rdTypedef, rdType_uvarint rest hid he] <;> rfl

theorem encTy_spec_unary {mk : ZTy → ZTy} {code : Nat} (h : Unary mk code) {cid : Nat} {e : ZTy} {s : EncSt}
    (hc : CacheOk s) (hs : (encTy cid (mk e) s).1.small = true)
    (ih : (encTy cid e s).1.small = true →
      EncOk s (encTy cid e s).1 ∧ (encTy cid e s).1.ctx.typeOfId (((encTy cid e s).2 : Nat) : Int) = some e) :
    EncOk s (encTy cid (mk e) s).1 ∧
      (encTy cid (mk e) s).1.ctx.typeOfId (((encTy cid (mk e) s).2 : Nat) : Int) = some (mk e) := by
  rw [encTy_unary h] at hs ⊢
  refine emitDef_spec (by cases h <;> nofun) (by cases h <;> decide) (by cases h <;> rfl) hc hs fun h1 hsm => ?_
  exact ⟨(ih h1).1, fun rest => rdTypedef_unary h rest (of_decide_eq_true hsm) (ih h1).2⟩

theorem rdTypedef_name {ctx : Ctx} {n : Bytes} {eid : Nat} {e : ZTy} (rest : Bytes)
    (hn : n.length < two63) (hid : eid < two63) (he : ctx.typeOfId (eid : Int) = some e)
    (hv : validTypeName n = true) :
    rdTypedef ctx typeDefName (uvarint n.length ++ (n ++ (uvarint eid ++ rest))) = .ok (.named n e, rest) := by
  rw [rdTypedef, rdCounted_counted n _ hn]
  simp only [rdType_uvarint rest hid he, hv]
  rfl

theorem rdTypedef_map {ctx : Ctx} {kid vid : Nat} {k v : ZTy} (rest : Bytes)
    (hk : kid < two63) (hv : vid < two63) (hkt : ctx.typeOfId (kid : Int) = some k)
    (hvt : ctx.typeOfId (vid : Int) = some v) :
    rdTypedef ctx typeDefMap (uvarint kid ++ (uvarint vid ++ rest)) = .ok (.map k v, rest) := by
  rw [rdTypedef, rdType_uvarint _ hk hkt]
  simp only [rdType_uvarint rest hv hvt]
  rfl

theorem rdTypedef_record {ctx : Ctx} {ids : List (Bytes × Nat)} {fs : ZFields} (rest : Bytes)
    (hn : ids.length < two63) (hs : fieldsSmall ids = true) (hr : FieldsResolve ctx ids fs.toList)
    (hd : hasDup (fs.toList.map (·.1)) = false) :
    rdTypedef ctx typeDefRecord (uvarint ids.length ++ (fieldsBytes ids ++ rest)) = .ok (.record fs, rest) := by
  rw [rdTypedef, rdInt_uvarint _ _ hn]
  simp only [Int.toNat_natCast, rdFields_fieldsBytes rest hr hs, hd, ZFields.ofList_toList]
  rfl

/-- the decoder re-sorts the members; a valid union's members are already in order -/
theorem rdTypedef_union {ctx : Ctx} {ids : List Nat} {ts : ZTys} (rest : Bytes)
    (hn : ids.length < two63) (hs : idsSmall ids = true) (hr : IdsResolve ctx ids ts.toList)
    (hne : ts.toList.length ≠ 0) (hsorted : sortedTys ts.toList = true) :
    rdTypedef ctx typeDefUnion (uvarint ids.length ++ (idsBytes ids ++ rest)) = .ok (.union ts, rest) := by
  have hne' : ¬ ((ids.length : Int) = 0) := by rw [hr.length]; omega
  rw [rdTypedef, rdInt_uvarint _ _ hn]
  simp only [hne', Int.toNat_natCast, rdTypes_idsBytes rest hr hs, sortTys_sorted _ hsorted, ZTys.ofList_toList]
  rfl

theorem rdTypedef_enum {ctx : Ctx} {syms : List Bytes} (rest : Bytes)
    (hn : syms.length < two63) (hs : symsSmall syms = true) :
    rdTypedef ctx typeDefEnum (uvarint syms.length ++ (symsBytes syms ++ rest)) = .ok (.enum syms, rest) := by
  rw [rdTypedef, rdInt_uvarint _ _ hn]
  simp only [Int.toNat_natCast, rdSyms_symsBytes rest hs]
  rfl

mutual
theorem encTy_spec (cid : Nat) : ∀ (t : ZTy) (s : EncSt), t.valid = true → CacheOk s →
    (encTy cid t s).1.small = true →
    EncOk s (encTy cid t s).1 ∧ (encTy cid t s).1.ctx.typeOfId (((encTy cid t s).2 : Nat) : Int) = some t
  | .prim id => fun s hv hc hs => by
    rw [encTy] at hs ⊢
    exact ⟨EncOk.refl hc hs, typeOfId_prim hv⟩
  | .array e => fun s hv hc hs => encTy_spec_unary .array hc hs (encTy_spec cid e s hv hc)
  | .set e => fun s hv hc hs => encTy_spec_unary .set hc hs (encTy_spec cid e s hv hc)
  | .error e => fun s hv hc hs => encTy_spec_unary .error hc hs (encTy_spec cid e s hv hc)
  | .named n e => fun s hv hc hs => by
    rw [encTy_named] at hs ⊢
    have hv := ZTy.valid_named hv
    refine emitDef_spec nofun (by decide) rfl hc hs fun h1 hsm => ?_
    simp only [Bool.and_eq_true, decide_eq_true_eq] at hsm
    have ih := encTy_spec cid e s hv.2 hc h1
    refine ⟨ih.1, fun rest => ?_⟩
    simp only [List.append_assoc]
    exact rdTypedef_name rest hsm.1 hsm.2 ih.2 hv.1
  | .map k v => fun s hv hc hs => by
    rw [encTy_map] at hs ⊢
    have hv := ZTy.valid_map hv
    refine emitDef_spec nofun (by decide) rfl hc hs fun h2 hsm => ?_
    simp only [Bool.and_eq_true, decide_eq_true_eq] at hsm
    have ih1 := encTy_spec cid k s hv.1 hc (encTy_small cid v _ h2)
    have ih2 := encTy_spec cid v _ hv.2 ih1.1.cache h2
    refine ⟨ih1.1.trans ih2.1, fun rest => ?_⟩
    rw [List.append_assoc]
    exact rdTypedef_map rest hsm.1 hsm.2 (ih2.1.typeOfId ih1.2) ih2.2
  | .enum syms => fun s hv hc hs => by
    rw [encTy_enum] at hs ⊢
    refine emitDef_spec nofun (by decide) hv hc hs fun h1 hsm => ?_
    simp only [Bool.and_eq_true, decide_eq_true_eq] at hsm
    refine ⟨EncOk.refl hc h1, fun rest => ?_⟩
    rw [List.append_assoc]
    exact rdTypedef_enum rest hsm.1 hsm.2
  | .record fs => fun s hv hc hs => by
    rw [encTy_record] at hs ⊢
    obtain ⟨hfs, hdup, hlen⟩ := ZTy.valid_record hv
    refine emitDef_spec nofun (by decide) (decide_eq_true hlen) hc hs fun h1 hsm => ?_
    simp only [Bool.and_eq_true, decide_eq_true_eq] at hsm
    have ih := encFields_spec cid fs s hfs hc h1
    refine ⟨ih.1, fun rest => ?_⟩
    rw [List.append_assoc]
    exact rdTypedef_record rest hsm.1 hsm.2 ih.2 hdup
  | .union ts => fun s hv hc hs => by
    rw [encTy_union] at hs ⊢
    obtain ⟨hts, hne, hsorted, hlen⟩ := ZTy.valid_union hv
    refine emitDef_spec nofun (by decide) (decide_eq_true hlen) hc hs fun h1 hsm => ?_
    simp only [Bool.and_eq_true, decide_eq_true_eq] at hsm
    have ih := encTys_spec cid ts s hts hc h1
    refine ⟨ih.1, fun rest => ?_⟩
    rw [List.append_assoc]
    exact rdTypedef_union rest hsm.1 hsm.2 ih.2 hne hsorted
theorem encFields_spec (cid : Nat) : ∀ (fs : ZFields) (s : EncSt), fs.valid = true → CacheOk s →
    (encFields cid fs s).1.small = true →
    EncOk s (encFields cid fs s).1 ∧ FieldsResolve (encFields cid fs s).1.ctx (encFields cid fs s).2 fs.toList
  | .nil => fun s _ hc hs => by
    rw [encFields] at hs ⊢
    exact ⟨EncOk.refl hc hs, trivial⟩
  | .cons n t r => fun s hv hc hs => by
    rw [encFields_cons] at hs ⊢
    have hv := ZFields.valid_cons hv
    have ih1 := encTy_spec cid t s hv.1 hc (encFields_small cid r _ hs)
    have ih2 := encFields_spec cid r _ hv.2 ih1.1.cache hs
    exact ⟨ih1.1.trans ih2.1, rfl, ih2.1.typeOfId ih1.2, ih2.2⟩
theorem encTys_spec (cid : Nat) : ∀ (ts : ZTys) (s : EncSt), ts.valid = true → CacheOk s →
    (encTys cid ts s).1.small = true →
    EncOk s (encTys cid ts s).1 ∧ IdsResolve (encTys cid ts s).1.ctx (encTys cid ts s).2 ts.toList
  | .nil => fun s _ hc hs => by
    rw [encTys] at hs ⊢
    exact ⟨EncOk.refl hc hs, trivial⟩
  | .cons t r => fun s hv hc hs => by
    rw [encTys_cons] at hs ⊢
    have hv := ZTys.valid_cons hv
    have ih1 := encTy_spec cid t s hv.1 hc (encTys_small cid r _ hs)
    have ih2 := encTys_spec cid r _ hv.2 ih1.1.cache hs
    exact ⟨ih1.1.trans ih2.1, ih2.1.typeOfId ih1.2, ih2.2⟩
end

end Zed.Zng

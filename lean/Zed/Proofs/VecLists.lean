import Zed.Proofs.VecLoad
/-! List lemmas for the container cases of the vector path: offsets, flattening, tag maps. -/
namespace Zed.Vng

/-- `loadOffsets`: entry `k` is the total length of the containers at the value slots before `k`. -/
theorem offsetsOf_getElem (F : List Bool) (b : Bitmap) (slot off : Nat) (lens : List Nat)
    (h : AgreesFrom b slot F) (hlen : F.count false = lens.length) (k : Nat) (hk : k ≤ F.length) :
    (offsetsOf F.length slot off b lens)[k]? = some (off + (lens.take (rank F k)).sum) := by
  induction F generalizing slot off lens k with
  | nil =>
    have : k = 0 := by simpa using hk
    subst this; simp [offsetsOf, rank]
  | cons x f ih =>
    obtain ⟨h0, h1⟩ := h.tail
    cases k with
    | zero =>
      cases x <;> cases lens <;> simp [offsetsOf, h0, rank]
    | succ k =>
      have hk' : k ≤ f.length := by simpa using hk
      cases x with
      | true =>
        have := ih (slot + 1) off lens h1 (by simpa using hlen) k hk'
        simpa [offsetsOf, h0, rank] using this
      | false =>
        cases lens with
        | nil => simp at hlen
        | cons l r =>
          have := ih (slot + 1) (off + l) r h1 (by simpa using hlen) k hk'
          simp only [offsetsOf, h0, Bool.false_eq_true, if_false, List.length_cons,
            List.getElem?_cons_succ, this, rank, List.take_succ_cons, List.count_cons_self,
            List.take_succ_cons, List.sum_cons, Option.some.injEq]
          omega

theorem offsetsOf_length (n slot off : Nat) (b : Bitmap) (lens : List Nat) :
    (offsetsOf n slot off b lens).length = n + 1 := by
  induction n generalizing slot off lens with
  | zero => simp [offsetsOf]
  | succ n ih =>
    simp only [offsetsOf]
    split
    · simp [ih]
    · cases lens <;> simp [ih]

theorem rank_succ (F : List Bool) (k : Nat) (hk : k < F.length) :
    rank F (k + 1) = rank F k + (if F.getD k false = true then 0 else 1) := by
  rw [rank, rank, List.take_succ_eq_append_getElem hk, List.count_append,
    List.getD_eq_getElem?_getD, List.getElem?_eq_getElem hk, Option.getD_some]
  cases F[k] <;> rfl

theorem flatMap_getElem (g : Val → List Val) (nn : List Val) (k i : Nat) (hk : k < nn.length)
    (hi : i < (g nn[k]).length) :
    (nn.flatMap g)[((nn.map fun v => (g v).length).take k).sum + i]? = (g nn[k])[i]? := by
  induction nn generalizing k with
  | nil => simp at hk
  | cons x rest ih =>
    cases k with
    | zero =>
      simp only [List.take_zero, List.sum_nil, Nat.zero_add, List.flatMap_cons,
        List.getElem_cons_zero] at hi ⊢
      rw [List.getElem?_append_left hi]
    | succ k =>
      have := ih k (by simpa using hk) (by simpa using hi)
      simp only [List.map_cons, List.take_succ_cons, List.sum_cons, List.flatMap_cons,
        List.getElem_cons_succ]
      rw [List.getElem?_append_right (by omega)]
      rw [show (g x).length + ((rest.map fun v => (g v).length).take k).sum + i - (g x).length =
        ((rest.map fun v => (g v).length).take k).sum + i by omega]
      exact this

/-- a child vector that serialises to the concatenation yields the `k`-th piece at its offsets. -/
theorem mapRange_flatMap (f : Nat → Option Val) (g : Val → List Val) (nn : List Val)
    (hf : ∀ j, j < (nn.flatMap g).length → f j = (nn.flatMap g)[j]?) (k : Nat) (hk : k < nn.length) :
    mapRange f ((nn.map fun v => (g v).length).take k).sum (g nn[k]).length = some (g nn[k]) := by
  apply mapRange_pointwise
  intro i hi
  have hidx := flatMap_getElem g nn k i hk hi
  have hlt : ((nn.map fun v => (g v).length).take k).sum + i < (nn.flatMap g).length := by
    apply Nat.lt_of_not_le
    intro hge
    rw [List.getElem?_eq_none hge, List.getElem?_eq_getElem hi] at hidx
    cases hidx
  rw [hf _ hlt, hidx]

/-- the value a tag map sends slot `s` to. -/
theorem partition_forward {α : Type} (ps : List (Nat × α)) (s : Nat) (hs : s < ps.length) :
    (partitionBy (ps[s]).1 ps)[forwardOf (ps.map (·.1)) s]? = some (ps[s]).2 := by
  induction ps generalizing s with
  | nil => simp at hs
  | cons p rest ih =>
    obtain ⟨t, a⟩ := p
    cases s with
    | zero => simp [forwardOf, partitionBy]
    | succ s =>
      have hs' : s < rest.length := by simpa using hs
      have := ih s hs'
      simp only [List.getElem_cons_succ, List.map_cons, forwardOf, List.take_succ_cons,
        List.getD_eq_getElem?_getD, List.getElem?_cons_succ] at this ⊢
      have hg : (rest.map (·.1))[s]?.getD 0 = (rest[s]).1 := by
        simp [List.getElem?_eq_getElem hs']
      rw [hg] at this ⊢
      rw [partitionBy_cons]
      by_cases ht : t = (rest[s]).1
      · simp only [ht, if_true, List.filter_cons, beq_self_eq_true, List.length_cons,
          List.getElem?_cons_succ]
        exact this
      · have hb : (t == (rest[s]).1) = false := by simpa using ht
        simp only [ht, if_false, List.filter_cons, hb, Bool.false_eq_true]
        exact this

theorem forwardOf_lt {α : Type} (ps : List (Nat × α)) (s : Nat) (hs : s < ps.length) :
    forwardOf (ps.map (·.1)) s < (partitionBy (ps[s]).1 ps).length :=
  (List.getElem?_eq_some_iff.mp (partition_forward ps s hs)).1

end Zed.Vng

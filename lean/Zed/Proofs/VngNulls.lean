import Zed.Model.VngNulls
/-! Run-length nulls.  `nullsFetch` is the meaning of a run vector; `place F xs` (the values at the unset bits of
    `F`) is what both read paths are stated with. -/
namespace Zed.Vng

/-- polarity of the run that follows `rs` when the first run has polarity `pol`. -/
def polAfter (pol : Bool) (rs : List Nat) : Bool := rs.foldl (fun p _ => !p) pol

theorem polAfter_snoc (pol : Bool) (rs : List Nat) (r : Nat) :
    polAfter pol (rs ++ [r]) = !(polAfter pol rs) := by
  simp only [polAfter, List.foldl_append, List.foldl_cons, List.foldl_nil]

theorem nullsFetch_snoc (pol : Bool) (rs : List Nat) (r : Nat) :
    nullsFetch pol (rs ++ [r]) = nullsFetch pol rs ++ List.replicate r (polAfter pol rs) := by
  induction rs generalizing pol with
  | nil => simp only [List.nil_append, nullsFetch, List.append_nil, polAfter, List.foldl_nil]
  | cons a rs ih =>
    simp only [List.cons_append, nullsFetch, ih, List.append_assoc, polAfter, List.foldl_cons]

/-- bits written so far, as the encoder state denotes them. -/
def NullsEnc.bits (s : NullsEnc) : List Bool :=
  nullsFetch false s.runs ++ List.replicate s.run s.null

def NullsEnc.Parity (s : NullsEnc) : Prop := s.null = polAfter false s.runs

theorem NullsEnc.write_spec (s : NullsEnc) (b : Bool) (hp : s.Parity) :
    (s.write b).bits = s.bits ++ [b] ∧ (s.write b).Parity ∧
    (s.write b).count = s.count + (if b then 1 else 0) := by
  unfold NullsEnc.Parity at *
  cases b
  · -- value
    simp only [write, Bool.false_eq_true, if_false, touchValue]
    by_cases hn : s.null = false
    · simp [hn, bits, List.replicate_succ', ← hp]
    · have hn' : s.null = true := by simpa using hn
      simp only [hn', Bool.true_eq_false, if_false, bits, nullsFetch_snoc, ← hp, polAfter_snoc]
      simp
  · simp only [write, if_true, touchNull]
    by_cases hn : s.null = true
    · simp [hn, bits, List.replicate_succ', ← hp]
    · have hn' : s.null = false := by simpa using hn
      simp only [hn', Bool.false_eq_true, if_false, bits, nullsFetch_snoc, ← hp, polAfter_snoc]
      simp

theorem nullsState_spec_aux (bs : List Bool) (s : NullsEnc) (hp : s.Parity) :
    (bs.foldl NullsEnc.write s).bits = s.bits ++ bs ∧ (bs.foldl NullsEnc.write s).Parity ∧
    (bs.foldl NullsEnc.write s).count = s.count + bs.count true := by
  induction bs generalizing s with
  | nil => simp [hp]
  | cons b bs ih =>
    obtain ⟨h1, h2, h3⟩ := s.write_spec b hp
    obtain ⟨i1, i2, i3⟩ := ih (s.write b) h2
    simp only [List.foldl_cons]
    refine ⟨by rw [i1, h1]; simp, i2, ?_⟩
    rw [i3, h3]; cases b <;> simp <;> omega

theorem nullsState_spec (bs : List Bool) :
    nullsFetch false (nullsState bs).finish = bs ∧ (nullsState bs).count = bs.count true := by
  have hp : ({} : NullsEnc).Parity := by simp [NullsEnc.Parity, polAfter]
  obtain ⟨h1, h2, h3⟩ := nullsState_spec_aux bs {} hp
  refine ⟨?_, by simpa [nullsState] using h3⟩
  unfold nullsState NullsEnc.finish
  have hb : (bs.foldl NullsEnc.write {}).bits = bs := by simpa [NullsEnc.bits, nullsFetch] using h1
  by_cases hr : (bs.foldl NullsEnc.write {}).run > 0
  · simp only [hr, if_true, nullsFetch_snoc]
    rw [← h2]; exact hb
  · simp only [hr, if_false]
    have : (bs.foldl NullsEnc.write {}).run = 0 := by omega
    simpa [NullsEnc.bits, this] using hb

theorem nullsFetch_nullsEncode {α : Type} (xs : List (Option α)) :
    nullsFetch false (nullsEncode xs).runs = xs.map Option.isNone := by
  exact (nullsState_spec (xs.map Option.isNone)).1

theorem nullsEncode_count {α : Type} (xs : List (Option α)) :
    (nullsEncode xs).count = (xs.map Option.isNone).count true :=
  (nullsState_spec (xs.map Option.isNone)).2

/-- the values `xs` (one per false slot of `F`) placed at their slots. -/
def place {α : Type} : List Bool → List α → List (Option α)
  | [], _ => []
  | true :: f, xs => none :: place f xs
  | false :: f, x :: xs => some x :: place f xs
  | false :: f, [] => none :: place f []   -- out of values: excluded by `F.count false = xs.length`

theorem nullsAdvance_spec (null : Bool) (run : Nat) (runs : List Nat) (b : Bool) (bs : List Bool)
    (h : List.replicate run null ++ nullsFetch (!null) runs = b :: bs) :
    ∃ run' runs', nullsAdvance null run runs = some (b, run', runs') ∧
      bs = List.replicate run' b ++ nullsFetch (!b) runs' := by
  induction runs generalizing null run with
  | nil =>
    cases run with
    | zero => simp [nullsFetch] at h
    | succ r =>
      simp only [List.replicate_succ, List.cons_append, List.cons.injEq] at h
      obtain ⟨h1, h2⟩ := h
      subst h1
      exact ⟨r, [], rfl, h2.symm⟩
  | cons r rs ih =>
    cases run with
    | zero =>
      simp only [List.replicate_zero, List.nil_append, nullsFetch] at h
      obtain ⟨r', rs', h1, h3⟩ := ih (!null) r (by simpa using h)
      exact ⟨r', rs', by simpa [nullsAdvance] using h1, h3⟩
    | succ q =>
      simp only [List.replicate_succ, List.cons_append, List.cons.injEq] at h
      obtain ⟨h1, h2⟩ := h
      subst h1
      exact ⟨q, r :: rs, rfl, h2.symm⟩

theorem nullsBuild_spec {α : Type} (n : Nat) (null : Bool) (run : Nat) (runs : List Nat)
    (vals : List α) (bs : List Bool)
    (hb : List.replicate run null ++ nullsFetch (!null) runs = bs)
    (hn : n = bs.length) (hv : bs.count false = vals.length) :
    nullsBuild n null run runs vals = some (place bs vals) := by
  induction n generalizing null run runs vals bs with
  | zero =>
    have : bs = [] := List.eq_nil_of_length_eq_zero hn.symm
    subst this; simp [nullsBuild, place]
  | succ n ih =>
    cases bs with
    | nil => simp at hn
    | cons b bs' =>
      obtain ⟨r', rs', h1, h3⟩ := nullsAdvance_spec null run runs b bs' hb
      simp only [nullsBuild, h1]
      cases b with
      | true =>
        simp only [if_true]
        rw [ih true r' rs' vals bs' h3.symm (by simpa using hn) (by simpa using hv)]
        simp [place]
      | false =>
        simp only [Bool.false_eq_true, if_false]
        cases vals with
        | nil => simp at hv
        | cons v vs =>
          simp only
          rw [ih false r' rs' vs bs' h3.symm (by simpa using hn) (by simpa using hv)]
          simp [place]

theorem place_isNone {α : Type} (xs : List (Option α)) :
    place (xs.map Option.isNone) (xs.filterMap id) = xs := by
  induction xs with
  | nil => rfl
  | cons x xs ih => cases x <;> simp [place, ih]

theorem count_true_false (F : List Bool) : F.count true + F.count false = F.length := by
  rw [List.length_eq_countP_add_countP (· == true) (l := F), List.count, List.count]
  congr 1
  exact List.countP_congr fun b _ => by cases b <;> simp

theorem count_isNone {α : Type} (xs : List (Option α)) :
    (xs.map Option.isNone).count true + (xs.filterMap id).length = xs.length ∧
    (xs.map Option.isNone).count false = (xs.filterMap id).length := by
  have h2 : (xs.map Option.isNone).count false = (xs.filterMap id).length := by
    induction xs with
    | nil => rfl
    | cons x xs ih => cases x <;> simp [ih]
  exact ⟨by rw [← h2, count_true_false, List.length_map], h2⟩

theorem nullsEncode_values {α : Type} (xs : List (Option α)) :
    (nullsEncode xs).values = xs.filterMap id := rfl

/-- without a counted null every element is a value. -/
theorem nullsEncode_count_zero {α : Type} (xs : List (Option α)) (h : (nullsEncode xs).count = 0) :
    xs = (xs.filterMap id).map some := by
  rw [nullsEncode_count] at h
  induction xs with
  | nil => rfl
  | cons x xs ih =>
    cases x with
    | none => simp at h
    | some v => simpa using ih (by simpa using h)

theorem nullsDecode_nullsEncode {α : Type} (xs : List (Option α)) :
    nullsDecode (nullsEncode xs) = some xs := by
  unfold nullsDecode
  by_cases h0 : (nullsEncode xs).count = 0
  · rw [if_pos h0, nullsEncode_values, ← nullsEncode_count_zero xs h0]
  · rw [if_neg h0, nullsEncode_values,
      nullsBuild_spec _ true 0 _ _ (xs.map Option.isNone)
        (by simpa [nullsFetch] using nullsFetch_nullsEncode xs)
        (by rw [nullsEncode_count, List.length_map]; exact (count_isNone xs).1) (count_isNone xs).2,
      place_isNone]

end Zed.Vng

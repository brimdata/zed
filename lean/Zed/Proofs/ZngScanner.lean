import Zed.Model.ZngScanner
/-! That a filled slot holds its own item's result (`Inv.filled`) is how `step` is written: `finish k`
    and `control` store `res` of the slot's number.  What is proved is the order of the queue. -/
namespace Zed.Zng.Scanner
variable {R : Type}

/-- queue = the consecutive slot numbers `pulled … next-1`; every filled slot holds its own
    item's result; what was delivered is the results of items `0 … pulled-1` in order. -/
structure Inv (res : Nat → R) (s : State R) : Prop where
  le : s.pulled ≤ s.next
  queue : s.queue = List.range' s.pulled (s.next - s.pulled)
  filled : ∀ k r, lookup k s.filled = some r → r = res k
  delivered : s.delivered = (List.range s.pulled).map res

theorem inv_init (res : Nat → R) (threads : Nat) : Inv res (init threads : State R) :=
  ⟨Nat.le_refl _, by simp [init], by intro k r h; simp [init, lookup] at h, by simp [init]⟩

theorem range'_push {p n : Nat} (h : p ≤ n) :
    List.range' p (n - p) ++ [n] = List.range' p (n + 1 - p) := by
  rw [Nat.succ_sub h, List.range'_concat, Nat.one_mul, Nat.add_sub_cancel' h]

theorem range'_pop {p n k : Nat} {rest : List Nat} (h : List.range' p (n - p) = k :: rest) :
    p < n ∧ k = p ∧ rest = List.range' (p + 1) (n - (p + 1)) := by
  cases hm : n - p with
  | zero => rw [hm] at h; cases h
  | succ m =>
    rw [hm, List.range'_succ] at h
    cases h
    exact ⟨Nat.lt_of_sub_eq_succ hm, rfl, by rw [Nat.sub_succ, hm]; rfl⟩

theorem lookup_cons (k j : Nat) (r : R) (l : List (Nat × R)) (x : R)
    (h : lookup k ((j, r) :: l) = some x) : (j = k ∧ x = r) ∨ lookup k l = some x := by
  simp only [lookup] at h
  split at h
  · left; exact ⟨by assumption, by cases h; rfl⟩
  · right; exact h

theorem filled_cons {res : Nat → R} {l : List (Nat × R)} (hf : ∀ k r, lookup k l = some r → r = res k)
    (j : Nat) : ∀ k r, lookup k ((j, res j) :: l) = some r → r = res k := by
  intro k r h
  rcases lookup_cons k _ _ _ r h with ⟨rfl, rfl⟩ | h2
  · rfl
  · exact hf k r h2

theorem inv_step (res : Nat → R) (isWork : Nat → Bool) (total : Nat) (s s' : State R) (a : Action)
    (hi : Inv res s) (h : step res isWork total s a = some s') : Inv res s' := by
  obtain ⟨hle, hq, hf, hd⟩ := hi
  cases a with
  | dispatch =>
    rw [step] at h
    split at h
    · cases h
      exact ⟨Nat.le_succ_of_le hle, by rw [← range'_push hle, ← hq], hf, hd⟩
    · cases h
  | control =>
    rw [step] at h
    split at h
    · cases h
      exact ⟨Nat.le_succ_of_le hle, by rw [← range'_push hle, ← hq], filled_cons hf _, hd⟩
    · cases h
  | finish k =>
    rw [step] at h
    split at h
    · cases h
      exact ⟨hle, hq, filled_cons hf k, hd⟩
    · cases h
  | pull =>
    rw [step] at h
    split at h
    · cases h
    · rename_i k rest hqe
      split at h
      · cases h
      · rename_i r hl
        cases h
        obtain ⟨hlt, hk, hrest⟩ := range'_pop (hq.symm.trans hqe)
        refine ⟨hlt, hrest, hf, ?_⟩
        show s.delivered ++ [r] = _
        rw [hd, List.range_succ, List.map_append, hf k r hl, hk]; rfl

theorem inv_run (res : Nat → R) (isWork : Nat → Bool) (total : Nat) :
    ∀ (sched : List Action) (s : State R), Inv res s → Inv res (run res isWork total s sched) := by
  intro sched
  induction sched with
  | nil => intro s h; exact h
  | cons a as ih =>
    intro s h
    simp only [run]
    split
    · rename_i s' hs; exact ih s' (inv_step res isWork total s s' a h hs)
    · exact ih s h

end Zed.Zng.Scanner

/-
  What a successful operation of the lake model went through, one lemma per operation, and what all of
  them share (`apply_cases`): data objects written under fresh ids and one commit on one branch, or a
  vacuum, or a new branch pointer.  Hence commits and data objects are only ever appended.
-/
import Zed.Proofs.LakeStore
import Zed.Proofs.LakeScan
namespace Zed.Lake
variable {K V : Type}

theorem setTip_commits (s : State K V) (b t : Nat) : (s.setTip b t).commits = s.commits := rfl
theorem setTip_files (s : State K V) (b t : Nat) : (s.setTip b t).files = s.files := rfl
theorem setTip_nextObj (s : State K V) (b t : Nat) : (s.setTip b t).nextObj = s.nextObj := rfl

theorem commit_commits (s : State K V) (b p : Nat) (acts : List (Action K)) :
    (s.commit b p acts).commits = s.commits ++ [{ parent := p, acts := acts }] := rfl
theorem commit_files (s : State K V) (b p : Nat) (acts : List (Action K)) :
    (s.commit b p acts).files = s.files := rfl
theorem commit_nextObj (s : State K V) (b p : Nat) (acts : List (Action K)) :
    (s.commit b p acts).nextObj = s.nextObj := rfl

theorem snapAt_commit (s : State K V) (b t : Nat) (acts : List (Action K)) (snap : Snap K)
    (h : snapAt s.commits t = .ok snap) :
    snapAt (s.commit b t acts).commits (s.commits.length + 1) = play snap acts := by
  rw [commit_commits, snapAt_new, commitSnap_eq, h]

theorem writeObjs_keeps (cfg : Cfg K V) (s : State K V) (parts : List (List V)) :
    (writeObjs cfg s parts).1.commits = s.commits ∧ (writeObjs cfg s parts).1.branches = s.branches ∧
      ∃ ext, (writeObjs cfg s parts).1.files = s.files ++ ext := by
  induction parts generalizing s with
  | nil => exact ⟨rfl, rfl, [], by simp [writeObjs]⟩
  | cons p ps ih =>
    unfold writeObjs
    split
    · exact ih s
    · obtain ⟨h1, h2, ext, h3⟩ := ih { s with files := s.files ++ [(s.nextObj, p)], nextObj := s.nextObj + 1 }
      exact ⟨h1, h2, (s.nextObj, p) :: ext, by simp only []; rw [h3]; simp⟩

theorem writeObjs_commits (cfg : Cfg K V) (s : State K V) (parts : List (List V)) :
    (writeObjs cfg s parts).1.commits = s.commits := (writeObjs_keeps cfg s parts).1

/-- `setTip` leaves the names alone: a lookup by name finds the rewritten pair where it found the pair -/
theorem find?_setTip (bs : List (Nat × Nat)) (b t b' : Nat) :
    (bs.map fun (n, x) => if n == b then (n, t) else (n, x)).find? (·.1 == b') =
      (bs.find? (·.1 == b')).map fun (n, x) => if n == b then (n, t) else (n, x) := by
  rw [List.find?_map]
  congr 2
  funext ⟨n, x⟩
  simp only [Function.comp]
  split <;> rfl

theorem commit_tip (s : State K V) (b t : Nat) (acts : List (Action K)) (h : (s.tip b).isSome = true) :
    (s.commit b t acts).tip b = some (s.commits.length + 1) := by
  unfold State.tip at h ⊢
  simp only [State.commit, State.setTip, find?_setTip, List.length_append, List.length_singleton]
  cases hf : s.branches.find? (·.1 == b) with
  | none => rw [hf] at h; cases h
  | some x =>
    have hn : (x.1 == b) = true := by have := List.find?_some hf; exact this
    simp only [Option.map_some, hn, if_true]

theorem commit_tip_other (s : State K V) (b b' t : Nat) (acts : List (Action K)) (h : b' ≠ b) :
    (s.commit b t acts).tip b' = s.tip b' := by
  unfold State.tip
  simp only [State.commit, State.setTip, find?_setTip]
  cases hf : s.branches.find? (·.1 == b') with
  | none => rfl
  | some x =>
    have hn : x.1 = b' := by simpa using List.find?_some hf
    have hne : (x.1 == b) = false := by rw [hn]; simpa using h
    simp only [Option.map_some, hne, Bool.false_eq_true, if_false]

theorem tip_append (s : State K V) (x : Nat × Nat) (b t : Nat) (h : s.tip b = some t) :
    ({ s with branches := s.branches ++ [x] } : State K V).tip b = some t := by
  unfold State.tip at h ⊢
  simp only [List.find?_append]
  cases hf : s.branches.find? (·.1 == b) with
  | none => rw [hf] at h; cases h
  | some y => rw [hf] at h; exact h

/-- splits every match in `h` -/
macro "opsplit " h:ident : tactic => `(tactic| (
  repeat' split at $h:ident
  all_goals (try simp only [] at $h:ident)
  all_goals (repeat' split at $h:ident)
  all_goals (try simp only [] at $h:ident)
  all_goals (try cases $h:ident)))

/-- commits are only appended (at most one per operation), data objects are only added -/
def Extends (s s' : State K V) : Prop :=
  (s'.commits = s.commits ∨ ∃ x, s'.commits = s.commits ++ [x]) ∧
  (∃ ext, s'.files = s.files ++ ext)

theorem Extends.refl (s : State K V) : Extends s s := ⟨Or.inl rfl, [], by simp⟩

/-- `s'` is `s` (up to new data objects) with one commit made on branch `b` -/
def CommitsOn (s s' : State K V) (b : Nat) : Prop :=
  ∃ (s1 : State K V) (t : Nat) (acts : List (Action K)), s1.branches = s.branches ∧ s1.commits = s.commits ∧
    s.tip b = some t ∧ s' = s1.commit b t acts

/-- writing data objects and then committing: the shape of every operation but vacuum and
    branch creation (`parts = []` for those that write nothing) -/
theorem commit_written (cfg : Cfg K V) {s s1 : State K V} {parts : List (List V)} {objs : List (Obj K)}
    (hw : writeObjs cfg s parts = (s1, objs)) {b t : Nat} (ht : s.tip b = some t) (acts : List (Action K)) :
    Extends s (s1.commit b t acts) ∧ CommitsOn s (s1.commit b t acts) b := by
  have e : s1 = (writeObjs cfg s parts).1 := by rw [hw]
  have hc : s1.commits = s.commits := e ▸ writeObjs_commits cfg s parts
  refine ⟨⟨Or.inr ⟨{ parent := t, acts := acts }, by rw [commit_commits, hc]⟩, ?_⟩,
    s1, t, acts, e ▸ (writeObjs_keeps cfg s parts).2.1, hc, ht, rfl⟩
  rw [commit_files, e]
  exact (writeObjs_keeps cfg s parts).2.2

theorem CommitsOn.tip (s s' : State K V) (b : Nat) (h : CommitsOn s s' b) :
    s'.tip b = some (s.commits.length + 1) ∧ ∀ b', b' ≠ b → s'.tip b' = s.tip b' := by
  obtain ⟨s1, t, acts, hb, hc, ht, rfl⟩ := h
  have hs1 : ∀ x, s1.tip x = s.tip x := by intro x; unfold State.tip; rw [hb]
  refine ⟨?_, ?_⟩
  · rw [commit_tip s1 b t acts (by rw [hs1, ht]; rfl), hc]
  · intro b' hne
    rw [commit_tip_other s1 b b' t acts hne, hs1]

theorem checkIds_none (f : Nat → Option Err) (ids : List Nat) (h : checkIds f ids = none) :
    ∀ i ∈ ids, f i = none := by
  induction ids with
  | nil => simp
  | cons x xs ih =>
    simp only [checkIds] at h
    cases hx : f x with
    | some e => simp [hx] at h
    | none =>
      simp only [hx] at h
      intro i hi
      simp only [List.mem_cons] at hi
      rcases hi with h1 | h1
      · subst h1; exact hx
      · exact ih h i h1

section ops
variable [DecidableEq V] {cfg : Cfg K V} {s s' : State K V} {b : Nat} {parts : List (List V)}

theorem validParts_perm {vals : List V} (h : validParts cfg vals parts = true) : parts.flatten.Perm vals :=
  List.isPerm_iff.mp (Bool.and_eq_true_iff.mp h).2

theorem validParts_sorted {vals : List V} (h : validParts cfg vals parts = true) :
    ∀ p ∈ parts, p ≠ [] ∧ isSorted cfg p = true := fun p hp => by
  have := List.all_eq_true.mp (Bool.and_eq_true_iff.mp h).1 p hp
  simp only [Bool.and_eq_true, Bool.not_eq_true', List.isEmpty_eq_false_iff] at this
  exact this

theorem load_ok {vals : List V} (h : load cfg s b vals parts = .ok s') :
    ∃ t s1 objs, s.tip b = some t ∧ writeObjs cfg s parts = (s1, objs) ∧
      parts.Perm ((chunk cfg vals).map (sortVals cfg)) ∧ s' = s1.commit b t (objs.map .add) := by
  -- every leaf of the operation but one returns an error, which `h` rules out; the leaf that is left
  -- comes with the conditions on the way to it (the same for every `_ok` lemma)
  revert h
  fun_cases load cfg s b vals parts <;> intro h <;> cases h
  case case4 t ht _ hperm s1 objs hw =>
    exact ⟨t, s1, objs, ht, hw, List.isPerm_iff.mp (by simpa using hperm), rfl⟩

omit [DecidableEq V] in
theorem delete_ok {ids : List Nat} (h : delete s b ids = .ok s') :
    ∃ t snap, s.tip b = some t ∧ snapAt s.commits t = .ok snap ∧
      (∀ id ∈ uniqueIds ids, snap.hasObj id = true) ∧ s' = s.commit b t ((uniqueIds ids).map .del) := by
  revert h
  fun_cases delete s b ids <;> intro h <;> cases h
  case case3 _ t ht snap hs hall => exact ⟨t, snap, ht, hs, List.all_eq_true.mp hall, rfl⟩

theorem deleteWhere_ok {keep : V → Bool} (h : deleteWhere cfg s b keep parts = .ok s') :
    ∃ t snap ids kept s1 objs p1 p2, s.tip b = some t ∧ snapAt s.commits t = .ok snap ∧
      deleterScan s.files keep (lister cfg snap.objs) = .ok (ids, kept) ∧
      validParts cfg kept parts = true ∧ writeObjs cfg s parts = (s1, objs) ∧
      delAll (Patch.new (.snap snap)) ids = .ok p1 ∧ addAll p1 objs = .ok p2 ∧
      s' = s1.commit b t p2.commitActions := by
  revert h
  fun_cases deleteWhere cfg s b keep parts <;> intro h <;> cases h
  case case8 t ht snap hs ids kept hscan _ hvalid s1 objs hw p1 hp1 p2 hp2 =>
    exact ⟨t, snap, ids, kept, s1, objs, p1, p2, ht, hs, hscan, by simpa using hvalid, hw, hp1, hp2, rfl⟩

theorem compact_ok {ids : List Nat} {vec : Bool} (h : compact cfg s b ids vec parts = .ok s') :
    ∃ t snap merged s1 objs p1 p2 p3, s.tip b = some t ∧ snapAt s.commits t = .ok snap ∧
      scanObjs cfg s.files (snap.objs.filter fun o => ids.contains o.id) = .ok merged ∧
      validParts cfg merged parts = true ∧ writeObjs cfg s parts = (s1, objs) ∧
      addAll (Patch.new (.snap snap)) objs = .ok p1 ∧
      addVecAll p1 (if vec then objs.map (·.id) else []) = .ok p2 ∧
      delAll p2 ((snap.objs.filter fun o => ids.contains o.id).map (·.id)) = .ok p3 ∧
      s' = s1.commit b t p3.commitActions := by
  revert h
  fun_cases compact cfg s b ids vec parts <;> intro h <;> cases h
  case case10 _ t ht snap hs _ src merged hscan hvalid s1 objs hw p1 hp1 p2 hp2 p3 hp3 =>
    have hv : (validParts cfg merged parts && isSorted cfg parts.flatten && validCuts cfg parts) = true := by
      simpa using hvalid
    simp only [Bool.and_eq_true] at hv
    exact ⟨t, snap, merged, s1, objs, p1, p2, p3, ht, hs, hscan, hv.1.1, hw, hp1, hp2, hp3, rfl⟩

omit [DecidableEq V] in
theorem addVectorsOf_ok {ids : List Nat} (h : addVectorsOf s b ids = .ok s') :
    ∃ t snap, s.tip b = some t ∧ snapAt s.commits t = .ok snap ∧
      (∀ i ∈ ids, snap.hasObj i = true ∧ snap.hasVec i = false) ∧
      s' = s.commit b t (ids.map .addVec) := by
  revert h
  fun_cases addVectorsOf s b ids <;> intro h <;> cases h
  case case5 t ht _ snap hs hchk =>
    refine ⟨t, snap, ht, hs, fun i hi => ?_, rfl⟩
    have := checkIds_none _ ids hchk i hi
    cases ho : snap.hasObj i <;> cases hv : snap.hasVec i <;> simp [ho, hv] at this ⊢

omit [DecidableEq V] in
theorem deleteVectorsOf_ok {ids : List Nat} (h : deleteVectorsOf s b ids = .ok s') :
    ∃ t snap, s.tip b = some t ∧ snapAt s.commits t = .ok snap ∧
      (∀ i ∈ ids, snap.hasObj i = true ∧ snap.hasVec i = true) ∧
      s' = s.commit b t (ids.map .delVec) := by
  revert h
  fun_cases deleteVectorsOf s b ids <;> intro h <;> cases h
  case case4 t ht snap hs hchk =>
    refine ⟨t, snap, ht, hs, fun i hi => ?_, rfl⟩
    have := checkIds_none _ ids hchk i hi
    cases ho : snap.hasObj i <;> cases hv : snap.hasVec i <;> simp [ho, hv] at this ⊢

theorem mergeActions_ok {cs : List (Commit K)} {ctip ptip : Nat} {acts : List (Action K)}
    (h : mergeActions cs ctip ptip = .ok acts) :
    commonAncestor (pathAt cs ptip) (pathAt cs ctip) ≠ 0 ∧
    ∃ base pc pp d, snapAt cs (commonAncestor (pathAt cs ptip) (pathAt cs ctip)) = .ok base ∧
      patchOfPath cs base (commonAncestor (pathAt cs ptip) (pathAt cs ctip)) ctip = .ok pc ∧
      patchOfPath cs base (commonAncestor (pathAt cs ptip) (pathAt cs ctip)) ptip = .ok pp ∧
      diff pp pc = .ok d ∧ acts = d.commitActions := by
  revert h
  fun_cases mergeActions cs ctip ptip <;> intro h <;> cases h
  case case7 _ _ hanc base hb pc hc pp hp d hd => exact ⟨hanc, base, pc, pp, d, hb, hc, hp, hd, rfl⟩

omit [DecidableEq V] in
theorem merge_ok {child parent : Nat} (h : merge s child parent = .ok s') :
    ∃ ctip ptip acts, s.tip child = some ctip ∧ s.tip parent = some ptip ∧
      mergeActions s.commits ctip ptip = .ok acts ∧ s' = s.commit parent ptip acts := by
  revert h
  fun_cases merge s child parent <;> intro h <;> cases h
  case case2 ctip ptip hp hc acts ha => exact ⟨ctip, ptip, acts, hc, hp, ha, rfl⟩

theorem patchOfCommit_ok {cs : List (Commit K)} {c : Nat} {p : Patch K} (h : patchOfCommit cs c = .ok p) :
    ∃ co base, getCommit cs c = some co ∧ snapAt cs co.parent = .ok base ∧
      (Patch.new (.snap base)).play co.acts = .ok p := by
  revert h
  fun_cases patchOfCommit cs c <;> intro h
  case case1 => cases h
  case case2 => cases h
  case case3 co hco base hb => exact ⟨co, base, hco, hb, h⟩

omit [DecidableEq V] in
theorem revert_ok {c : Nat} (h : revert s b c = .ok s') :
    ∃ t patch tipSnap acts, s.tip b = some t ∧ patchOfCommit s.commits c = .ok patch ∧
      snapAt s.commits t = .ok tipSnap ∧ patch.revert tipSnap = .ok acts ∧ s' = s.commit b t acts := by
  revert h
  fun_cases revert s b c <;> intro h <;> cases h
  case case5 t ht patch hp tipSnap hs acts hr => exact ⟨t, patch, tipSnap, acts, ht, hp, hs, hr, rfl⟩

omit [DecidableEq V] in
theorem vacuum_ok {c : Nat} (h : vacuum s c = .ok s') :
    ∃ snap, snapAt s.commits c = .ok snap ∧
      s' = { s with files := s.files.filter fun f =>
        !((addedIds (pathActions s.commits ((pathAt s.commits c).drop 1))).filter
            (fun i => !snap.hasObj i)).contains f.1 } := by
  revert h
  unfold vacuum
  fun_cases vacuumable s c <;> intro h <;> cases h
  case case2 snap hs _ => exact ⟨snap, hs, rfl⟩

omit [DecidableEq V] in
/-- vacuuming commit `c` removes no data object of `c`'s own snapshot -/
theorem vacuum_keeps (s s' : State K V) (c : Nat) (snap : Snap K) (h : vacuum s c = .ok s')
    (hs : snapAt s.commits c = .ok snap) (id : Nat) (hin : snap.hasObj id = true) :
    fileOf s'.files id = fileOf s.files id := by
  obtain ⟨snap0, hs0, rfl⟩ := vacuum_ok h
  rw [hs] at hs0; cases hs0
  rw [fileOf_filter_id s.files (fun i => !(List.filter _ _).contains i)]
  have : ((addedIds (pathActions s.commits ((pathAt s.commits c).drop 1))).filter
      (fun i => !snap.hasObj i)).contains id = false := by
    rw [Bool.eq_false_iff]
    intro hc
    have := (List.mem_filter.mp (List.contains_iff_mem.mp hc)).2
    rw [hin] at this; cases this
  simp only [this, Bool.not_false, if_true]

omit [DecidableEq V] in
theorem createBranch_ok {n p : Nat} (h : createBranch s n p = .ok s') :
    s.tip n = none ∧ s' = { s with branches := s.branches ++ [(n, p)] } := by
  revert h
  fun_cases createBranch s n p <;> intro h <;> cases h
  case case3 hn _ => exact ⟨by simpa using hn, rfl⟩

/-- what every operation does: writes, then one commit on one branch | vacuum | new branch pointer -/
theorem apply_cases {op : Op V} (h : apply cfg s op = .ok s') :
    (∃ b t parts s1 objs acts, s.tip b = some t ∧ writeObjs cfg s parts = (s1, objs) ∧
      s' = s1.commit b t acts) ∨
    (∃ c, op = .vacuum c ∧ vacuum s c = .ok s') ∨
    (∃ n p, s.tip n = none ∧ s' = { s with branches := s.branches ++ [(n, p)] }) := by
  cases op with
  | load b vals parts =>
    obtain ⟨t, s1, objs, ht, hw, _, e⟩ := load_ok h
    exact Or.inl ⟨b, t, parts, s1, objs, _, ht, hw, e⟩
  | delete b ids =>
    obtain ⟨t, _, ht, _, _, e⟩ := delete_ok h
    exact Or.inl ⟨b, t, [], s, [], _, ht, rfl, e⟩
  | deleteWhere b keep parts =>
    obtain ⟨t, _, _, _, s1, objs, _, _, ht, _, _, _, hw, _, _, e⟩ := deleteWhere_ok h
    exact Or.inl ⟨b, t, parts, s1, objs, _, ht, hw, e⟩
  | compact b ids vec parts =>
    obtain ⟨t, _, _, s1, objs, _, _, _, ht, _, _, _, hw, _, _, _, e⟩ := compact_ok h
    exact Or.inl ⟨b, t, parts, s1, objs, _, ht, hw, e⟩
  | addVectors b ids =>
    obtain ⟨t, _, ht, _, _, e⟩ := addVectorsOf_ok (show addVectorsOf s b (uniqueIds ids) = .ok s' from h)
    exact Or.inl ⟨b, t, [], s, [], _, ht, rfl, e⟩
  | deleteVectors b ids =>
    obtain ⟨t, _, ht, _, _, e⟩ := deleteVectorsOf_ok (show deleteVectorsOf s b (uniqueIds ids) = .ok s' from h)
    exact Or.inl ⟨b, t, [], s, [], _, ht, rfl, e⟩
  | vacuum c => exact Or.inr (Or.inl ⟨c, rfl, h⟩)
  | createBranch n p => exact Or.inr (Or.inr ⟨n, p, createBranch_ok h⟩)
  | merge c p =>
    obtain ⟨_, t, _, _, ht, _, e⟩ := merge_ok h
    exact Or.inl ⟨p, t, [], s, [], _, ht, rfl, e⟩
  | revert b c =>
    obtain ⟨t, _, _, _, ht, _, _, _, e⟩ := revert_ok h
    exact Or.inl ⟨b, t, [], s, [], _, ht, rfl, e⟩

end ops

variable [DecidableEq V]

/-! ### which branch pointer an operation moves -/

theorem load_on (cfg : Cfg K V) (s s' : State K V) (b : Nat) (vals : List V) (parts : List (List V))
    (h : load cfg s b vals parts = .ok s') : CommitsOn s s' b := by
  obtain ⟨t, s1, objs, ht, hw, _, rfl⟩ := load_ok h
  exact (commit_written cfg hw ht _).2

omit [DecidableEq V] in
theorem delete_on (s s' : State K V) (b : Nat) (ids : List Nat)
    (h : delete s b ids = .ok s') : CommitsOn s s' b := by
  obtain ⟨t, _, ht, _, _, rfl⟩ := delete_ok h
  exact ⟨s, t, _, rfl, rfl, ht, rfl⟩

theorem deleteWhere_on (cfg : Cfg K V) (s s' : State K V) (b : Nat) (keep : V → Bool) (parts : List (List V))
    (h : deleteWhere cfg s b keep parts = .ok s') : CommitsOn s s' b := by
  obtain ⟨t, _, _, _, s1, objs, _, _, ht, _, _, _, hw, _, _, rfl⟩ := deleteWhere_ok h
  exact (commit_written cfg hw ht _).2

theorem compact_on (cfg : Cfg K V) (s s' : State K V) (b : Nat) (ids : List Nat) (vec : Bool) (parts : List (List V))
    (h : compact cfg s b ids vec parts = .ok s') : CommitsOn s s' b := by
  obtain ⟨t, _, _, s1, objs, _, _, _, ht, _, _, _, hw, _, _, _, rfl⟩ := compact_ok h
  exact (commit_written cfg hw ht _).2

omit [DecidableEq V] in
theorem addVectors_on (s s' : State K V) (b : Nat) (ids : List Nat)
    (h : addVectors s b ids = .ok s') : CommitsOn s s' b := by
  obtain ⟨t, _, ht, _, _, rfl⟩ := addVectorsOf_ok (show addVectorsOf s b (uniqueIds ids) = .ok s' from h)
  exact ⟨s, t, _, rfl, rfl, ht, rfl⟩

omit [DecidableEq V] in
theorem deleteVectors_on (s s' : State K V) (b : Nat) (ids : List Nat)
    (h : deleteVectors s b ids = .ok s') : CommitsOn s s' b := by
  obtain ⟨t, _, ht, _, _, rfl⟩ := deleteVectorsOf_ok (show deleteVectorsOf s b (uniqueIds ids) = .ok s' from h)
  exact ⟨s, t, _, rfl, rfl, ht, rfl⟩

omit [DecidableEq V] in
theorem merge_on (s s' : State K V) (c p : Nat) (h : merge s c p = .ok s') : CommitsOn s s' p := by
  obtain ⟨_, t, _, _, ht, _, rfl⟩ := merge_ok h
  exact ⟨s, t, _, rfl, rfl, ht, rfl⟩

omit [DecidableEq V] in
theorem revert_on (s s' : State K V) (b c : Nat) (h : revert s b c = .ok s') : CommitsOn s s' b := by
  obtain ⟨t, _, _, _, ht, _, _, _, rfl⟩ := revert_ok h
  exact ⟨s, t, _, rfl, rfl, ht, rfl⟩

def Op.isVacuum : Op V → Bool
  | .vacuum _ => true
  | _ => false

theorem apply_extends (cfg : Cfg K V) (s s' : State K V) (op : Op V) (hv : op.isVacuum = false)
    (h : apply cfg s op = .ok s') : Extends s s' := by
  rcases apply_cases h with ⟨b, t, parts, s1, objs, acts, ht, hw, rfl⟩ | ⟨c, rfl, _⟩ | ⟨n, p, _, rfl⟩
  · exact (commit_written cfg hw ht acts).1
  · cases hv
  · exact Extends.refl s

theorem apply_shape (cfg : Cfg K V) (s s' : State K V) (op : Op V) (h : apply cfg s op = .ok s') :
    (∃ b, CommitsOn s s' b) ∨
    (s'.commits = s.commits ∧ ∀ b t, s.tip b = some t → s'.tip b = some t) := by
  rcases apply_cases h with ⟨b, t, parts, s1, objs, acts, ht, hw, rfl⟩ | ⟨c, rfl, hv⟩ | ⟨n, p, _, rfl⟩
  · exact Or.inl ⟨b, (commit_written cfg hw ht acts).2⟩
  · obtain ⟨snap, _, rfl⟩ := vacuum_ok hv
    exact Or.inr ⟨rfl, fun b t ht => ht⟩
  · refine Or.inr ⟨rfl, fun b t ht => ?_⟩
    exact tip_append s _ b t ht

theorem step_commits (cfg : Cfg K V) (s : State K V) (op : Op V) :
    (step cfg s op).commits = s.commits ∨ ∃ x, (step cfg s op).commits = s.commits ++ [x] := by
  unfold step
  split
  · rename_i s' h
    rcases apply_shape cfg s s' op h with ⟨b, s1, t, acts, _, hc, _, rfl⟩ | ⟨hc, _⟩
    · exact Or.inr ⟨_, by rw [commit_commits, hc]⟩
    · exact Or.inl hc
  · exact Or.inl rfl

theorem step_commits_le (cfg : Cfg K V) (s : State K V) (op : Op V) :
    s.commits.length ≤ (step cfg s op).commits.length := by
  rcases step_commits cfg s op with h | ⟨x, h⟩ <;> rw [h] <;> simp

theorem run_induction (cfg : Cfg K V) {P : State K V → Prop} (ops : List (Op V)) {s : State K V} (h0 : P s)
    (hstep : ∀ r, P r → ∀ op ∈ ops, P (step cfg r op)) : P (run cfg s ops) :=
  List.foldlRecOn ops (step cfg) h0 hstep

/-- commit `c` is on the parent chain of branch `b`'s tip -/
def OnChain (s : State K V) (b c : Nat) : Prop := ∃ t, s.tip b = some t ∧ c ∈ pathAt s.commits t

omit [DecidableEq V] in
/-- the commit an operation makes on `b` is `b`'s new tip, on top of the old tip's chain -/
theorem CommitsOn.chain (s s' : State K V) (b : Nat) (h : CommitsOn s s' b) :
    ∃ t, s.tip b = some t ∧ s'.tip b = some (s.commits.length + 1) ∧
      pathAt s'.commits (s.commits.length + 1) = (s.commits.length + 1) :: pathAt s.commits t := by
  have htip := (h.tip).1
  obtain ⟨s1, t, acts, _, hc, ht, rfl⟩ := h
  refine ⟨t, ht, htip, ?_⟩
  rw [commit_commits, hc, pathAt_new]
  rfl

theorem step_onChain (cfg : Cfg K V) (s : State K V) (op : Op V) (b c : Nat) (h : OnChain s b c) :
    OnChain (step cfg s op) b c := by
  unfold step
  split
  · rename_i s' ha
    obtain ⟨t, ht, hm⟩ := h
    have hle := mem_pathAt_le _ _ _ hm
    rcases apply_shape cfg s s' op ha with ⟨b', hon⟩ | ⟨hcm, htips⟩
    · by_cases hb : b' = b
      · subst hb
        obtain ⟨t0, ht0, h1, h2⟩ := hon.chain
        rw [ht] at ht0; cases ht0
        exact ⟨_, h1, by rw [h2]; exact List.mem_cons_of_mem _ hm⟩
      · refine ⟨t, by rw [(hon.tip).2 b (fun h => hb h.symm)]; exact ht, ?_⟩
        obtain ⟨s1, t1, acts, _, hc, _, rfl⟩ := hon
        rw [commit_commits, hc, pathAt_append _ _ _ hle]; exact hm
    · exact ⟨t, htips b t ht, by rw [hcm]; exact hm⟩
  · exact h

/-- an acknowledged commit stays on its branch's parent chain under every later history -/
theorem run_onChain (cfg : Cfg K V) (s : State K V) (ops : List (Op V)) (b c : Nat) (h : OnChain s b c) :
    OnChain (run cfg s ops) b c :=
  run_induction cfg ops h fun r hr op _ => step_onChain cfg r op b c hr

end Zed.Lake

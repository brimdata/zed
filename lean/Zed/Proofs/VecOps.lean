import Zed.Model.VecOps
import Zed.Proofs.VngPrimitive
import Zed.Proofs.VecLoad
/-! The vector aggregates on null-free primitive columns (C09): what an operator receives is a match on
    `primEncode`, so by `primEncode_spec` it sees the values themselves or their count map `hist xs`. -/
namespace Zed.Vec
open Zed.Vng Zed.Generated.C09

theorem tblAdd_eq_incr : tblAdd = incr := by
  funext t k n
  fun_induction tblAdd t k n <;> simp [incr, *]

theorem rowAdd_eq_incr (t : List Row) (k : Ty × Val) : rowAdd t k = incr t k 1 := by
  fun_induction rowAdd t k <;> simp [incr, *]

theorem cnt_eq_tot (rows : List Row) (k : Ty × Val) : cnt rows k = tot rows k := by
  induction rows with
  | nil => rfl
  | cons e r ih =>
    obtain ⟨a, c⟩ := e
    rw [tot, ← ih]; unfold cnt
    by_cases h : a = k <;> simp [h]

theorem RowsAgree.of_counts {a b : List Row} {ys : List (Ty × Val)}
    (ha : Counts a ys) (hb : Counts b ys) : RowsAgree a b :=
  ⟨⟨ha.nodup, ha.pos⟩, ⟨hb.nodup, hb.pos⟩, fun k => by rw [cnt_eq_tot, cnt_eq_tot, ha.look, hb.look]⟩

theorem fieldVec_prim (id : Nat) (vs : List Val) (hid : id ≠ 29) :
    fieldVec (.col (.prim id) vs) =
      match primEncode id true ((nonNull vs).map Val.primBytes) with
      | .const v _ => .const id v vs.length
      | .dict es _ _ => .dict (kindOfPrim id) es vs.length
      | .plain _ _ => .flat (kindOfPrim id) (vs.map optBytes) := by
  simp only [fieldVec, hid, if_false, netAllocated_true, Bool.true_eq_false, and_false]
  rfl

theorem fieldVec_primCol (id : Nat) (xs : List Bytes) (hid : id ≠ 29) :
    fieldVec (.col (.prim id) (xs.map Val.prim)) =
      match primEncode id true xs with
      | .const v _ => .const id v xs.length
      | .dict es _ _ => .dict (kindOfPrim id) es xs.length
      | .plain _ _ => .flat (kindOfPrim id) (xs.map some) := by
  have h1 : nonNull (xs.map Val.prim) = xs.map Val.prim := by
    simp only [nonNull, List.filterMap_map, Function.comp_def, Val.toOpt]
    exact congrFun List.filterMap_eq_map xs
  have h2 : (xs.map Val.prim).map Val.primBytes = xs := by
    simp only [List.map_map, Function.comp_def, Val.primBytes, List.map_id']
  have h3 : (xs.map Val.prim).map optBytes = xs.map some := by
    simp only [List.map_map, Function.comp_def, optBytes]
  rw [fieldVec_prim id _ hid, h1, h2, h3, List.length_map]

/-- a string column without nulls. -/
def strCol (xs : List Bytes) : FCol := .col strTy (xs.map Val.prim)

theorem seqCountBy_strCol (xs : List Bytes) :
    Counts (seqCountBy (strCol xs).values) (xs.map fun x => (strTy, Val.prim x)) := by
  have e : seqCountBy (strCol xs).values =
      (xs.map fun x => (strTy, Val.prim x)).foldl (fun t x => incr t x 1) [] := by
    simp only [seqCountBy, strCol, FCol.values, List.map_map, List.foldl_map, Function.comp_def,
      seqKey, rowAdd_eq_incr]
  rw [e]; exact Counts.ofList _

theorem tblSet_new (t : List (Bytes × Nat)) (k : Bytes) (n : Nat) (h : k ∉ t.map (·.1)) :
    tblSet t k n = t ++ [(k, n)] := by
  fun_induction tblSet t k n
  case case1 => rfl
  case case2 c r k n => exact absurd List.mem_cons_self h
  case case3 a c r k n _ ih => rw [ih fun hm => h (List.mem_cons_of_mem _ hm)]; rfl

theorem foldl_tblSet (es t : List (Bytes × Nat)) (h : ((t ++ es).map (·.1)).Nodup) :
    es.foldl (fun t e => tblSet t e.1 e.2) t = t ++ es := by
  induction es generalizing t with
  | nil => simp
  | cons e es ih =>
    have hne : e.1 ∉ t.map (·.1) := fun hm => by
      simp only [List.map_append, List.map_cons] at h
      exact (List.nodup_append.mp h).2.2 _ hm _ List.mem_cons_self rfl
    rw [List.foldl_cons, tblSet_new t e.1 e.2 hne, ih (t ++ [e]) (by simpa using h)]
    simp

theorem kindOfPrim_string : kindOfPrim 25 = "String" := by decide +kernel

theorem dictUpd_eq_tblSet : dictUpd = tblSet := by
  funext t k n; simp [dictUpd, countDictUpdates]

theorem cbRun_one (c : FCol) : cbRun [[c]] = cbUpdate {} (fieldVec c) := by
  simp only [cbRun, List.flatten_cons, List.flatten_nil, List.append_nil, List.map_cons, List.map_nil,
    List.foldlM_cons, List.foldlM_nil, bind_pure]

theorem cbUpdate_flat (s : CBState) (k : String) (vals : List (Option Bytes))
    (hk : countByKinds.contains k = true) :
    cbUpdate s (.flat k vals) =
      .ok { s with table := vals.foldl (fun t x => tblAdd t (x.getD []) 1) s.table } := by
  show (if !(countByKinds.contains k) then _ else _) = _
  rw [hk]; rfl

theorem cbUpdate_const (s : CBState) (id j : Nat) (v : Bytes) (n : Nat)
    (hid : countFixedIDs.find? (·.1 == id) = some (j, "table")) :
    cbUpdate s (.const id v n) = .ok { s with table := tblAdd s.table v n } := by
  have e : cbUpdate s (.const id v n) =
      match countFixedIDs.find? (·.1 == id) with
      | some (_, "table") => .ok { s with table := tblAdd s.table v n }
      | some (_, "nulls") => .ok { s with nulls := s.nulls + n }
      | _ => .ok s := rfl
  rw [e, hid]; rfl

theorem cbUpdate_dict (s : CBState) (es : List (Bytes × Nat)) (n : Nat) :
    cbUpdate s (.dict "String" es n) =
      .ok { s with table := es.foldl (fun t e => tblSet t e.1 e.2) s.table } := by
  have e : cbUpdate s (.dict "String" es n) =
      .ok { s with table := es.foldl (fun t e => dictUpd t e.1 e.2) s.table } := rfl
  rw [e, dictUpd_eq_tblSet]

/-- vector side: one string column without nulls is counted exactly, whatever its encoding -/
theorem cbRun_strCol (xs : List Bytes) :
    ∃ s, cbRun [[strCol xs]] = .ok s ∧ s.nulls = 0 ∧ Counts s.table xs := by
  rw [cbRun_one, strCol, strTy, fieldVec_primCol 25 xs (by decide), kindOfPrim_string]
  have hc := hist_counts xs
  rcases primEncode_spec 25 true xs with h | ⟨v, c, hv, h⟩ | ⟨-, h⟩ <;> simp only [h]
  · refine ⟨_, cbUpdate_flat _ _ _ (by decide), rfl, ?_⟩
    simp only [List.foldl_map, Option.getD_some, tblAdd_eq_incr]
    exact Counts.ofList xs
  · rw [hv] at hc
    have hn : xs.length > 0 := List.length_pos_iff.mpr fun e => by rw [e] at hv; cases hv
    refine ⟨_, cbUpdate_const _ 25 25 _ _ (by decide), rfl, ?_⟩
    have := Counts.nil.add v hn
    rwa [List.nil_append, ← hc.eq_replicate, ← tblAdd_eq_incr] at this
  · refine ⟨_, cbUpdate_dict _ _ _, rfl, ?_⟩
    simp only [foldl_tblSet (hist xs) [] hc.nodup, List.nil_append]
    exact hc

theorem fieldVec_aba : fieldVec (strCol [[97], [98], [97]]) = .dict "String" [([97], 2), ([98], 1)] 3 := by
  rw [strCol, strTy, fieldVec_prim 25 _ (by decide), kindOfPrim_string]; decide +kernel

/-- Σ val(entry) · count over a count map. -/
def wsum (val : Bytes → Int) (d : List (Bytes × Nat)) : Int := (d.map fun e => val e.1 * e.2).sum

theorem wsum_incr (val : Bytes → Int) (d : List (Bytes × Nat)) (x : Bytes) (n : Nat) :
    wsum val (incr d x n) = wsum val d + val x * n := by
  fun_induction incr d x n
  case case1 => simp [wsum]
  case case2 c r x n => simp only [wsum, List.map_cons, List.sum_cons, Int.natCast_add, Int.mul_add]; omega
  case case3 a c r x n h ih => unfold wsum at ih ⊢; simp only [List.map_cons, List.sum_cons, ih]; omega

theorem wsum_hist (val : Bytes → Int) (xs : List Bytes) : wsum val (hist xs) = (xs.map val).sum :=
  Zed.Proofs.ListLift.foldl_invariant (step := dictIncr) (I := fun d pre _ => wsum val d = (pre.map val).sum)
    (fun d pre x _ h => by rw [dictIncr_eq_incr, wsum_incr, h]; simp) xs (st := []) (xs := []) (ys := []) rfl

theorem foldl_add {α : Type} (g : α → Int) (l : List α) (acc : Int) :
    l.foldl (fun a x => a + g x) acc = acc + (l.map g).sum := by
  induction l generalizing acc with
  | nil => simp
  | cons x l ih => rw [List.foldl_cons, ih, List.map_cons, List.sum_cons, Int.add_assoc]

theorem sumUpdate_flat (val : Bytes → Int) (acc : Int) (k : String) (vals : List (Option Bytes))
    (hk : sumKinds.contains k = true) :
    sumUpdate val acc (.flat k vals) = .ok (vals.foldl (fun a x => a + (x.map val).getD 0) acc) := by
  show (if !(sumKinds.contains k) then _ else _) = _
  rw [hk]; rfl

theorem sumUpdate_dict (val : Bytes → Int) (acc : Int) (k : String) (es : List (Bytes × Nat)) (n : Nat)
    (hk : sumDictKinds.contains k = true) :
    sumUpdate val acc (.dict k es n) = .ok (es.foldl (fun a e => a + val e.1 * e.2) acc) := by
  have : sumUpdate val acc (.dict k es n) = if sumDictKinds.contains k
      then .ok (es.foldl (fun a e => a + val e.1 * e.2) acc) else .ok acc := rfl
  rw [this, hk]; rfl

/-- vector side: one integer column without nulls that is not const-encoded (at least two
    distinct values, or a type without dictionary) is summed exactly. -/
theorem sumUpdate_intCol (val : Bytes → Int) (acc : Int) (id : Nat) (xs : List Bytes)
    (hk : kindOfPrim id = "Int" ∨ kindOfPrim id = "Uint")
    (hc : (primEncode id true xs).isConst = false) :
    sumUpdate val acc (fieldVec (.col (.prim id) (xs.map Val.prim))) = .ok (acc + (xs.map val).sum) := by
  have hid : id ≠ 29 := by
    rintro rfl; revert hk; decide +kernel
  have hkind : sumKinds.contains (kindOfPrim id) = true ∧
      sumDictKinds.contains (kindOfPrim id) = true := by
    rcases hk with h | h <;> rw [h] <;> decide
  rw [fieldVec_primCol id xs hid]
  rcases primEncode_spec id true xs with h | ⟨v, c, -, h⟩ | ⟨-, h⟩ <;> simp only [h] at hc ⊢
  · rw [sumUpdate_flat val acc _ _ hkind.1, foldl_add, List.map_map]; rfl
  · cases hc
  · rw [sumUpdate_dict val acc _ _ _ hkind.2, foldl_add, ← wsum_hist]; rfl

theorem sumRun_intCols (val : Bytes → Int) (cols : List (Nat × List Bytes))
    (h : ∀ c ∈ cols, (kindOfPrim c.1 = "Int" ∨ kindOfPrim c.1 = "Uint") ∧
      (primEncode c.1 true c.2).isConst = false) :
    sumRun val (cols.map fun c => [.col (.prim c.1) (c.2.map Val.prim)]) =
      .ok ((cols.flatMap (·.2)).map val).sum := by
  have key : ∀ acc, ((cols.map fun c => [FCol.col (.prim c.1) (c.2.map Val.prim)]).flatten.map fieldVec).foldlM
      (sumUpdate val) acc = .ok (acc + ((cols.flatMap (·.2)).map val).sum) := by
    induction cols with
    | nil => intro acc; simp; rfl
    | cons c cols ih =>
      intro acc
      have hc := h c List.mem_cons_self
      simp only [List.map_cons, List.flatten_cons, List.singleton_append, List.foldlM_cons,
        sumUpdate_intCol val acc c.1 c.2 hc.1 hc.2]
      refine (ih (fun c' hc' => h c' (List.mem_cons_of_mem _ hc')) _).trans ?_
      simp [Int.add_assoc]
  simpa [sumRun] using key 0

end Zed.Vec

/-
  Branch commits (C12 / C17).  Commit ids are fresh; the id of a commit attempt is referenced by nothing until its own journal
  entry exists, so deleting the object of a failed attempt never damages a chain; every
  acknowledged commit stays on the parent path from its branch's tip.
-/
import Zed.Proofs.StoreTables
namespace Zed.Store

def JAct.val : JAct → Option Nat
  | .add _ v => some v
  | .update _ v => some v
  | .delete _ => none

/-- Value v has been written into journal j (as the value of an add or update action). -/
def Ref (s : Store) (j v : Nat) : Prop :=
  ∃ n acts a, s (.ent j n) = some (.entry acts) ∧ a ∈ acts ∧ JAct.val a = some v

theorem Ref.congr {s s' : Store} {j v : Nat} (h : ∀ n, s' (.ent j n) = s (.ent j n)) (r : Ref s j v) : Ref s' j v := by
  obtain ⟨n, acts, a, h1, h2, h3⟩ := r
  exact ⟨n, acts, a, by rw [h n]; exact h1, h2, h3⟩

theorem Ref.put_ent {s : Store} {j n v : Nat} {acts : List JAct} (hnone : s (.ent j n) = none) :
    Ref (s.put (.ent j n) (.entry acts)) j v ↔ (Ref s j v ∨ ∃ a ∈ acts, JAct.val a = some v) := by
  constructor
  · rintro ⟨m, acts', a, h1, h2, h3⟩
    by_cases hm : m = n
    · subst hm; simp at h1; subst h1; exact Or.inr ⟨a, h2, h3⟩
    · rw [Store.put_other _ _ _ _ (by simp [hm])] at h1; exact Or.inl ⟨m, acts', a, h1, h2, h3⟩
  · rintro (⟨m, acts', a, h1, h2, h3⟩ | ⟨a, h2, h3⟩)
    · have hm : m ≠ n := by intro hh; subst hh; rw [hnone] at h1; cases h1
      exact ⟨m, acts', a, by rw [Store.put_other _ _ _ _ (by simp [hm])]; exact h1, h2, h3⟩
    · exact ⟨n, acts, a, by simp, h2, h3⟩

theorem mem_erase {t : Table} {k : Nat} {e : Nat × Nat} (h : e ∈ Table.erase t k) : e ∈ t := by
  simp [Table.erase] at h; exact h.1

/-- Values of a table obtained by applying actions come from the old table or from the actions. -/
theorem mem_applyAct {t t' : Table} {a : JAct} (h : applyAct t a = some t') {k v : Nat} (hm : (k, v) ∈ t') :
    (k, v) ∈ t ∨ JAct.val a = some v := by
  cases a with
  | add k' v' =>
    simp [applyAct, Table.set] at h; subst h
    simp at hm
    rcases hm with ⟨_, rfl⟩ | hm
    · right; rfl
    · left; exact mem_erase hm
  | update k' v' =>
    simp only [applyAct] at h
    split at h
    · simp [Table.set] at h; subst h
      simp at hm
      rcases hm with ⟨_, rfl⟩ | hm
      · right; rfl
      · left; exact mem_erase hm
    · cases h
  | delete k' =>
    simp [applyAct] at h; subst h
    left; exact mem_erase hm

/-- Every value of a replayed table was written into the journal. -/
theorem tableAt_ref {s : Store} {j : Nat} {n : Nat} {t : Table} (h : tableAt s j n = some t) {k v : Nat}
    (hm : (k, v) ∈ t) : Ref s j v := by
  refine tableAt_induct (P := fun t => ∀ k v, (k, v) ∈ t → Ref s j v) (fun _ _ h => nomatch h) ?_ n t h k v hm
  intro m acts a t t' hent ha ih hap k v hm
  rcases mem_applyAct hap hm with h1 | h1
  · exact ih k v h1
  · exact ⟨m, acts, a, hent, ha, h1⟩

theorem Table.get_mem {t : Table} {k v : Nat} (h : Table.get t k = some v) : (k, v) ∈ t := by
  induction t with
  | nil => simp [Table.get] at h
  | cons e t ih =>
    obtain ⟨a, b⟩ := e
    rw [Table.get_cons] at h
    split at h
    · rename_i hk; cases h; subst hk; simp
    · simp; right; exact ih h

/-! ### Paths in the commit graph -/

/-- `CPath s j c id`: following parent pointers from commit c reaches id, through objects whose
    ids were written into the journal. -/
inductive CPath (s : Store) (j : Nat) : Nat → Nat → Prop
  | refl (id : Nat) (h0 : id ≠ 0) : CPath s j id id
  | step (c par id : Nat) (adds dels : List Nat) (hr : Ref s j c)
      (ho : s (.cobj j c) = some (.commit par adds dels)) (hlt : par < c) (hp : CPath s j par id) : CPath s j c id

theorem CPath.le {s j c id} (p : CPath s j c id) : id ≤ c ∧ 1 ≤ id := by
  induction p with
  | refl id h0 => omega
  | step c par id adds dels _ _ hlt _ ih => omega

theorem CPath.mono {s s' : Store} {j c id : Nat} (hr : ∀ v, Ref s j v → Ref s' j v)
    (ho : ∀ v, Ref s j v → s' (.cobj j v) = s (.cobj j v)) (p : CPath s j c id) : CPath s' j c id := by
  induction p with
  | refl id h0 => exact .refl id h0
  | step c par id adds dels hrc hoc hlt _ ih =>
    exact .step c par id adds dels (hr c hrc) (by rw [ho c hrc]; exact hoc) hlt ih

/-- All commit objects of pool j point to older ids. -/
def ObjsDecr (s : Store) (j : Nat) : Prop :=
  ∀ c par adds dels, s (.cobj j c) = some (.commit par adds dels) → par < c

theorem chainF_le {s : Store} {j : Nat} (hd : ObjsDecr s j) : ∀ (fuel c x : Nat), x ∈ chainF s j fuel c → x ≤ c := by
  intro fuel
  induction fuel with
  | zero => intro c x hx; simp [chainF] at hx
  | succ f ih =>
    intro c x hx
    simp only [chainF] at hx
    split at hx
    · cases hx
    · split at hx
      · rename_i par adds dels ho
        simp at hx
        rcases hx with rfl | hx
        · omega
        · have := ih par x hx; have := hd c par adds dels ho; omega
      · simp at hx; omega

theorem CPath.count_chainF {s : Store} {j c id : Nat} (hd : ObjsDecr s j) (p : CPath s j c id) :
    ∀ fuel, c ≤ fuel → (chainF s j fuel c).count id = 1 := by
  induction p with
  | refl id h0 =>
    intro fuel hf
    cases fuel with
    | zero => omega
    | succ f =>
      simp only [chainF, h0, if_false]
      split
      · rename_i par adds dels ho
        have hlt := hd id par adds dels ho
        have : (chainF s j f par).count id = 0 := by
          rw [List.count_eq_zero]
          intro hm; have := chainF_le hd f par id hm; omega
        simp [this]
      · simp
  | step c par id adds dels _ ho hlt hp ih =>
    intro fuel hf
    cases fuel with
    | zero => omega
    | succ f =>
      have hc0 : c ≠ 0 := by omega
      have hne : c ≠ id := by have := hp.le; omega
      simp only [chainF, hc0, if_false, ho]
      rw [List.count_cons_of_ne (by simpa using hne)]
      exact ih f (by omega)

theorem CPath.count_chain {s : Store} {j c id : Nat} (hd : ObjsDecr s j) (p : CPath s j c id) :
    (chain s j c).count id = 1 := p.count_chainF hd c (Nat.le_refl _)

/-- The commit id a running branch commit on pool j has allocated. -/
def Proc.ownedId (j : Nat) : Proc → Option Nat
  | .bc b (.putObj _ id) => if b.pool = j then some id else none
  | .bc b (.update _ id _ _) => if b.pool = j then some id else none
  | .bc b (.cleanup id _) => if b.pool = j then some id else none
  | _ => none

/-- Local facts of a branch commit on pool j: its id is allocated (below `next`), newer than the
    tip it was built against, its object is absent / present as the phase says, and — until its own
    journal entry exists — the id has not been written into the journal. -/
def BcOK (s : Store) (j next : Nat) : Proc → Prop
  | .bc b (.putObj tip id) => b.pool = j →
      1 ≤ id ∧ id < next ∧ tip < id ∧ s (.cobj j id) = none ∧ ¬ Ref s j id
  | .bc b (.update tip id _ pc) => b.pool = j →
      1 ≤ id ∧ id < next ∧ tip < id ∧ s (.cobj j id) = some (.commit tip b.adds b.dels) ∧
        (pc.isPutHead = false → ¬ Ref s j id)
  | .bc b (.cleanup id _) => b.pool = j → 1 ≤ id ∧ id < next ∧ ¬ Ref s j id
  | _ => True

/-- `paths` speaks of every position from HEAD to the journal end, so that it survives the HEAD write whoever
    makes it. -/
structure Inv3 (j : Nat) (s : Sys) (e : Nat) : Prop where
  kinds : ∀ c op a, (s.cl c).kindOn j = some (.commit op a) →
    (∃ k v, op = .insert k v ∧ (v = 0 ∨ ∃ x ∈ s.acks, x.pool = j ∧ x.id = v)) ∨
    (∃ b tip id att pc, (s.cl c).proc = some (.bc b (.update tip id att pc)) ∧ b.pool = j ∧
      op = .update b.branch tip id)
  refLt : ∀ v, Ref s.store j v → v < s.next
  ackRef : ∀ x ∈ s.acks, x.pool = j → Ref s.store j x.id ∧ x.id ≠ 0
  objs : ∀ c v, s.store (.cobj j c) = some v → ∃ par adds dels, v = .commit par adds dels ∧ par < c ∧ c < s.next
  bc : ∀ c p, (s.cl c).proc = some p → BcOK s.store j s.next p
  distinct : ∀ c c' p p' id, (s.cl c).proc = some p → (s.cl c').proc = some p' →
    p.ownedId j = some id → p'.ownedId j = some id → c = c'
  paths : ∀ x ∈ s.acks, x.pool = j → ∀ n, headOf s.store j ≤ n → n ≤ e →
    ∃ t tip, tableAt s.store j n = some t ∧ Table.get t x.branch = some tip ∧ CPath s.store j tip x.id

/-- The id of a branch commit on pool j whose own journal entry does not exist yet: `ownedId` except at the HEAD write. -/
def Proc.pendingId (j : Nat) : Proc → Option Nat
  | .bc b (.putObj _ id) => if b.pool = j then some id else none
  | .bc b (.update _ id _ pc) => if b.pool = j ∧ pc.isPutHead = false then some id else none
  | .bc b (.cleanup id _) => if b.pool = j then some id else none
  | _ => none

/-- BcOK of an unchanged procedure survives a step of another client: the journal gains only
    values `P` that are not this procedure's pending id, and commit objects change only at ids
    `¬ Q` different from its id. -/
theorem BcOK.other {s s' : Store} {j next next' : Nat} {p : Proc} {P Q : Nat → Prop} (hn : next ≤ next')
    (hr : ∀ v, Ref s' j v → Ref s j v ∨ P v) (hobj : ∀ c, Q c → s' (.cobj j c) = s (.cobj j c))
    (hid : ∀ id, p.ownedId j = some id → Q id) (hpid : ∀ id, p.pendingId j = some id → ¬ P id)
    (h : BcOK s j next p) : BcOK s' j next' p := by
  cases p with
  | bc b ph =>
    cases ph with
    | lookup pc => trivial
    | putObj tip id =>
      intro hb; obtain ⟨a1, a2, a3, a4, a5⟩ := h hb
      have i2 := hid id (by simp [Proc.ownedId, hb])
      have i1 := hpid id (by simp [Proc.pendingId, hb])
      exact ⟨a1, by omega, a3, by rw [hobj id i2]; exact a4, fun r => (hr _ r).elim a5 i1⟩
    | update tip id att pc =>
      intro hb; obtain ⟨a1, a2, a3, a4, a5⟩ := h hb
      have i2 := hid id (by simp [Proc.ownedId, hb])
      refine ⟨a1, by omega, a3, by rw [hobj id i2]; exact a4, fun hp r => ?_⟩
      have i1 := hpid id (by simp [Proc.pendingId, hb, hp])
      exact (hr _ r).elim (a5 hp) i1
    | cleanup id err =>
      intro hb; obtain ⟨a1, a2, a3⟩ := h hb
      have i1 := hpid id (by simp [Proc.pendingId, hb])
      exact ⟨a1, by omega, fun r => (hr _ r).elim a3 i1⟩
  | _ => trivial

/-- Old acknowledgements keep their paths when the replayed tables up to e are unchanged, the
    journal only gains values, referenced objects are untouched and HEAD does not move back. -/
theorem paths_keep {j : Nat} {s s' : Sys} {e : Nat} (h3 : Inv3 j s e)
    (hx : Ext s.store s'.store j e) (hr : ∀ v, Ref s.store j v → Ref s'.store j v)
    (hobj : ∀ v, Ref s.store j v → s'.store (.cobj j v) = s.store (.cobj j v))
    (x : Ack) (hxa : x ∈ s.acks) (hxj : x.pool = j) (n : Nat) (hn1 : headOf s'.store j ≤ n) (hn2 : n ≤ e) :
    ∃ t tip, tableAt s'.store j n = some t ∧ Table.get t x.branch = some tip ∧ CPath s'.store j tip x.id := by
  obtain ⟨t, tip, a1, a2, a3⟩ := h3.paths x hxa hxj n (by have := hx.head; omega) hn2
  exact ⟨t, tip, by rw [hx.tableAt n hn2]; exact a1, a2, a3.mono hr hobj⟩

/-- The clause `Inv3.kinds` for the one client c. -/
def KindOK (j : Nat) (s : Sys) (c : Nat) : Prop :=
  ∀ op a, (s.cl c).kindOn j = some (.commit op a) →
    (∃ k v, op = .insert k v ∧ (v = 0 ∨ ∃ x ∈ s.acks, x.pool = j ∧ x.id = v)) ∨
    (∃ b tip id att pc, (s.cl c).proc = some (.bc b (.update tip id att pc)) ∧ b.pool = j ∧
      op = .update b.branch tip id)

theorem kinds_keep {j : Nat} {s s' : Sys} {c : Nat} (h : KindOK j s c)
    (hcl : (s'.cl c).proc = (s.cl c).proc) (hacks : ∀ x, x ∈ s.acks → x ∈ s'.acks) : KindOK j s' c := by
  intro op a hk
  rw [Client.kindOn, hcl] at hk
  rcases h op a hk with ⟨k, v, h4, h5⟩ | h4
  · refine Or.inl ⟨k, v, h4, ?_⟩
    rcases h5 with h5 | ⟨x, hx, h5⟩
    · exact Or.inl h5
    · exact Or.inr ⟨x, hacks x hx, h5⟩
  · rw [hcl]; exact Or.inr h4

theorem BcOK.owned {s : Store} {j nx : Nat} {p : Proc} {id : Nat} (ho : p.ownedId j = some id)
    (h : BcOK s j nx p) : 1 ≤ id ∧ id < nx ∧ (p.pendingId j = some id → ¬ Ref s j id) := by
  cases p with
  | bc b ph =>
    cases ph with
    | lookup pc => cases ho
    | putObj tip id' =>
      simp only [Proc.ownedId] at ho; split at ho
      · rename_i hb; cases ho; exact ⟨(h hb).1, (h hb).2.1, fun _ => (h hb).2.2.2.2⟩
      · cases ho
    | update tip id' att pc =>
      simp only [Proc.ownedId] at ho; split at ho
      · rename_i hb; cases ho
        refine ⟨(h hb).1, (h hb).2.1, fun hp => (h hb).2.2.2.2 ?_⟩
        cases hpc : pc.isPutHead with
        | false => rfl
        | true => simp [Proc.pendingId, hpc] at hp
      · cases ho
    | cleanup id' err =>
      simp only [Proc.ownedId] at ho; split at ho
      · rename_i hb; cases ho; exact ⟨(h hb).1, (h hb).2.1, fun _ => (h hb).2.2⟩
      · cases ho
  | _ => cases ho

theorem Inv3.objs_keep {j : Nat} {s s' : Sys} {e : Nat} (h3 : Inv3 j s e)
    (hobj : ∀ v, s'.store (.cobj j v) = s.store (.cobj j v)) (hnext : s.next ≤ s'.next) (x : Nat) (v : SVal)
    (hv : s'.store (.cobj j x) = some v) : ∃ par adds dels, v = .commit par adds dels ∧ par < x ∧ x < s'.next := by
  rw [hobj] at hv
  obtain ⟨par, adds, dels, b1, b2, b3⟩ := h3.objs x v hv
  exact ⟨par, adds, dels, b1, b2, by omega⟩

theorem Inv3.ackRef_keep {j : Nat} {s s' : Sys} {e : Nat} (h3 : Inv3 j s e)
    (hacks : ∀ x, x ∈ s'.acks → x.pool = j → x ∈ s.acks) (hr : ∀ v, Ref s.store j v → Ref s'.store j v)
    (x : Ack) (hx : x ∈ s'.acks) (hxj : x.pool = j) : Ref s'.store j x.id ∧ x.id ≠ 0 :=
  ⟨hr _ (h3.ackRef x (hacks x hx hxj) hxj).1, (h3.ackRef x (hacks x hx hxj) hxj).2⟩

/-- Assemble Inv3 after a step of client c: the caller supplies what concerns c, the objects,
    the acknowledgements and the paths; everything about the other clients follows.  `P`: the values the
    step writes into the journal; `Q`: the ids whose object it leaves alone (`inv3_frame`: nothing, all). -/
theorem inv3_assemble {j : Nat} {s s' : Sys} {e e' : Nat} (c : Nat) (P Q : Nat → Prop) (h3 : Inv3 j s e)
    (hoth : ∀ c', c' ≠ c → s'.cl c' = s.cl c')
    (hnext : s.next ≤ s'.next)
    (hacks : ∀ x, x ∈ s.acks → x ∈ s'.acks)
    (hr2 : ∀ v, Ref s'.store j v → Ref s.store j v ∨ P v)
    (hP : ∀ v, P v → v < s'.next)
    (hobj : ∀ v, Q v → s'.store (.cobj j v) = s.store (.cobj j v))
    (hothid : ∀ c' p id, c' ≠ c → (s.cl c').proc = some p → p.ownedId j = some id → Q id)
    (hothpid : ∀ c' p id, c' ≠ c → (s.cl c').proc = some p → p.pendingId j = some id → ¬ P id)
    (hkind : KindOK j s' c)
    (hobjs : ∀ x v, s'.store (.cobj j x) = some v → ∃ par adds dels, v = .commit par adds dels ∧ par < x ∧ x < s'.next)
    (hbc : ∀ p, (s'.cl c).proc = some p → BcOK s'.store j s'.next p)
    (hown : ∀ p' id, (s'.cl c).proc = some p' → p'.ownedId j = some id →
      (∃ p, (s.cl c).proc = some p ∧ p.ownedId j = some id) ∨
      (∀ c' p, c' ≠ c → (s.cl c').proc = some p → p.ownedId j ≠ some id))
    (hackRef : ∀ x ∈ s'.acks, x.pool = j → Ref s'.store j x.id ∧ x.id ≠ 0)
    (hpaths : ∀ x ∈ s'.acks, x.pool = j → ∀ n, headOf s'.store j ≤ n → n ≤ e' →
      ∃ t tip, tableAt s'.store j n = some t ∧ Table.get t x.branch = some tip ∧ CPath s'.store j tip x.id) :
    Inv3 j s' e' := by
  refine ⟨?_, ?_, hackRef, hobjs, ?_, ?_, hpaths⟩
  · intro c' op a hk
    by_cases hcc : c' = c
    · subst hcc; exact hkind op a hk
    · exact kinds_keep (h3.kinds c') (congrArg Client.proc (hoth c' hcc)) hacks op a hk
  · intro v r
    rcases hr2 v r with r | r
    · have := h3.refLt v r; omega
    · exact hP v r
  · intro c' p hp
    by_cases hcc : c' = c
    · subst hcc; exact hbc p hp
    · rw [hoth c' hcc] at hp
      exact (h3.bc c' p hp).other hnext hr2 hobj (fun id hid => hothid c' p id hcc hp hid)
        (fun id hid => hothpid c' p id hcc hp hid)
  · intro c1 c2 p1 p2 id hp1 hp2 ho1 ho2
    by_cases h1 : c1 = c
    · by_cases h2 : c2 = c
      · rw [h1, h2]
      · subst h1
        rw [hoth c2 h2] at hp2
        rcases hown p1 id hp1 ho1 with ⟨p, hp, ho⟩ | hf
        · exact h3.distinct c1 c2 p p2 id hp hp2 ho ho2
        · exact absurd ho2 (hf c2 p2 h2 hp2)
    · rw [hoth c1 h1] at hp1
      by_cases h2 : c2 = c
      · subst h2
        rcases hown p2 id hp2 ho2 with ⟨p, hp, ho⟩ | hf
        · exact h3.distinct c1 c2 p1 p id hp1 hp ho1 ho
        · exact absurd ho1 (hf c1 p1 h1 hp1)
      · rw [hoth c2 h2] at hp2
        exact h3.distinct c1 c2 p1 p2 id hp1 hp2 ho1 ho2

/-- The one client c that changed keeps its procedure, or gets one that is fine by itself and owns only an
    id that c owned before or a fresh one. -/
theorem inv3_frame {j : Nat} {s s' : Sys} {e : Nat} (c : Nat) (h3 : Inv3 j s e)
    (hoth : ∀ c', c' ≠ c → s'.cl c' = s.cl c')
    (hent : ∀ n, s'.store (.ent j n) = s.store (.ent j n))
    (hhead : headOf s.store j ≤ headOf s'.store j)
    (hobj : ∀ v, s'.store (.cobj j v) = s.store (.cobj j v))
    (hnext : s.next ≤ s'.next)
    (hacks : ∀ x, x ∈ s'.acks → x.pool = j → x ∈ s.acks) (hacks' : ∀ x, x ∈ s.acks → x ∈ s'.acks)
    (hc : (s'.cl c).proc = (s.cl c).proc ∨ (KindOK j s' c ∧ ∀ p, (s'.cl c).proc = some p →
      BcOK s'.store j s'.next p ∧ ∀ id, p.ownedId j = some id →
        (∃ p0, (s.cl c).proc = some p0 ∧ p0.ownedId j = some id) ∨ s.next ≤ id)) : Inv3 j s' e := by
  have hr : ∀ v, Ref s'.store j v ↔ Ref s.store j v :=
    fun v => ⟨Ref.congr (fun n => (hent n).symm), Ref.congr hent⟩
  refine inv3_assemble c (fun _ => False) (fun _ => True) h3 hoth hnext hacks' (fun v r => Or.inl ((hr v).mp r))
    (fun _ h => h.elim) (fun v _ => hobj v) (fun _ _ _ _ _ _ => trivial) (fun _ _ _ _ _ _ h => h) ?_
    (h3.objs_keep hobj hnext) ?_ ?_ (h3.ackRef_keep hacks fun v r => (hr v).mpr r) ?_
  · rcases hc with hc | hc
    · exact kinds_keep (h3.kinds c) hc hacks'
    · exact hc.1
  · intro p hp
    rcases hc with hc | hc
    · rw [hc] at hp
      exact (h3.bc c p hp).other (P := fun _ => False) (Q := fun _ => True) hnext (fun v r => Or.inl ((hr v).mp r))
        (fun v _ => hobj v) (fun _ _ => trivial) (fun _ _ h => h)
    · exact (hc.2 p hp).1
  · intro p id hp ho
    rcases hc with hc | hc
    · rw [hc] at hp; exact Or.inl ⟨p, hp, ho⟩
    · rcases (hc.2 p hp).2 id ho with h | h
      · exact Or.inl h
      · refine Or.inr fun c' p' _ hp' ho' => ?_
        have := (BcOK.owned ho' (h3.bc c' p' hp')).2.1
        omega
  · intro x hx hxj n hn1 hn2
    exact paths_keep h3 ⟨fun m _ _ => hent m, hhead⟩ (fun v r => (hr v).mpr r) (fun v _ => hobj v) x
      (hacks x hx hxj) hxj n hn1 hn2

/-- Labels that start a raw delete / move on journal j (branch removal); the branch-commit
    theorems are stated for runs without them. -/
def Start.drops (j : Nat) : Start → Bool
  | .commit j' _ (.delete ..) => j' == j
  | .commit j' _ (.move ..) => j' == j
  | _ => false

def Label.drops (j : Nat) : Label → Bool
  | .start _ st => st.drops j
  | .step _ => false
  | .truncSnap _ => false

theorem Start.begin_branch {s : Sys} {st : Start} {p : Proc} {nx : Nat} (h : st.begin s = some (p, nx)) :
    (∀ j, p.ownedId j = none) ∧ (∀ (t : Store) j n, BcOK t j n p) ∧
      ∀ j op a, p.kindOn j = some (.commit op a) → (∃ slot, st = .commit j slot op) ∧ startOK s j op = true := by
  cases st with
  | commit j slot op =>
    simp only [Start.begin] at h; split at h <;> cases h
    rename_i hok
    refine ⟨fun _ => rfl, fun _ _ _ => trivial, fun j' op' a hk => ?_⟩
    simp only [Proc.kindOn] at hk; split at hk <;> cases hk
    rename_i hj; subst hj; exact ⟨⟨_, rfl⟩, hok⟩
  | bcommit pool slot branch adds dels =>
    simp only [Start.begin] at h; split at h <;> cases h
    refine ⟨fun _ => rfl, fun _ _ _ => trivial, fun j' op' a hk => ?_⟩
    simp only [Proc.kindOn] at hk; split at hk <;> cases hk
  | load j slot =>
    cases h
    refine ⟨fun _ => rfl, fun _ _ _ => trivial, fun j' op' a hk => ?_⟩
    simp only [Proc.kindOn] at hk; split at hk <;> cases hk
  | create => cases h; exact ⟨fun _ => rfl, fun _ _ _ => trivial, (fun _ _ _ h => by cases h)⟩
  | openJ j => cases h; exact ⟨fun _ => rfl, fun _ _ _ => trivial, (fun _ _ _ h => by cases h)⟩
  | delPool q =>
    simp only [Start.begin] at h; split at h <;> cases h
    exact ⟨fun _ => rfl, fun _ _ _ => trivial, (fun _ _ _ h => by cases h)⟩
  | resetSlot j slot => cases h

theorem inv3_start {j : Nat} {s : Sys} {e : Nat} (hj : j ≠ 0) (c : Nat) (st : Start)
    (h3 : Inv3 j s e) (hd : st.drops j = false) : Inv3 j (s.start c st) e := by
  rcases start_cases s c st with h' | ⟨hnone, j', slot, h'⟩ | ⟨hnone, p, nx, hb, h'⟩ <;> rw [h']
  · exact h3
  · exact inv3_frame c h3 (fun c' h => setClient_other _ _ _ _ h) (fun _ => rfl) (Nat.le_refl _) (fun _ => rfl)
      (Nat.le_refl _) (fun x hx _ => hx) (fun x hx => hx) (Or.inl (by simp [Client.setCache]))
  · -- the new procedure owns no commit id and, if it is a commit on j, is a permitted insert
    obtain ⟨hown, hbc, hkind⟩ := Start.begin_branch hb
    refine inv3_frame c h3 (fun c' h => setClient_other _ _ _ _ h) (fun _ => rfl) (Nat.le_refl _) (fun _ => rfl)
      (Start.begin_journal hb).1 (fun x hx _ => hx) (fun x hx => hx) (Or.inr ⟨fun op a hk => ?_, fun p' hp' => ?_⟩)
    · obtain ⟨⟨slot, rfl⟩, hok⟩ := hkind j op a (by simpa [Client.kindOn, Sys.setClient] using hk)
      cases op with
      | insert k v =>
        refine Or.inl ⟨k, v, rfl, ?_⟩
        simp [startOK, hj] at hok
        rcases hok with h | ⟨x, hx, h2, h3'⟩
        · exact Or.inl h
        · exact Or.inr ⟨x, hx, h2, h3'⟩
      | move old new v => simp [Start.drops] at hd
      | delete k v => simp [Start.drops] at hd
      | update k old new => simp [startOK] at hok
    · simp [Sys.setClient] at hp'; subst hp'
      exact ⟨hbc _ _ _, fun id ho => by rw [hown] at ho; cases ho⟩

theorem untouched_facts {j : Nat} {p : Proc} (h : p.touches j = false) (s : Store) (nx : Nat) :
    p.ownedId j = none ∧ BcOK s j nx p ∧ ∀ op a, p.kindOn j ≠ some (.commit op a) := by
  cases p with
  | jp j' slot k pc =>
    simp [Proc.touches] at h
    simp [Proc.ownedId, BcOK, Proc.kindOn, h]
  | bc b ph =>
    simp [Proc.touches] at h
    cases ph <;> simp [Proc.ownedId, BcOK, Proc.kindOn, h]
  | create j' st => simp [Proc.ownedId, BcOK, Proc.kindOn]
  | openJ j' => simp [Proc.ownedId, BcOK, Proc.kindOn]
  | delPool p' => simp [Proc.ownedId, BcOK, Proc.kindOn]

/-- Client c writes or removes the object of an id it owns and that no journal entry mentions. -/
theorem inv3_cobj {j : Nat} {s s' : Sys} {e : Nat} (c id : Nat) (h3 : Inv3 j s e)
    (p0 : Proc) (hp0 : (s.cl c).proc = some p0) (hid : p0.ownedId j = some id) (hnr : ¬ Ref s.store j id)
    (hoth : ∀ c', c' ≠ c → s'.cl c' = s.cl c') (hnext : s.next ≤ s'.next) (hacks : s'.acks = s.acks)
    (hent : ∀ n, s'.store (.ent j n) = s.store (.ent j n)) (hhead : s'.store (.head j) = s.store (.head j))
    (hobj : ∀ v, v ≠ id → s'.store (.cobj j v) = s.store (.cobj j v))
    (hnew : ∀ w, s'.store (.cobj j id) = some w →
      ∃ par adds dels, w = .commit par adds dels ∧ par < id ∧ id < s'.next)
    (hkind : KindOK j s' c) (hbc : ∀ p, (s'.cl c).proc = some p → BcOK s'.store j s'.next p)
    (hown : ∀ p id', (s'.cl c).proc = some p → p.ownedId j = some id' → id' = id) : Inv3 j s' e := by
  have hr : ∀ v, Ref s'.store j v ↔ Ref s.store j v :=
    fun v => ⟨Ref.congr (fun n => (hent n).symm), Ref.congr hent⟩
  refine inv3_assemble c (fun _ => False) (fun v => v ≠ id) h3 hoth hnext (fun x hx => by rw [hacks]; exact hx)
    (fun v r => Or.inl ((hr v).mp r)) (fun _ h => h.elim) hobj ?_ (fun _ _ _ _ _ _ h => h) hkind ?_ hbc ?_
    (h3.ackRef_keep (fun x hx _ => by rw [← hacks]; exact hx) fun v r => (hr v).mpr r) ?_
  · intro c' p id' hcc hp' ho hh
    subst hh
    exact hcc (h3.distinct c' c p p0 id' hp' hp0 ho hid)
  · intro x v hv
    by_cases hx : x = id
    · subst hx; exact hnew v hv
    · rw [hobj x hx] at hv
      obtain ⟨par, adds, dels, b1, b2, b3⟩ := h3.objs x v hv
      exact ⟨par, adds, dels, b1, b2, by omega⟩
  · intro p' id' hp' ho
    obtain rfl := hown p' id' hp' ho
    exact Or.inl ⟨p0, hp0, hid⟩
  · intro x hx hxj n hn1 hn2
    exact paths_keep h3 ⟨fun m _ _ => hent m, Nat.le_of_eq (headOf_congr _ _ _ hhead).symm⟩ (fun v r => (hr v).mpr r)
      (fun v r => hobj v (by rintro rfl; exact hnr r)) x (by rw [← hacks]; exact hx) hxj n hn1 hn2

theorem inv3_step_putObj {j : Nat} {s : Sys} {e e' : Nat} (c : Nat) (b : BC) (tip id : Nat)
    (hp : (s.cl c).proc = some (.bc b (.putObj tip id))) (hb : b.pool = j)
    (h1 : Inv1 j s e) (h3 : Inv3 j s e) (h1' : Inv1 j (s.step c).1 e') : Inv3 j (s.step c).1 e' := by
  subst hb
  obtain ⟨a1, a2, a3, a4, a5⟩ := h3.bc c _ hp rfl
  have hnx := step_next s c
  have hs : (s.step c).1 = { s with store := s.store.put (.cobj b.pool id) (.commit tip b.adds b.dels) }.setClient c
      { s.cl c with proc := some (.bc b (.update tip id 0 .rdHead)) } := by rw [step_putObj s c hp]
  rw [hs] at h1' hnx ⊢
  have hent : ∀ n, (s.store.put (.cobj b.pool id) (.commit tip b.adds b.dels)) (.ent b.pool n) = s.store (.ent b.pool n) :=
    fun n => Store.put_other _ _ _ _ (by simp)
  obtain rfl := h1.end_eq h1' hent
  refine inv3_cobj c id h3 _ hp (by simp [Proc.ownedId]) a5 (fun c' h => setClient_other _ _ _ _ h) hnx rfl hent
    (by simp [Store.put]) (fun v hv => by simp [Store.put, hv]) ?_ ?_ ?_ ?_
  · intro w hw
    obtain rfl : SVal.commit tip b.adds b.dels = w := by simpa using hw
    exact ⟨tip, b.adds, b.dels, rfl, a3, Nat.lt_of_lt_of_le a2 hnx⟩
  · intro op a hk
    refine Or.inr ⟨b, tip, id, 0, .rdHead, by simp, rfl, ?_⟩
    simp [Client.kindOn, Proc.kindOn] at hk
    exact hk.1.symm
  · intro p hp'
    obtain rfl : Proc.bc b (.update tip id 0 .rdHead) = p := by simpa using hp'
    exact fun _ => ⟨a1, Nat.lt_of_lt_of_le a2 hnx, a3, Store.put_same _ _ _, fun _ r => a5 (Ref.congr hent r)⟩
  · intro p id' hp' ho
    obtain rfl : Proc.bc b (.update tip id 0 .rdHead) = p := by simpa using hp'
    simpa [Proc.ownedId, eq_comm] using ho

theorem inv3_step_cleanup {j : Nat} {s : Sys} {e e' : Nat} (c : Nat) (b : BC) (id : Nat) (err : Res)
    (hp : (s.cl c).proc = some (.bc b (.cleanup id err))) (hb : b.pool = j)
    (h1 : Inv1 j s e) (h3 : Inv3 j s e) (h1' : Inv1 j (s.step c).1 e') : Inv3 j (s.step c).1 e' := by
  subst hb
  obtain ⟨a1, a2, a5⟩ := h3.bc c _ hp rfl
  obtain ⟨proc, res, ev, -, hpr, hs⟩ := step_cleanup s c hp
  rw [hs] at h1' ⊢
  have hent : ∀ n, (s.store.del (.cobj b.pool id)) (.ent b.pool n) = s.store (.ent b.pool n) :=
    fun n => Store.del_other _ _ _ (by simp)
  obtain rfl := h1.end_eq h1' hent
  have hnew : ∀ p, proc = some p → ∃ b', b'.pool = b.pool ∧ p = .bc b' (.lookup .rdHead) := by
    rintro p rfl
    rcases hpr with h | ⟨b', hb', h⟩
    · cases h
    · cases h; exact ⟨b', hb', rfl⟩
  refine inv3_cobj c id h3 _ hp (by simp [Proc.ownedId]) a5 (fun c' h => setClient_other _ _ _ _ h) (Nat.le_refl _) rfl
    hent (by simp [Store.del]) (fun v hv => by simp [Store.del, hv]) ?_ ?_ ?_ ?_
  · intro w hw
    simp [Store.del] at hw
  · intro op a hk
    cases hpp : proc with
    | none => simp [Client.kindOn, hpp] at hk
    | some p =>
      obtain ⟨b', hb', rfl⟩ := hnew p hpp
      simp [Client.kindOn, hpp, Proc.kindOn, hb'] at hk
  · intro p hp'
    obtain ⟨b', _, rfl⟩ := hnew p (by simpa using hp')
    trivial
  · intro p id' hp' ho
    obtain ⟨b', _, rfl⟩ := hnew p (by simpa using hp')
    cases ho

theorem acts_eq_add {op : JOp} {k v : Nat} (h : op.acts = [.add k v]) : op = .insert k v := by
  cases op <;> simp [JOp.acts] at h
  obtain ⟨rfl, rfl⟩ := h; rfl

theorem acts_eq_update {op : JOp} {k v : Nat} (h : op.acts = [.update k v]) : ∃ old, op = .update k old v := by
  cases op <;> simp [JOp.acts] at h
  obtain ⟨rfl, rfl⟩ := h; exact ⟨_, rfl⟩

theorem pending_owned {j : Nat} {p : Proc} {id : Nat} (h : p.pendingId j = some id) : p.ownedId j = some id := by
  cases p with
  | bc b ph =>
    cases ph with
    | lookup pc => simp [Proc.pendingId] at h
    | putObj tip id' => simpa [Proc.pendingId, Proc.ownedId] using h
    | update tip id' att pc =>
      simp only [Proc.pendingId] at h; split at h
      · rename_i hb; cases h; simp [Proc.ownedId, hb.1]
      · cases h
    | cleanup id' err => simpa [Proc.pendingId, Proc.ownedId] using h
  | _ => simp [Proc.pendingId] at h

theorem pending_facts {s : Store} {j nx : Nat} {p : Proc} {id : Nat} (hp : p.pendingId j = some id)
    (h : BcOK s j nx p) : 1 ≤ id ∧ ¬ Ref s j id :=
  ⟨(h.owned (pending_owned hp)).1, (h.owned (pending_owned hp)).2.2 hp⟩

theorem put_ent_facts {s : Store} {j e : Nat} {a : JAct} {v : Nat} (hrange : EntRange s j e)
    (hv : JAct.val a = some v) :
    Ext s (s.put (.ent j (e + 1)) (.entry [a])) j e ∧
    (∀ w, Ref s j w → Ref (s.put (.ent j (e + 1)) (.entry [a])) j w) ∧
    (∀ w, Ref (s.put (.ent j (e + 1)) (.entry [a])) j w → Ref s j w ∨ w = v) ∧
    Ref (s.put (.ent j (e + 1)) (.entry [a])) j v := by
  have hrput := fun w => @Ref.put_ent s j (e + 1) w [a] hrange.none_succ
  refine ⟨(Ext.put_ent hrange _).1, fun w r => (hrput w).mpr (Or.inl r),
    fun w r => ?_, (hrput v).mpr (Or.inr ⟨a, by simp, hv⟩)⟩
  rcases (hrput w).mp r with r | ⟨a', ha, hw⟩
  · exact Or.inl r
  · obtain rfl : a' = a := by simpa using ha
    rw [hv] at hw; exact Or.inr (Option.some.inj hw).symm

/-- Client c creates entry e+1 of journal j with the one action `a0`, which sets key k to v in the table at e
    (`htip`: if that moves an acknowledged branch, v's object has the old tip as parent). -/
theorem inv3_newEnt {j : Nat} {s s' : Sys} {e : Nat} (c : Nat) (a0 : JAct) (k v : Nat) (te : Table)
    (h1 : Inv1 j s e) (h3 : Inv3 j s e)
    (hstore : s'.store = s.store.put (.ent j (e + 1)) (.entry [a0])) (hv : a0.val = some v)
    (hte : tableAt s.store j e = some te) (happ : applyActs te [a0] = some (Table.set te k v))
    (hoth : ∀ c', c' ≠ c → s'.cl c' = s.cl c') (hnext : s.next ≤ s'.next) (hacks : s'.acks = s.acks)
    (hvlt : v < s'.next)
    (hpend : ∀ c' p id, c' ≠ c → (s.cl c').proc = some p → p.pendingId j = some id → id ≠ v)
    (hkind : KindOK j s' c) (hbc : ∀ p, (s'.cl c).proc = some p → BcOK s'.store j s'.next p)
    (hown : ∀ p' id, (s'.cl c).proc = some p' → p'.ownedId j = some id →
      ∃ p, (s.cl c).proc = some p ∧ p.ownedId j = some id)
    (htip : ∀ tip, Table.get te k = some tip → (∃ x ∈ s.acks, x.pool = j ∧ x.branch = k) →
      ∃ adds dels, s.store (.cobj j v) = some (.commit tip adds dels) ∧ tip < v) : Inv3 j s' (e + 1) := by
  obtain ⟨hx, hr1, hr2, hrid⟩ := put_ent_facts (a := a0) (v := v) h1.range hv
  rw [← hstore] at hx hr1 hr2 hrid
  have hcobj : ∀ w, s'.store (.cobj j w) = s.store (.cobj j w) := fun w => by
    rw [hstore]; exact Store.put_other _ _ _ _ (by simp)
  refine inv3_assemble c (fun w => w = v) (fun _ => True) h3 hoth hnext (by intro x hx'; rw [hacks]; exact hx') hr2
    (by intro w hw; subst hw; exact hvlt) (fun w _ => hcobj w) (fun _ _ _ _ _ _ => trivial) hpend hkind
    (h3.objs_keep hcobj hnext) hbc (fun p' id hp' ho => Or.inl (hown p' id hp' ho))
    (h3.ackRef_keep (fun x hx _ => by rw [← hacks]; exact hx) hr1) ?_
  intro x hx' hxj n hn1 hn2; rw [hacks] at hx'
  by_cases hne : n ≤ e
  · exact paths_keep h3 hx hr1 (fun w _ => hcobj w) x hx' hxj n hn1 hne
  · obtain rfl : n = e + 1 := by omega
    obtain ⟨t, tipx, c1, c2, c3⟩ := h3.paths x hx' hxj e h1.he (Nat.le_refl _)
    rw [hte] at c1; cases c1
    have htab : tableAt s'.store j (e + 1) = some (Table.set te k v) :=
      tableAt_succ_of (by rw [hx.tableAt e (Nat.le_refl _)]; exact hte) (by rw [hstore]; simp) happ
    by_cases hbr : x.branch = k
    · obtain ⟨adds, dels, ho, hlt⟩ := htip tipx (hbr ▸ c2) ⟨x, hx', hxj, hbr⟩
      exact ⟨_, v, htab, by rw [Table.get_set]; simp [hbr],
        .step v tipx x.id adds dels hrid ((hcobj _).trans ho) hlt (c3.mono hr1 (fun w _ => hcobj w))⟩
    · exact ⟨_, tipx, htab, by rw [Table.get_set]; simp [hbr, c2], c3.mono hr1 (fun w _ => hcobj w)⟩

theorem inv3_step_jp {j : Nat} {s : Sys} {e e' : Nat} (c slot : Nat) (k : JKind) (pc : JPc)
    (hp : (s.cl c).proc = some (.jp j slot k pc))
    (h1 : Inv1 j s e) (h2 : Inv2 j s e) (h3 : Inv3 j s e) (h1' : Inv1 j (s.step c).1 e') :
    Inv3 j (s.step c).1 e' := by
  obtain ⟨hon, hkd⟩ := Client.machine_jp hp
  have hpcOn := pcOn_of_onJ hon
  have hins : ∀ op a, k = .commit op a →
      ∃ k0 v0, op = .insert k0 v0 ∧ (v0 = 0 ∨ ∃ x ∈ s.acks, x.pool = j ∧ x.id = v0) := by
    intro op a hk
    rcases h3.kinds c op a (by rw [hkd, hk]) with h4 | ⟨b, tip, id, att, pc0, h4, _⟩
    · exact h4
    · rw [hp] at h4; cases h4
  have succ : ∀ (s' : Sys), s'.acks = s.acks →
      ((s'.cl c).proc = none ∨ ∃ k' pc', (s'.cl c).proc = some (.jp j slot k' pc') ∧
        (k' = k ∨ ∃ op a, k = .commit op a ∧ k' = .commit op (a + 1))) →
      KindOK j s' c ∧ ∀ p, (s'.cl c).proc = some p → (∀ st nx, BcOK st j nx p) ∧ p.ownedId j = none := by
    intro s' hacks hpr
    refine ⟨fun op a hk => ?_, fun p hp' => ?_⟩
    · rcases hpr with h | ⟨k', pc', h, hk'⟩
      · simp [Client.kindOn, h] at hk
      · simp [Client.kindOn, h, Proc.kindOn] at hk
        obtain ⟨a0, hk0⟩ : ∃ a0, k = .commit op a0 := by
          rcases hk' with hk' | ⟨op', a', h4, h5⟩
          · exact ⟨a, by rw [← hk', hk]⟩
          · rw [h5] at hk; cases hk; exact ⟨a', h4⟩
        obtain ⟨k1, v1, h4, h5⟩ := hins op a0 hk0
        exact Or.inl ⟨k1, v1, h4, by rw [hacks]; exact h5⟩
    · rcases hpr with h | ⟨k', pc', h, _⟩ <;> rw [h] at hp'
      · cases hp'
      · cases hp'; exact ⟨fun _ _ => trivial, rfl⟩
  have framed : ∀ (st : Store) (x : Client), (s.step c).1 = { s with store := st }.setClient c x →
      (∀ n, st (.ent j n) = s.store (.ent j n)) → headOf s.store j ≤ headOf st j →
      (∀ v, st (.cobj j v) = s.store (.cobj j v)) →
      (x.proc = none ∨ ∃ k' pc', x.proc = some (.jp j slot k' pc') ∧
        (k' = k ∨ ∃ op a, k = .commit op a ∧ k' = .commit op (a + 1))) → Inv3 j (s.step c).1 e' := by
    intro st x hs' hent hhead hcobj hpr
    obtain ⟨hstore, hnx, hacks, hcl, hoth⟩ := setClient_proj hs'
    generalize (s.step c).1 = s' at *
    obtain ⟨hk, hb⟩ := succ s' hacks (by rw [hcl]; exact hpr)
    obtain rfl := h1.end_eq h1' (by rw [hstore]; exact hent)
    exact inv3_frame c h3 hoth (by rw [hstore]; exact hent) (by rw [hstore]; exact hhead) (by rw [hstore]; exact hcobj)
      (Nat.le_of_eq hnx.symm) (fun x hx _ => by rw [← hacks]; exact hx) (fun x hx => by rw [hacks]; exact hx)
      (Or.inr ⟨hk, fun p hp' => ⟨(hb p hp').1 _ _, fun id ho => by rw [(hb p hp').2] at ho; cases ho⟩⟩)
  cases jstep_nf s.store j ((s.cl c).cache j slot) k pc with
  | cont s0 c' k' pc' ev hout hs0 hk =>
    obtain ⟨hent, hH, hobj⟩ := hs0.keeps
    exact framed s0 _ (by rw [step_jp s c hp, hout]) hent (Nat.le_of_eq hH.symm) (hobj j) (Or.inr ⟨k', pc', rfl, hk⟩)
  | stop s0 c' r ev hout hs0 =>
    obtain ⟨hent, hH, hobj⟩ := hs0.keeps
    exact framed s0 _ (by rw [step_jp s c hp, hout]) hent (Nat.le_of_eq hH.symm) (hobj j) (Or.inl rfl)
  | newHead n hpc0 hout =>
    subst hpc0
    exact framed _ _ (by rw [step_jp s c hp, hout]) (fun m => Store.put_other _ _ _ _ (by simp))
      (by rw [headOf_put_head]; have := h1.ph c n hpcOn; omega) (fun v => Store.put_other _ _ _ _ (by simp)) (Or.inl rfl)
  | newEnt pos op attempt hk hpc0 hnone hout =>
    subst hpc0
    obtain ⟨k0, v0, rfl, hv0⟩ := hins op attempt hk
    obtain ⟨hstore, hnx, hacks, hcl, hoth⟩ := setClient_proj (s' := (s.step c).1) (by rw [step_jp s c hp, hout])
    generalize (s.step c).1 = s' at *
    obtain ⟨hkind, hb⟩ := succ s' hacks (by rw [hcl]; exact Or.inr ⟨_, _, rfl, Or.inl rfl⟩)
    obtain ⟨rfl, hHe⟩ := h1.putx_end hpcOn hnone
    obtain rfl : e' = pos + 1 := EntRange.unique h1'.range (hstore ▸ h1.range.put_succ _)
    -- the constraint was checked under exactly the table at e: the key is absent there
    obtain ⟨hte, hk0⟩ : tableAt s.store j pos = some ((s.cl c).cache j slot).table ∧
        Table.get ((s.cl c).cache j slot).table k0 = none := by
      obtain ⟨_, op', a', hk', hor⟩ := h2.pcs c slot _ _ hon hkd
      rw [hk] at hk'; cases hk'
      rcases hor with ⟨h4, h5⟩ | h4
      · refine ⟨h4, ?_⟩
        simp only [JOp.check] at h5
        cases hg : Table.get ((s.cl c).cache j slot).table k0 with
        | none => rfl
        | some w => simp [hg] at h5
      · omega
    refine inv3_newEnt c (.add k0 v0) k0 v0 _ h1 h3 hstore rfl hte (by simp [applyActs, applyAct]) hoth
      (Nat.le_of_eq hnx.symm) hacks ?_ ?_ hkind (fun p hp' => (hb p hp').1 _ _)
      (fun p' id hp' ho => by rw [(hb p' hp').2] at ho; cases ho) (fun tip h => by rw [hk0] at h; cases h)
    · rcases hv0 with h | ⟨x, hx', hxj, hxv⟩
      · have := h1.alloc; omega
      · rw [← hxv, hnx]; exact h3.refLt _ (h3.ackRef x hx' hxj).1
    · intro c' p id hcc hp' hpid hh
      obtain ⟨b1, b2⟩ := pending_facts hpid (h3.bc c' p hp')
      rcases hv0 with h | ⟨x, hx', hxj, hxv⟩
      · omega
      · apply b2; rw [hh, ← hxv]; exact (h3.ackRef x hx' hxj).1

theorem inv3_step_lookup {j : Nat} {s : Sys} {e e' : Nat} (c : Nat) (b : BC) (pc : JPc)
    (hp : (s.cl c).proc = some (.bc b (.lookup pc))) (hb : b.pool = j)
    (h1 : Inv1 j s e) (h2 : Inv2 j s e) (h3 : Inv3 j s e) (h1' : Inv1 j (s.step c).1 e') :
    Inv3 j (s.step c).1 e' := by
  subst hb
  obtain ⟨hon, hkd⟩ := Client.machine_lookup hp
  have fin : ∀ (st : Store) (x : Client) (nx : Nat),
      SnapOnly s.store b.pool st →
      (x.proc = none ∨ (∃ pc', x.proc = some (.bc b (.lookup pc'))) ∨
        ∃ tip, tip < s.next ∧ nx = s.next + 1 ∧ x.proc = some (.bc b (.putObj tip s.next))) → s.next ≤ nx →
      (s.step c).1 = { s with store := st, next := nx }.setClient c x → Inv3 b.pool (s.step c).1 e' := by
    intro st x nx hs0 hx hnx hs'
    rw [hs'] at h1' ⊢
    obtain ⟨hent, hH, hobj⟩ := hs0.keeps
    replace hobj := hobj b.pool
    obtain rfl := h1.end_eq h1' hent
    have hfresh : s.store (.cobj b.pool s.next) = none := by
      cases hv : s.store (.cobj b.pool s.next) with
      | none => rfl
      | some v => obtain ⟨_, _, _, _, _, h4⟩ := h3.objs _ v hv; omega
    refine inv3_frame c h3 (fun c' h => setClient_other _ _ _ _ h) hent (Nat.le_of_eq hH.symm) hobj hnx
      (fun x hx _ => hx) (fun x hx => hx) (Or.inr ⟨?_, ?_⟩)
    · intro op a hk
      rcases hx with hx | ⟨pc', hx⟩ | ⟨tip, _, _, hx⟩ <;> simp [Client.kindOn, hx, Proc.kindOn] at hk
    · intro p hp'
      rw [setClient_same] at hp'
      -- idle: closed by hp'; left: still looking up, or the id allocated
      rcases hx with hx | ⟨pc', hx⟩ | ⟨tip, htip, rfl, hx⟩ <;> rw [hx] at hp' <;> cases hp'
      · exact ⟨trivial, fun id ho => by cases ho⟩
      · refine ⟨fun _ => ⟨by have := h1.alloc; omega, Nat.lt_succ_self _, htip, (hobj _).trans hfresh,
          fun r => ?_⟩, fun id ho => ?_⟩
        · have := h3.refLt _ (Ref.congr (fun n => (hent n).symm) r); omega
        · simp [Proc.ownedId] at ho; omega
  cases jstep_nf s.store b.pool ((s.cl c).cache b.pool b.slot) .load pc with
  | cont s0 c' k' pc' ev hout hs0 =>
    exact fin s0 _ s.next hs0 (Or.inr (Or.inl ⟨pc', rfl⟩)) (Nat.le_refl _) (by rw [step_lookup s c hp, hout])
  | stop s0 c' r ev hout hs0 _ hc =>
    rcases bcAfterLookup_cases { s with store := s0 } c ((s.cl c).setCache b.pool b.slot c') b r c'.table
      with ⟨res, h⟩ | ⟨tip, ht, h⟩
    · exact fin s0 _ s.next hs0 (Or.inl rfl) (Nat.le_refl _) (by rw [step_lookup s c hp, hout]; exact h)
    · -- a tip found in the table just loaded was written into the journal: it is an allocated id
      have htip : tip < s.next := by
        have post := jstep_tables (JPre.of_inv h1 h2 hon hkd)
        rw [hout] at post
        have hpos : c'.pos ≤ headOf s0 b.pool := by
          rw [hs0.keeps.2.1]
          exact hc.elim (fun h => h ▸ h1.cache c b.slot) (h1.known c pc _ (pcOn_of_onJ hon))
        obtain ⟨m, -, htm⟩ := (post.cache : CacheOK s0 b.pool c').hist hpos
        exact h3.refLt tip (Ref.congr (fun n => (hs0.keeps.1 n).symm) (tableAt_ref htm (Table.get_mem ht)))
      exact fin s0 _ (s.next + 1) hs0 (Or.inr (Or.inr ⟨tip, htip, rfl, rfl⟩)) (Nat.le_succ _)
        (by rw [step_lookup s c hp, hout]; exact h)
  | newEnt pos op attempt hk => cases hk
  | newHead n hpc0 =>
    subst hpc0
    obtain ⟨op, a, hk, _⟩ := h2.pcs c b.slot .load _ hon hkd
    cases hk

theorem update_check {t : Table} {k old new : Nat} (h : (JOp.update k old new).check t = none) :
    Table.get t k = some old := by
  simp only [JOp.check] at h
  split at h
  · cases h
  · rename_i x hx
    split at h
    · rename_i hxo; rw [hx, hxo]
    · cases h

theorem inv3_step_update {j : Nat} {s : Sys} {e e' : Nat} (c : Nat) (b : BC) (tip id att : Nat) (pc : JPc)
    (hp : (s.cl c).proc = some (.bc b (.update tip id att pc))) (hb : b.pool = j)
    (h1 : Inv1 j s e) (h2 : Inv2 j s e) (h3 : Inv3 j s e) (h1' : Inv1 j (s.step c).1 e') :
    Inv3 j (s.step c).1 e' := by
  subst hb
  obtain ⟨a1, a2, a3, a4, a5⟩ := h3.bc c _ hp rfl
  obtain ⟨hon, hkd⟩ := Client.machine_update hp
  have hpcOn := pcOn_of_onJ hon
  have hothid : ∀ c' p id', c' ≠ c → (s.cl c').proc = some p → p.pendingId b.pool = some id' → id' ≠ id := by
    intro c' p id' hcc hp' hpid hh
    subst hh
    exact hcc (h3.distinct c' c p _ id' hp' hp (pending_owned hpid) (by simp [Proc.ownedId]))
  have quiet : ∀ (s0 : Store) (x : Client), SnapOnly s.store b.pool s0 → pc.isPutHead = false →
      ((∃ att' pc', x.proc = some (.bc b (.update tip id att' pc')) ∧ pc'.isPutHead = false) ∨
        ∃ err, x.proc = some (.bc b (.cleanup id err))) →
      (s.step c).1 = { s with store := s0 }.setClient c x → Inv3 b.pool (s.step c).1 e' := by
    intro s0 x hs0 hnot hpr hs'
    rw [hs'] at h1' ⊢
    obtain ⟨hent, hH, hobj⟩ := hs0.keeps
    obtain rfl := h1.end_eq h1' hent
    have hnr : ¬ Ref s0 b.pool id := fun r => a5 hnot (Ref.congr (fun n => (hent n).symm) r)
    refine inv3_frame c h3 (fun c' h => setClient_other _ _ _ _ h) hent (Nat.le_of_eq hH.symm) (hobj b.pool)
      (Nat.le_refl _) (fun x hx _ => hx) (fun x hx => hx)
      (Or.inr ⟨?_, fun p hp' => ⟨?_, fun id' ho => Or.inl ⟨_, hp, ?_⟩⟩⟩)
    · intro op a hk
      rw [setClient_same] at hk ⊢
      rcases hpr with ⟨att', pc', h, _⟩ | ⟨err, h⟩
      · refine Or.inr ⟨b, tip, id, att', pc', h, rfl, ?_⟩
        simp [Client.kindOn, h, Proc.kindOn] at hk; exact hk.1.symm
      · simp [Client.kindOn, h, Proc.kindOn] at hk
    · rw [setClient_same] at hp'
      rcases hpr with ⟨att', pc', h, hnp⟩ | ⟨err, h⟩ <;> rw [h] at hp' <;> cases hp'
      · exact fun _ => ⟨a1, a2, a3, (hobj _ _).trans a4, fun _ => hnr⟩
      · exact fun _ => ⟨a1, a2, hnr⟩
    · rw [setClient_same] at hp'
      rcases hpr with ⟨att', pc', h, hnp⟩ | ⟨err, h⟩ <;> rw [h] at hp' <;> cases hp' <;>
        simpa [Proc.ownedId] using ho
  cases jstep_nf s.store b.pool ((s.cl c).cache b.pool b.slot) (.commit (.update b.branch tip id) att) pc with
  | cont s0 c' k' pc' ev hout hs0 hk hpc' _ _ hnot =>
    exact quiet s0 _ hs0 hnot (Or.inl ⟨_, pc', rfl, hpc'⟩) (by rw [step_update s c hp, hout])
  | stop s0 c' r ev hout hs0 hr _ hnot =>
    exact quiet s0 _ hs0 hnot (Or.inr ⟨r, rfl⟩) (step_update_err hp hout (hr _ _ rfl))
  | newEnt pos op attempt hk hpc0 hnone hout =>
    subst hpc0
    cases hk
    obtain ⟨hstore, hnx, hacks, hpr, hoth⟩ := setClient_proj (s' := (s.step c).1) (by rw [step_update s c hp, hout])
    replace hpr : (((s.step c).1).cl c).proc = some (.bc b (.update tip id att (.putHead (pos + 1)))) :=
      congrArg Client.proc hpr
    generalize (s.step c).1 = s' at *
    obtain ⟨rfl, -⟩ := h1.putx_end hpcOn hnone
    obtain rfl : e' = pos + 1 := EntRange.unique h1'.range (hstore ▸ h1.range.put_succ _)
    -- the constraint was checked under exactly the table at e: the branch's tip there is `tip`
    obtain ⟨te, hte, htget⟩ : ∃ t, tableAt s.store b.pool pos = some t ∧ Table.get t b.branch = some tip := by
      obtain ⟨hjp, op', a', hk', hor⟩ := h2.pcs c b.slot _ _ hon hkd
      cases hk'
      rcases hor with ⟨h4, h5⟩ | h4
      · exact ⟨_, h4, update_check h5⟩
      · have := h1.he; omega
    refine inv3_newEnt c (.update b.branch id) b.branch id te h1 h3 hstore rfl hte
      (by simp [applyActs, applyAct, htget]) hoth (Nat.le_of_eq hnx.symm) hacks (by omega) hothid ?_ ?_ ?_
      (fun tip' h _ => ⟨b.adds, b.dels, by rw [htget] at h; cases h; exact a4, by rw [htget] at h; cases h; exact a3⟩)
    · intro op a hk
      refine Or.inr ⟨b, tip, id, _, _, by rw [hpr], rfl, ?_⟩
      simp [Client.kindOn, hpr, Proc.kindOn] at hk; exact hk.1.symm
    · intro p hp'
      rw [hpr] at hp'; cases hp'
      have hcobj : s'.store (.cobj b.pool id) = s.store (.cobj b.pool id) := by
        rw [hstore]; exact Store.put_other _ _ _ _ (by simp)
      exact fun _ => ⟨a1, by omega, a3, hcobj.trans a4, fun hh => by simp [JPc.isPutHead] at hh⟩
    · intro p' id' hp' ho
      rw [hpr] at hp'; cases hp'
      exact ⟨_, hp, by simpa [Proc.ownedId] using ho⟩
  | newHead n hpc0 hout =>
    subst hpc0
    obtain ⟨hstore, hnx, hacks, hpr, hoth⟩ := setClient_proj (s' := (s.step c).1) (by rw [step_update s c hp, hout])
    replace hpr : (((s.step c).1).cl c).proc = none := congrArg Client.proc hpr
    generalize (s.step c).1 = s' at *
    obtain ⟨hne, hHe⟩ := h1.ph c n hpcOn
    have hent : ∀ m, s'.store (.ent b.pool m) = s.store (.ent b.pool m) := by
      intro m; rw [hstore]; exact Store.put_other _ _ _ _ (by simp)
    have hcobj : ∀ v, s'.store (.cobj b.pool v) = s.store (.cobj b.pool v) := fun v => by
      rw [hstore]; exact Store.put_other _ _ _ _ (by simp)
    obtain rfl := h1.end_eq h1' hent
    have hH' : headOf s'.store b.pool = n := by rw [hstore]; exact headOf_put_head _ _ _
    have hr : ∀ v, Ref s.store b.pool v → Ref s'.store b.pool v := fun v => Ref.congr hent
    have hx : Ext s.store s'.store b.pool e := ⟨fun m _ _ => hent m, by rw [hH']; omega⟩
    -- c's entry n was checked under the table at n-1: the table at e = n sends the branch to `id`
    obtain ⟨hmy, t0, ht0, hchk⟩ : s.store (.ent b.pool n) = some (.entry [.update b.branch id]) ∧
        ∃ t0, tableAt s.store b.pool (n - 1) = some t0 ∧ (JOp.update b.branch tip id).check t0 = none := by
      obtain ⟨op', a', hk', hentn, h⟩ := h2.pcs c b.slot _ _ hon hkd
      cases hk'; exact ⟨hentn, h⟩
    obtain ⟨te, hte, hteg⟩ : ∃ t, tableAt s.store b.pool e = some t ∧ Table.get t b.branch = some id := by
      refine ⟨Table.set t0 b.branch id, ?_, by rw [Table.get_set]; simp⟩
      have := tableAt_succ_of (n := n - 1) ht0 (by rw [show n - 1 + 1 = n by omega]; exact hmy)
        (show applyActs t0 [.update b.branch id] = some (Table.set t0 b.branch id) by
          simp [applyActs, applyAct, update_check hchk])
      rwa [show n - 1 + 1 = e by omega] at this
    refine inv3_assemble c (fun _ => False) (fun _ => True) h3 hoth (Nat.le_of_eq hnx.symm)
      (by intro x hx'; rw [hacks]; exact List.mem_cons_of_mem _ hx') (fun v r => Or.inl (Ref.congr (fun m => (hent m).symm) r))
      (fun _ h => h.elim) (fun v _ => hcobj v) (fun _ _ _ _ _ _ => trivial) (fun _ _ _ _ _ _ h => h) ?_
      (h3.objs_keep hcobj (Nat.le_of_eq hnx.symm)) ?_ ?_ ?_ ?_
    · intro op a hk; simp [Client.kindOn, hpr] at hk
    · intro p hp'; rw [hpr] at hp'; cases hp'
    · intro p' id' hp'; rw [hpr] at hp'; cases hp'
    · intro x hx' hxj
      rw [hacks] at hx'
      rcases List.mem_cons.mp hx' with rfl | hx'
      · exact ⟨hr _ ⟨n, _, .update b.branch id, hmy, by simp, rfl⟩, by show id ≠ 0; omega⟩
      · obtain ⟨b1, b2⟩ := h3.ackRef x hx' hxj; exact ⟨hr _ b1, b2⟩
    · intro x hx' hxj m hn1 hn2
      rw [hacks] at hx'
      rcases List.mem_cons.mp hx' with rfl | hx'
      · obtain rfl : m = e := by rw [hH'] at hn1; omega
        exact ⟨te, id, by rw [hx.tableAt m (Nat.le_refl _)]; exact hte, hteg, .refl id (by omega)⟩
      · exact paths_keep h3 hx hr (fun v _ => hcobj v) x hx' hxj m hn1 hn2

theorem inv3_exec {j : Nat} {s : Sys} {e e' : Nat} (hj : j ≠ 0) (l : Label)
    (h1 : Inv1 j s e) (h2 : Inv2 j s e) (h3 : Inv3 j s e) (hd : l.drops j = false)
    (h1' : Inv1 j (s.exec l) e') : Inv3 j (s.exec l) e' := by
  cases l with
  | truncSnap j' =>
    simp only [Sys.exec] at h1' ⊢
    have hent : ∀ n, (s.store.del (.snap j')) (.ent j n) = s.store (.ent j n) := by intro n; simp [Store.del]
    obtain rfl := h1.end_eq h1' hent
    exact inv3_frame 0 h3 (fun _ _ => rfl) hent (Nat.le_of_eq (headOf_congr _ _ _ (by simp [Store.del])).symm)
      (fun c => by simp [Store.del]) (Nat.le_refl _) (fun x hx _ => hx) (fun x hx => hx) (Or.inl rfl)
  | start c st =>
    simp only [Sys.exec] at h1' ⊢
    obtain rfl := h1.end_eq h1' fun n => by rw [(start_keeps s c st).1]
    exact inv3_start hj c st h3 (by simpa [Label.drops] using hd)
  | step c =>
    simp only [Sys.exec] at h1' ⊢
    cases hp : (s.cl c).proc with
    | none =>
      have : (s.step c).1 = s := by rw [step_idle s c hp]
      rw [this] at h1' ⊢
      obtain rfl := EntRange.unique h1.range h1'.range
      exact h3
    | some p =>
      by_cases ht : p.touches j = false
      · have f := step_frame s c j p hp ht
        have hent : ∀ n, ((s.step c).1).store (.ent j n) = s.store (.ent j n) := fun n => f.store _ rfl
        obtain rfl := h1.end_eq h1' hent
        refine inv3_frame c h3 (step_others s c) hent (Nat.le_of_eq (headOf_congr _ _ _ (f.store _ rfl)).symm)
          (fun x => f.store _ rfl) (step_next s c) f.acks (step_keeps s c).2.2 (Or.inr ⟨?_, ?_⟩)
        · intro op a hk
          cases hp' : (((s.step c).1).cl c).proc with
          | none => simp [Client.kindOn, hp'] at hk
          | some p' =>
            exact absurd (by simpa [Client.kindOn, hp'] using hk)
              ((untouched_facts (f.proc p' hp') s.store s.next).2.2 op a)
        · intro p' hp'
          obtain ⟨u1, u2, _⟩ := untouched_facts (f.proc p' hp') ((s.step c).1).store ((s.step c).1).next
          exact ⟨u2, fun id ho => by rw [u1] at ho; cases ho⟩
      · have ht' : p.touches j = true := by simpa using ht
        cases p with
        | jp j' slot k pc =>
          have : j' = j := by simpa [Proc.touches] using ht'
          subst this
          exact inv3_step_jp c slot k pc hp h1 h2 h3 h1'
        | bc b ph =>
          have hb : b.pool = j := by simpa [Proc.touches] using ht'
          cases ph with
          | lookup pc => exact inv3_step_lookup c b pc hp hb h1 h2 h3 h1'
          | putObj tip id => exact inv3_step_putObj c b tip id hp hb h1 h3 h1'
          | update tip id att pc => exact inv3_step_update c b tip id att pc hp hb h1 h2 h3 h1'
          | cleanup id err => exact inv3_step_cleanup c b id err hp hb h1 h3 h1'
        | create j' st =>
          have := h1.noreset c _ hp
          simp [Proc.touches] at ht'
          simp [Proc.resets, ht'] at this
        | openJ j' => simp [Proc.touches] at ht'
        | delPool p' =>
          have := h1.noreset c _ hp
          simp [Proc.touches] at ht'
          simp [Proc.resets, ht'] at this

def NoDrop (j : Nat) (ls : List Label) : Prop := ∀ l ∈ ls, l.drops j = false

theorem inv123_run {j : Nat} (hj : j ≠ 0) (ls : List Label) {s : Sys} {e : Nat}
    (h1 : Inv1 j s e) (h2 : Inv2 j s e) (h3 : Inv3 j s e) (hn : NoReset j ls) (hd : NoDrop j ls) :
    ∃ e', Inv1 j (s.run ls) e' ∧ Inv2 j (s.run ls) e' ∧ Inv3 j (s.run ls) e' := by
  refine Sys.run_inv ls (P := fun s' => ∃ e', Inv1 j s' e' ∧ Inv2 j s' e' ∧ Inv3 j s' e') ⟨e, h1, h2, h3⟩ ?_
  rintro s1 ⟨e1, a1, a2, a3⟩ l hl
  obtain ⟨e2, b1, _⟩ := inv1_exec l a1 (hn l hl)
  exact ⟨e2, b1, inv2_exec l a1 a2 (hn l hl) b1, inv3_exec hj l a1 a2 a3 (hd l hl) b1⟩

/-- Pool j has just been created: nothing of it exists besides the empty branches journal and
    no procedure works on it. -/
structure PoolFresh (j : Nat) (s : Sys) : Prop where
  untouched : ∀ c p, (s.cl c).proc = some p → p.touches j = false
  noobj : ∀ x, s.store (.cobj j x) = none
  noacks : ∀ x ∈ s.acks, x.pool ≠ j

theorem PoolFresh.inv3 {j s} (hf : JFresh j s) (h : PoolFresh j s) : Inv3 j s 0 := by
  have hnoref : ∀ v, ¬ Ref s.store j v := by
    rintro v ⟨n, acts, a, h1, _, _⟩; rw [hf.noent n] at h1; cases h1
  refine ⟨?_, fun v r => absurd r (hnoref v), fun x hx hxj => absurd hxj (h.noacks x hx), ?_, ?_, ?_,
    fun x hx hxj => absurd hxj (h.noacks x hx)⟩
  · intro c op a hk
    cases hp : (s.cl c).proc with
    | none => simp [Client.kindOn, hp] at hk
    | some p =>
      obtain ⟨_, _, u3⟩ := untouched_facts (h.untouched c p hp) s.store s.next
      exact absurd (by simpa [Client.kindOn, hp] using hk) (u3 op a)
  · intro x v hv; rw [h.noobj x] at hv; cases hv
  · intro c p hp; exact (untouched_facts (h.untouched c p hp) s.store s.next).2.1
  · intro c c' p p' id hp _ ho; rw [(untouched_facts (h.untouched c p hp) s.store s.next).1] at ho; cases ho

/-- States reachable from a freshly created pool j by labels that neither delete the pool nor
    remove / rename its branches. -/
def ReachB (j : Nat) (s : Sys) : Prop :=
  ∃ s0 ls, JFresh j s0 ∧ PoolFresh j s0 ∧ NoReset j ls ∧ NoDrop j ls ∧ s = s0.run ls

theorem ReachB.reach {j s} (h : ReachB j s) : Reach j s := by
  obtain ⟨s0, ls, hf, _, hn, _, rfl⟩ := h; exact ⟨s0, ls, hf, hn, rfl⟩

theorem ReachB.inv {j s} (hj : j ≠ 0) (h : ReachB j s) : ∃ e, Inv1 j s e ∧ Inv2 j s e ∧ Inv3 j s e := by
  obtain ⟨s0, ls, hf, hp, hn, hd, rfl⟩ := h
  exact inv123_run hj ls hf.inv1 hf.inv2 (hp.inv3 hf) hn hd

theorem ReachB.run {j s} (h : ReachB j s) (ls : List Label) (hn : NoReset j ls) (hd : NoDrop j ls) :
    ReachB j (s.run ls) := by
  obtain ⟨s0, l0, hf, hp, hn0, hd0, rfl⟩ := h
  exact ⟨s0, l0 ++ ls, hf, hp, List.forall_mem_append.2 ⟨hn0, hn⟩, List.forall_mem_append.2 ⟨hd0, hd⟩,
    (Sys.run_append _ _ _).symm⟩

theorem objsDecr_of_inv3 {j s e} (h3 : Inv3 j s e) : ObjsDecr s.store j := by
  intro c par adds dels ho
  obtain ⟨par', adds', dels', h4, h5, _⟩ := h3.objs c _ ho
  cases h4; exact h5

theorem ReachB.ack_chain {j : Nat} {s : Sys} (h : ReachB j s) (hj : j ≠ 0) (x : Ack) (hx : x ∈ s.acks)
    (hxj : x.pool = j) : ∃ t tip, visibleTable s.store j = some t ∧ Table.get t x.branch = some tip ∧
      (chain s.store j tip).count x.id = 1 := by
  obtain ⟨e, h1, _, h3⟩ := h.inv hj
  obtain ⟨t, tip, a1, a2, a3⟩ := h3.paths x hx hxj (headOf s.store j) (Nat.le_refl _) h1.he
  exact ⟨t, tip, a1, a2, a3.count_chain (objsDecr_of_inv3 h3)⟩

theorem exec_acks_mono (s : Sys) (l : Label) (x : Ack) (h : x ∈ s.acks) : x ∈ (s.exec l).acks := by
  cases l with
  | truncSnap j' => exact h
  | start c st => exact (start_keeps s c st).2.2 ▸ h
  | step c => exact (step_keeps s c).2.2 x h

theorem run_acks_mono (ls : List Label) (s : Sys) (x : Ack) (h : x ∈ s.acks) : x ∈ (s.run ls).acks :=
  Sys.run_inv ls (P := fun s' => x ∈ s'.acks) h fun s1 h1 l _ => exec_acks_mono s1 l x h1

/-! ### Concrete runs: a witness of `ReachB`, and the run behind `not_ack_exactly_once_if_pool_removed` -/

/-- A lake in which client 0 has just created pool 1 (Put HEAD, Put TAIL). -/
def poolCreated : Sys := Sys.init.run [.start 0 .create, .step 0, .step 0]

theorem poolCreated_cl (c : Nat) : (poolCreated.cl c).proc = none ∧ ∀ j sl, (poolCreated.cl c).cache j sl = JCache.empty := by
  by_cases h : c = 0
  · subst h; exact ⟨rfl, fun _ _ => rfl⟩
  · have : poolCreated.cl c = Sys.init.cl c := by
      simp only [poolCreated, Sys.run, Sys.exec]
      rw [step_others _ _ _ h, step_others _ _ _ h, start_others _ _ _ _ h]
    rw [this]; exact ⟨rfl, fun _ _ => rfl⟩

theorem poolCreated_store : poolCreated.store =
    (((Store.empty.put (.head 0) (.num 0)).put (.tail 0) (.tailv 1 0)).put (.head 1) (.num 0)).put (.tail 1) (.tailv 1 0) :=
  rfl

theorem poolCreated_acks : poolCreated.acks = [] := by decide

theorem poolCreated_fresh : JFresh 1 poolCreated ∧ PoolFresh 1 poolCreated := by
  have hcl := poolCreated_cl
  have hst := poolCreated_store
  refine ⟨⟨?_, ?_, ?_, ?_, ?_, ?_, ?_, ?_⟩, ⟨?_, ?_, ?_⟩⟩
  · rw [hst]; simp [Store.put]
  · intro n; rw [hst]; simp [Store.put, Store.empty]
  · intro c; simp [Client.pcOn, Client.onJ, (hcl c).1]
  · intro c sl; exact (hcl c).2 1 sl
  · rw [hst]; simp [Store.put]
  · rw [hst]; simp [Store.put, Store.empty]
  · decide
  · intro c p hp; rw [(hcl c).1] at hp; cases hp
  · intro c p hp; rw [(hcl c).1] at hp; cases hp
  · intro x; rw [hst]; simp [Store.put, Store.empty]
  · intro x hx; rw [poolCreated_acks] at hx; cases hx

/-- Client 1 creates branch 0 ("main") at the Nil commit, then clients 1 and 2 both commit to it,
    interleaved so that client 2 loses the race once, removes its object and retries. -/
def twoCommits : List Label :=
  [.start 1 (.commit 1 0 (.insert 0 0))] ++ List.replicate 3 (.step 1) ++
  [.start 1 (.bcommit 1 0 0 [5] []), .start 2 (.bcommit 1 0 0 [6] [])] ++
  List.replicate 4 (.step 1) ++ List.replicate 5 (.step 2) ++ List.replicate 4 (.step 1) ++ List.replicate 20 (.step 2)

theorem noReset_of_all {j : Nat} {ls : List Label} (h : ls.all (fun l => !(l.resets j)) = true) : NoReset j ls := by
  intro l hl; have := List.all_eq_true.mp h l hl; simpa using this

theorem noDrop_of_all {j : Nat} {ls : List Label} (h : ls.all (fun l => !(l.drops j)) = true) : NoDrop j ls := by
  intro l hl; have := List.all_eq_true.mp h l hl; simpa using this

theorem twoCommits_reach : ReachB 1 (poolCreated.run twoCommits) :=
  ⟨poolCreated, twoCommits, poolCreated_fresh.1, poolCreated_fresh.2, noReset_of_all (by decide), noDrop_of_all (by decide), rfl⟩

/-- Client 1 creates branch 0 and starts a commit; it is preempted before its put-if-absent;
    client 2 deletes pool 1 (DeleteByPrefix); client 1 resumes and is acknowledged. -/
def removedPoolLabels : List Label :=
  [.start 1 (.commit 1 0 (.insert 0 0))] ++ List.replicate 3 (.step 1) ++
  [.start 1 (.bcommit 1 0 0 [5] [])] ++ List.replicate 7 (.step 1) ++
  [.start 2 (.delPool 1), .step 2] ++ List.replicate 2 (.step 1)

end Zed.Store

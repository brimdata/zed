/-
  Lemmas for C04 (Props/C04.lean): byte search, sub-value serialisations, Walk, `BufFilter.On`.
-/
import Zed.Model.BfFilter
namespace Zed.Bf

/-! ## byte search -/

theorem prefixBy_append (eq : UInt8 → UInt8 → Bool) :
    ∀ (pat a b : Bytes), prefixBy eq pat a = true → prefixBy eq pat (a ++ b) = true
  | [], a, b, _ => by cases h : a ++ b <;> rfl
  | _ :: _, [], _, h => by simp [prefixBy] at h
  | p :: ps, x :: xs, b, h => by
    simp only [prefixBy, Bool.and_eq_true] at h
    simp only [List.cons_append, prefixBy, Bool.and_eq_true]
    exact ⟨h.1, prefixBy_append eq ps xs b h.2⟩

theorem findBy_append_right (eq : UInt8 → UInt8 → Bool) (pat : Bytes) :
    ∀ (a b : Bytes), findBy eq pat a = true → findBy eq pat (a ++ b) = true
  | [], b, h => by
    simp only [findBy] at h
    have := prefixBy_append eq pat [] b h
    simp only [List.nil_append] at this ⊢
    cases b with
    | nil => simpa [findBy] using this
    | cons y ys => simp [findBy, this]
  | x :: xs, b, h => by
    simp only [findBy, Bool.or_eq_true] at h
    simp only [List.cons_append, findBy, Bool.or_eq_true]
    rcases h with h | h
    · exact Or.inl (prefixBy_append eq pat (x :: xs) b h)
    · exact Or.inr (findBy_append_right eq pat xs b h)

theorem findBy_append_left (eq : UInt8 → UInt8 → Bool) (pat : Bytes) :
    ∀ (a b : Bytes), findBy eq pat b = true → findBy eq pat (a ++ b) = true
  | [], _, h => h
  | x :: xs, b, h => by
    simp only [List.cons_append, findBy, Bool.or_eq_true]
    exact Or.inr (findBy_append_left eq pat xs b h)

/-- `a` occurs contiguously in `b` (core's `a <:+: b`, with the equation turned round). -/
def Infix (a b : Bytes) : Prop := ∃ pre post, b = pre ++ a ++ post

theorem Infix.refl (a : Bytes) : Infix a a := ⟨[], [], by simp⟩

theorem Infix.trans {a b c : Bytes} (h1 : Infix a b) (h2 : Infix b c) : Infix a c := by
  obtain ⟨p1, q1, rfl⟩ := h1
  obtain ⟨p2, q2, rfl⟩ := h2
  exact ⟨p2 ++ p1, q1 ++ q2, by simp [List.append_assoc]⟩

theorem Infix.append_left {a b : Bytes} (pre : Bytes) (h : Infix a b) : Infix a (pre ++ b) := by
  obtain ⟨p, q, rfl⟩ := h
  exact ⟨pre ++ p, q, by simp [List.append_assoc]⟩

theorem Infix.append_right {a b : Bytes} (post : Bytes) (h : Infix a b) : Infix a (b ++ post) := by
  obtain ⟨p, q, rfl⟩ := h
  exact ⟨p, q ++ post, by simp [List.append_assoc]⟩

theorem findBy_infix (eq : UInt8 → UInt8 → Bool) (pat : Bytes) {a b : Bytes} (h : Infix a b)
    (hf : findBy eq pat a = true) : findBy eq pat b = true := by
  obtain ⟨p, q, rfl⟩ := h
  exact findBy_append_right eq pat _ q (findBy_append_left eq pat p a hf)

theorem prefixBy_self (eq : UInt8 → UInt8 → Bool) (hrefl : ∀ x, eq x x = true) :
    ∀ pat : Bytes, prefixBy eq pat pat = true
  | [] => rfl
  | p :: ps => by simp [prefixBy, hrefl, prefixBy_self eq hrefl ps]

theorem findBy_self (eq : UInt8 → UInt8 → Bool) (hrefl : ∀ x, eq x x = true) (pat : Bytes) :
    findBy eq pat pat = true := by
  cases pat with
  | nil => rfl
  | cons p ps => simp [findBy, prefixBy_self eq hrefl (p :: ps)]

theorem lowerAscii_idem (b : UInt8) : lowerAscii (lowerAscii b) = lowerAscii b := by
  unfold lowerAscii
  split
  · rename_i h
    have hb : (b + 32).toNat = b.toNat + 32 := by
      rw [UInt8.toNat_add]; simp; omega
    have : ¬ (65 ≤ (b + 32).toNat ∧ (b + 32).toNat ≤ 90) := by omega
    rw [if_neg this]
  · rfl

theorem prefixBy_lower (pat : Bytes) : ∀ s : Bytes,
    prefixBy foldEq (pat.map lowerAscii) s = prefixBy foldEq pat s := by
  induction pat with
  | nil => intro s; rfl
  | cons p ps ih =>
    intro s
    cases s with
    | nil => rfl
    | cons x xs => simp [prefixBy, foldEq, lowerAscii_idem, ih xs]

theorem findBy_lower (pat : Bytes) : ∀ s : Bytes,
    findBy foldEq (pat.map lowerAscii) s = findBy foldEq pat s
  | [] => by simp [findBy, prefixBy_lower]
  | x :: xs => by simp [findBy, prefixBy_lower, findBy_lower pat xs]

/-! ## sub-values are contiguous in the serialisation -/

theorem enc_prim_infix (b : Bytes) : Infix b (enc (.prim b)) :=
  ⟨uvarint (b.length + 1), [], by simp [enc]⟩

theorem enc_cont_infix (items : Vals) : Infix (encs items) (enc (.cont items)) :=
  ⟨uvarint ((encs items).length + 1), [], by simp [enc]⟩

theorem vals_any_infix : ∀ (items : Vals) (f : Val → Bool), items.any f = true →
    ∃ v, f v = true ∧ Infix (enc v) (encs items)
  | .nil, _, h => by simp [Vals.any] at h
  | .cons v r, f, h => by
    simp only [Vals.any, Bool.or_eq_true] at h
    rcases h with h | h
    · exact ⟨v, h, ⟨[], encs r, by simp [encs]⟩⟩
    · obtain ⟨w, hw, hi⟩ := vals_any_infix r f h
      exact ⟨w, hw, by simp only [encs]; exact hi.append_left _⟩

theorem vals_anyKV_infix : ∀ (items : Vals) (fk fv : Val → Bool), items.anyKV fk fv = true →
    ∃ v, (fk v = true ∨ fv v = true) ∧ Infix (enc v) (encs items)
  | .nil, _, _, h => by simp [Vals.anyKV] at h
  | .cons _ .nil, _, _, h => by simp [Vals.anyKV] at h
  | .cons k (.cons v r), fk, fv, h => by
    simp only [Vals.anyKV, Bool.or_eq_true] at h
    rcases h with (h | h) | h
    · exact ⟨k, Or.inl h, ⟨[], encs (.cons v r), by simp [encs]⟩⟩
    · exact ⟨v, Or.inr h, ⟨enc k, encs r, by simp [encs]⟩⟩
    · obtain ⟨w, hw, hi⟩ := vals_anyKV_infix r fk fv h
      refine ⟨w, hw, ?_⟩
      simp only [encs]
      exact (hi.append_left _).append_left _

/-! ## the evaluator's walk -/

theorem matchType_of_searchType (term : Bytes) :
    ∀ (t : Ty), searchType term t = true → matchType term t = true
  | .named _ t, h => by
    simp only [matchType]
    exact matchType_of_searchType term t (by simpa only [searchType, recordNames] using h)
  | .record fs, h => by
    simp only [searchType, recordNames] at h
    simp only [matchType, h, Bool.true_or]
  | .prim _, h | .enum _, h | .array _, h | .set _, h | .map _ _, h | .union _, h
  | .error _, h => by simp [searchType, recordNames] at h

theorem matchType_under {term : Bytes} : ∀ (t : Ty), matchType term t = matchType term (under t)
  | .named _ t => by simp only [matchType, under]; exact matchType_under t
  | .prim _ | .enum _ | .record _ | .array _ | .set _ | .map _ _ | .union _ | .error _ => rfl

theorem strLeaf_record (term : Bytes) (fs : Fields) (v : Val) : strLeaf term (.record fs) v = false := by
  simp [strLeaf, under]

/-- A view: the bytes of a body and the terms matching a field name inside its type (`enc v`,
    `matchType · t`; for a record's fields `encs items`, `matchFields · fs`; for a union's members
    `enc v`, `matchTys · ts`).  `Sub`: one view lies inside another. -/
structure Sub (b' : Bytes) (M' : Bytes → Bool) (b : Bytes) (M : Bytes → Bool) : Prop where
  bytes : Infix b' b
  names : ∀ term, M' term = true → M term = true

theorem Sub.refl (b : Bytes) (M : Bytes → Bool) : Sub b M b M := ⟨Infix.refl b, fun _ h => h⟩

theorem Sub.trans {b₁ b₂ b₃ : Bytes} {M₁ M₂ M₃ : Bytes → Bool} (h₁ : Sub b₁ M₁ b₂ M₂)
    (h₂ : Sub b₂ M₂ b₃ M₃) : Sub b₁ M₁ b₃ M₃ :=
  ⟨h₁.bytes.trans h₂.bytes, fun term h => h₂.names term (h₁.names term h)⟩

theorem Sub.under (t : Ty) (v : Val) :
    Sub (enc v) (matchType · (under t)) (enc v) (matchType · t) :=
  ⟨Infix.refl _, fun _ h => (matchType_under t).trans h⟩

theorem Sub.record (fs : Fields) (items : Vals) :
    Sub (encs items) (matchFields · fs) (enc (.cont items)) (matchType · (.record fs)) :=
  ⟨enc_cont_infix items, fun term h => by simp only [matchType, h, Bool.or_true]⟩

theorem Sub.item {M : Bytes → Bool} {w : Val} {items : Vals} (h : Infix (enc w) (encs items)) :
    Sub (enc w) M (enc (.cont items)) M :=
  ⟨h.trans (enc_cont_infix items), fun _ h => h⟩

theorem Sub.mapKey {k e : Ty} {w : Val} {items : Vals} (h : Infix (enc w) (encs items)) :
    Sub (enc w) (matchType · k) (enc (.cont items)) (matchType · (.map k e)) :=
  ⟨h.trans (enc_cont_infix items), fun term h => by simp only [matchType, h, Bool.true_or]⟩

theorem Sub.mapVal {k e : Ty} {w : Val} {items : Vals} (h : Infix (enc w) (encs items)) :
    Sub (enc w) (matchType · e) (enc (.cont items)) (matchType · (.map k e)) :=
  ⟨h.trans (enc_cont_infix items), fun term h => by simp only [matchType, h, Bool.or_true]⟩

theorem Sub.union (ts : Tys) (tag : Bytes) (x : Val) :
    Sub (enc x) (matchTys · ts) (enc (.cont (.cons (.prim tag) (.cons x .nil))))
      (matchType · (.union ts)) :=
  ⟨Infix.trans ⟨enc (.prim tag), [], by simp [encs]⟩ (enc_cont_infix _), fun _ h => h⟩

theorem Sub.fieldHead (n : Bytes) (t : Ty) (r : Fields) (x : Val) (xs : Vals) :
    Sub (enc x) (matchType · t) (encs (.cons x xs)) (matchFields · (.cons n t r)) :=
  ⟨⟨[], encs xs, by simp [encs]⟩, fun term h => by simp only [matchFields, h, Bool.true_or]⟩

theorem Sub.fieldTail (n : Bytes) (t : Ty) (r : Fields) (x : Val) (xs : Vals) :
    Sub (encs xs) (matchFields · r) (encs (.cons x xs)) (matchFields · (.cons n t r)) :=
  ⟨⟨enc x, [], by simp [encs]⟩, fun term h => by simp only [matchFields, h, Bool.or_true]⟩

theorem Sub.tysHead (t : Ty) (r : Tys) (b : Bytes) :
    Sub b (matchType · t) b (matchTys · (.cons t r)) :=
  ⟨Infix.refl _, fun term h => by simp only [matchTys, h, Bool.true_or]⟩

theorem Sub.tysTail (t : Ty) (r : Tys) (b : Bytes) :
    Sub b (matchTys · r) b (matchTys · (.cons t r)) :=
  ⟨Infix.refl _, fun term h => by simp only [matchTys, h, Bool.or_true]⟩

/-- `visit` fired on some view inside this one -/
def Hit (visit : Ty → Val → Bool) (b : Bytes) (M : Bytes → Bool) : Prop :=
  ∃ t' v', visit t' v' = true ∧ Sub (enc v') (matchType · t') b M

theorem Hit.here {visit : Ty → Val → Bool} {t : Ty} {v : Val} (h : visit t v = true) :
    Hit visit (enc v) (matchType · t) :=
  ⟨t, v, h, Sub.refl _ _⟩

theorem Hit.of_visit_or {visit : Ty → Val → Bool} {t : Ty} {v : Val} {rest : Bool}
    (h : (visit t v || rest) = true) (hr : rest = true → Hit visit (enc v) (matchType · t)) :
    Hit visit (enc v) (matchType · t) :=
  (Bool.or_eq_true_iff.1 h).elim .here hr

theorem Hit.mono {visit : Ty → Val → Bool} {b b' : Bytes} {M M' : Bytes → Bool}
    (h : Hit visit b M) (hs : Sub b M b' M') : Hit visit b' M' :=
  let ⟨t', v', hv, h'⟩ := h
  ⟨t', v', hv, h'.trans hs⟩

theorem walkAny_record (visit : Ty → Val → Bool) (skip : Bool) (fs : Fields) (v : Val) :
    walkAny visit skip (.record fs) v =
      (visit (.record fs) v || match v with
        | .cont items => walkFields visit fs items
        | _ => false) := by
  cases skip <;> rfl

theorem walkAny_array (visit : Ty → Val → Bool) (skip : Bool) (t : Ty) (v : Val) :
    walkAny visit skip (.array t) v =
      (visit (.array t) v || match v with
        | .cont items => items.any (walkAny visit false t)
        | _ => false) := by
  cases skip <;> rfl

theorem walkAny_set (visit : Ty → Val → Bool) (skip : Bool) (t : Ty) (v : Val) :
    walkAny visit skip (.set t) v =
      (visit (.set t) v || match v with
        | .cont items => items.any (walkAny visit true t)
        | _ => false) := by
  cases skip <;> rfl

theorem walkAny_map (visit : Ty → Val → Bool) (skip : Bool) (k e : Ty) (v : Val) :
    walkAny visit skip (.map k e) v =
      (visit (.map k e) v || match v with
        | .cont items => items.anyKV (walkAny visit true k) (walkAny visit true e)
        | _ => false) := by
  cases skip <;> rfl

theorem walkAny_union (visit : Ty → Val → Bool) (skip : Bool) (ts : Tys) (v : Val) :
    walkAny visit skip (.union ts) v =
      (visit (.union ts) v || match v with
        | .cont (.cons (.prim tag) (.cons x .nil)) =>
          (match decodeTag tag with
           | some i => walkUnion visit ts i x
           | none => false)
        | _ => false) := by
  cases skip <;> rfl

theorem walkAny_error (visit : Ty → Val → Bool) (skip : Bool) (t : Ty) (v : Val) :
    walkAny visit skip (.error t) v = (visit (.error t) v || walkAny visit false t v) := by
  cases skip <;> rfl

/-- Every (type, body) pair `Walk` visits is a sub-value, contiguous in the serialisation, of a
    type `FieldNameFinder.matchType` reaches.  By `Ty.rec`: `walkAny.mutual_induct` has no hypothesis
    for the members of arrays, sets and maps (`walkAny` is passed unapplied to `Vals.any`). -/
theorem walkAny_hit (t : Ty) : ∀ (visit : Ty → Val → Bool) (skip : Bool) (v : Val),
    walkAny visit skip t v = true → Hit visit (enc v) (matchType · t) := by
  apply @Ty.rec
    (motive_1 := fun t => ∀ (visit : Ty → Val → Bool) (skip : Bool) (v : Val),
      walkAny visit skip t v = true → Hit visit (enc v) (matchType · t))
    (motive_2 := fun fs => ∀ (visit : Ty → Val → Bool) (items : Vals),
      walkFields visit fs items = true → Hit visit (encs items) (matchFields · fs))
    (motive_3 := fun ts => ∀ (visit : Ty → Val → Bool) (n : Nat) (v : Val),
      walkUnion visit ts n v = true → Hit visit (enc v) (matchTys · ts))
  case prim =>
    intro id visit skip v h
    cases skip <;> exact .here h
  case enum =>
    intro n visit skip v h
    cases skip <;> exact .here h
  case record =>
    intro fs ih visit skip v h
    rw [walkAny_record] at h
    refine .of_visit_or h fun h => ?_
    split at h
    · exact (ih visit _ h).mono (.record fs _)
    · cases h
  case array =>
    intro t ih visit skip v h
    rw [walkAny_array] at h
    refine .of_visit_or h fun h => ?_
    split at h
    · obtain ⟨w, hw, hi⟩ := vals_any_infix _ _ h
      exact (ih visit false w hw).mono (.item hi)
    · cases h
  case set =>
    intro t ih visit skip v h
    rw [walkAny_set] at h
    refine .of_visit_or h fun h => ?_
    split at h
    · obtain ⟨w, hw, hi⟩ := vals_any_infix _ _ h
      exact (ih visit true w hw).mono (.item hi)
    · cases h
  case map =>
    intro k e ihk ihe visit skip v h
    rw [walkAny_map] at h
    refine .of_visit_or h fun h => ?_
    split at h
    · obtain ⟨w, hw | hw, hi⟩ := vals_anyKV_infix _ _ _ h
      · exact (ihk visit true w hw).mono (.mapKey hi)
      · exact (ihe visit true w hw).mono (.mapVal hi)
    · cases h
  case union =>
    intro ts ih visit skip v h
    rw [walkAny_union] at h
    refine .of_visit_or h fun h => ?_
    split at h
    · rename_i tag x _
      split at h
      · exact (ih visit _ x h).mono (.union ts tag x)
      · cases h
    · cases h
  case named =>  -- `matchType · (.named n t)` is `matchType · t` (likewise for `.error t`): `ih` as it stands
    intro n t ih visit skip v h
    cases skip <;> simp only [walkAny, Bool.or_eq_true] at h
    · rcases h with h | h
      · exact .here h
      · exact ih visit false v h
    · exact ih visit true v h
  case error =>
    intro t ih visit skip v h
    rw [walkAny_error] at h
    exact .of_visit_or h fun h => ih visit false v h
  case nil => intro visit items h; simp [walkFields] at h
  case cons =>
    intro n t r iht ihr visit items h
    cases items with
    | nil => simp [walkFields] at h
    | cons x xs =>
      simp only [walkFields, Bool.or_eq_true] at h
      rcases h with h | h
      · exact (iht visit false x h).mono (.fieldHead n t r x xs)
      · exact (ihr visit xs h).mono (.fieldTail n t r x xs)
  case nil => intro visit n v h; simp [walkUnion] at h
  case cons =>
    intro t r iht ihr visit n v h
    cases n with
    | zero => exact (iht visit false v (by simpa only [walkUnion] using h)).mono (.tysHead t r _)
    | succ m => exact (ihr visit m v (by simpa only [walkUnion] using h)).mono (.tysTail t r _)

/-! ## field access -/

theorem getField_sub : ∀ (fs : Fields) (items : Vals) (name : Bytes) (t : Ty) (v : Val),
    getField fs items name = some (t, v) →
      Sub (enc v) (matchType · t) (encs items) (matchFields · fs)
  | .cons n ft r, .cons x xs, name, t, v, h => by
    simp only [getField] at h
    split at h
    · obtain ⟨rfl, rfl⟩ := Prod.mk.inj (Option.some.inj h)
      exact .fieldHead n ft r x xs
    · exact (getField_sub r xs name t v h).trans (.fieldTail n ft r x xs)
  | .nil, _, _, _, _, h => by simp [getField] at h
  | .cons _ _ _, .nil, _, _, _, h => by simp [getField] at h

theorem getPath_sub : ∀ (p : List Bytes) (t : Ty) (v : Val) (t' : Ty) (v' : Val),
    getPath t v p = some (t', v') → Sub (enc v') (matchType · t') (enc v) (matchType · t)
  | [], t, v, t', v', h => by
    obtain ⟨rfl, rfl⟩ := Prod.mk.inj (Option.some.inj h)
    exact .refl _ _
  | name :: rest, t, v, t', v', h => by
    simp only [getPath] at h
    split at h
    · rename_i _ _ fs items hu
      split at h
      · rename_i ft fv hgf
        -- into the field, into the record's fields, into the record, through the type's names
        exact (getPath_sub rest ft fv t' v' h).trans <| (getField_sub fs items name ft fv hgf).trans <|
          (Sub.record fs items).trans (hu ▸ Sub.under t _)
      · cases h
    · cases h

/-! ## frames -/

theorem encFrame_infix : ∀ (frame : List (Nat × Val)) (m : Nat × Val), m ∈ frame →
    Infix (enc m.2) (encFrame frame)
  | [], _, h => by simp at h
  | (id, v) :: r, m, h => by
    simp only [List.mem_cons] at h
    rcases h with rfl | h
    · exact ⟨uvarint id, encFrame r, by simp [encFrame, encMsg]⟩
    · simp only [encFrame]; exact (encFrame_infix r m h).append_left _

theorem fieldNameFind_of_mem (ctx : Ctx) (term : Bytes) : ∀ (frame : List (Nat × Val)) (m : Nat × Val) (t : Ty),
    m ∈ frame → ctx m.1 = some t → matchType term t = true → fieldNameFind ctx term frame = true
  | [], _, _, h, _, _ => by simp at h
  | (id, v) :: r, m, t, h, hc, hs => by
    simp only [List.mem_cons] at h
    simp only [fieldNameFind, Bool.or_eq_true]
    rcases h with rfl | h
    · left
      simp only [hc]
      split
      · rename_i fs hu
        rw [matchType_under t, hu] at hs; exact hs
      · rfl
    · exact Or.inr (fieldNameFind_of_mem ctx term r m t h hc hs)

/-! ## what a buffer filter claims about one value -/

def BufFilter.On (t : Ty) (v : Val) : BufFilter → Prop
  | .and a b => a.On t v ∧ b.On t v
  | .or a b => a.On t v ∨ b.On t v
  | .fieldName pat => matchType pat t = true
  | .stringCase pat => findBy foldEq pat (enc v) = true
  | .string pat => Infix pat (enc v)

theorem BufFilter.On.sub {t t' : Ty} {v v' : Val}
    (hs : Sub (enc v') (matchType · t') (enc v) (matchType · t))
    {bf : BufFilter} : bf.On t' v' → bf.On t v := by
  induction bf with
  | and _ _ iha ihb => exact fun h => ⟨iha h.1, ihb h.2⟩
  | or _ _ iha ihb => exact fun h => h.imp iha ihb
  | fieldName pat => exact hs.names pat
  | stringCase pat => exact findBy_infix foldEq pat hs.bytes
  | string _ => exact fun h => Infix.trans h hs.bytes

theorem BufFilter.On.eval {ctx : Ctx} {frame : List (Nat × Val)} {m : Nat × Val} {t : Ty}
    (hm : m ∈ frame) (ht : ctx m.1 = some t)
    {bf : BufFilter} : bf.On t m.2 → bf.eval ctx frame (encFrame frame) = true := by
  induction bf with
  | and _ _ iha ihb => exact fun h => Bool.and_eq_true_iff.2 ⟨iha h.1, ihb h.2⟩
  | or _ _ iha ihb => exact fun h => Bool.or_eq_true_iff.2 (h.imp iha ihb)
  | fieldName pat => exact fieldNameFind_of_mem ctx pat frame m t hm ht
  | stringCase pat =>
    exact fun h => (findBy_lower pat _).trans (findBy_infix foldEq pat (encFrame_infix frame m hm) h)
  | string pat =>
    exact fun h => findBy_infix byteEq pat (Infix.trans h (encFrame_infix frame m hm))
      (findBy_self byteEq (fun x => beq_self_eq_true x) pat)

theorem BufFilter.On.of_walk {visit : Ty → Val → Bool} {t : Ty} {v : Val} {bf : BufFilter}
    (hv : ∀ t' v', visit t' v' = true → bf.On t' v') (h : walkAny visit false t v = true) :
    bf.On t v :=
  let ⟨t', v', h', hs⟩ := walkAny_hit t visit false v h
  (hv t' v' h').sub hs

/-- `h` is what `withField_tt` and `withSearched_tt` conclude. -/
theorem BufFilter.On.of_field {t : Ty} {v : Val} {p : List Bytes} {k : Ty → Val → Bool}
    {bf : BufFilter} (hk : ∀ ft fv, k ft fv = true → bf.On ft fv)
    (h : ∃ ft fv, getPath t v p = some (ft, fv) ∧ ofBool (k ft fv) = .tt) : bf.On t v :=
  let ⟨ft, fv, hg, hk'⟩ := h
  (hk ft fv (ofBool_eq_tt hk')).sub (getPath_sub p t v ft fv hg)

theorem strLeaf_on {term : Bytes} {t : Ty} {v : Val} (h : strLeaf term t v = true) :
    (BufFilter.stringCase term).On t v := by
  unfold strLeaf at h
  split at h
  · exact findBy_infix foldEq term (enc_prim_infix _) (Bool.and_eq_true_iff.1 h).2
  · cases h

theorem litEq_val {lt : Ty} {lv : Val} {t : Ty} {v : Val} (h : litEq lt lv t v = true) : lv = v := by
  simp only [litEq, Bool.and_eq_true, beq_iff_eq] at h; exact h.1.2

theorem litEq_on {lt : Ty} {lv : Val} {t : Ty} {v : Val} (h : litEq lt lv t v = true) :
    (BufFilter.string (enc lv)).On t v :=
  litEq_val h ▸ Infix.refl _

theorem inEval_on {lt : Ty} {lv : Val} {t : Ty} {v : Val} (h : inEval lt lv t v = true) :
    (BufFilter.string (enc lv)).On t v :=
  .of_walk (fun _ _ => litEq_on) h

/-- `searchString.Eval`: a record field name inside the value's type contains the term, or the
    term occurs (ASCII case folded) in the value's serialisation. -/
theorem searchString_on {term : Bytes} {t : Ty} {v : Val} (h : searchStringEval term t v = true) :
    (BufFilter.or (.stringCase term) (.fieldName term)).On t v := by
  simp only [searchStringEval, Bool.or_eq_true] at h
  rcases h with h | h
  · exact .inr (matchType_of_searchType term t h)
  · exact .of_walk (fun t' v' hv => (Bool.or_eq_true_iff.1 hv).symm.imp strLeaf_on
      (matchType_of_searchType term t')) h

/-- `search <non-string literal>`: the text occurs (case folded) in the value's serialisation, or
    the literal's tagged bytes do. -/
theorem searchLit_on {text : Bytes} {lt : Ty} {lv : Val} {t : Ty} {v : Val}
    (h : searchLitEval text lt lv t v = true) :
    (BufFilter.or (.stringCase text) (.string (enc lv))).On t v := by
  refine .of_walk (fun t' v' hv => ?_) h
  rcases Bool.or_eq_true_iff.1 hv with hv | hv
  · split at hv
    · exact .inl (findBy_infix foldEq text (enc_prim_infix _) (Bool.and_eq_true_iff.1 hv).2)
    · cases hv
  · exact .inr (litEq_on hv)

end Zed.Bf

import Zed.Proofs.TypeValueInj
namespace Zed
open Zcode List Generated.C05

namespace Ctx

/-- `t` is a type of context `c`: well-formed, and either entered or primitive -/
def has (c : Ctx) (t : Ty) : Prop := t.wf = true ∧ (t ∈ c.byID ∨ t.isComplex = false)

/-- the invariant of `context_canonical` -/
structure Inv (c : Ctx) : Prop where
  nodup : c.byID.Nodup
  wf : ∀ t ∈ c.byID, t.wf = true ∧ t.isComplex = true
  total : ∀ t ∈ c.byID, c.toType.lookup (encodeTV t) = some t
  sound : ∀ t t', t'.wf = true → c.toType.lookup (encodeTV t') = some t → t = t'
  range : ∀ k t, c.toType.lookup k = some t → c.has t
  defs : ∀ n t, c.typedefs.lookup n = some t → t ∈ c.byID ∧ ∃ x, t = .named n x
  /-- the stored serialized value of a type is its canonical serialization -/
  tvcanon : ∀ t b, c.toValue.lookup t = some b → b = encodeTV t
  /-- every type `toType` knows has a stored value (so `LookupTypeValue` answers from `toValue`) -/
  tvtotal : ∀ k t, c.toType.lookup k = some t → (c.toValue.lookup t).isSome = true

theorem inv_empty : Ctx.empty.Inv where
  nodup := by simp [Ctx.empty]
  wf := by simp [Ctx.empty]
  total := by simp [Ctx.empty]
  sound := by simp [Ctx.empty]
  range := by simp [Ctx.empty]
  defs := by simp [Ctx.empty]
  tvcanon := by simp [Ctx.empty]
  tvtotal := by simp [Ctx.empty]

-- declared once: the search goes through `List`, `UInt8`, the derived `DecidableEq Ty` at every use
instance : LawfulBEq Bytes := inferInstance
instance : LawfulBEq Ty := inferInstance

theorem lookup_cons_eq {α β} [BEq α] [LawfulBEq α] [DecidableEq α] (k k' : α) (v : β) (l : List (α × β)) :
    List.lookup k ((k', v) :: l) = if k = k' then some v else List.lookup k l := by
  rw [List.lookup_cons]
  by_cases h : k = k'
  · simp [h]
  · simp [h, beq_false_of_ne h]

/-- one more key for `t` in `toType`: what entering a type and storing a caller's bytes have in common -/
theorem Inv.add_key {c c' : Ctx} (hc : c.Inv) {k : Bytes} {t : Ty} {new : List Ty}
    (hty : c'.toType = (k, t) :: c.toType) (hdefs : c'.typedefs = c.typedefs)
    (hid : c'.byID = c.byID ++ new) (hnd : new.Nodup)
    (hnew : ∀ u ∈ new, u = t ∧ t ∉ c.byID ∧ t.isComplex = true ∧ k = encodeTV t)
    (hval : c'.toValue = c.toValue ∨ c'.toValue = (t, encodeTV t) :: c.toValue)
    (hk : ∀ u, u.wf = true → encodeTV u = k → u = t)
    (ht : c'.has t) (hvt : (c'.toValue.lookup t).isSome = true) : c'.Inv := by
  have mono : ∀ u, c.has u → c'.has u := fun u h => ⟨h.1, h.2.imp (fun h => by rw [hid]; exact mem_append_left _ h) id⟩
  have vmono : ∀ u, (c.toValue.lookup u).isSome = true → (c'.toValue.lookup u).isSome = true := by
    intro u h
    rcases hval with e | e <;> rw [e]
    · exact h
    · rw [lookup_cons_eq]; by_cases e2 : u = t
      · rw [if_pos e2]; rfl
      · rw [if_neg e2]; exact h
  refine ⟨?_, ?_, ?_, ?_, ?_, ?_, ?_, ?_⟩
  · rw [hid]
    exact nodup_append.mpr ⟨hc.nodup, hnd, fun a ha b hb e => (hnew b hb).2.1 ((hnew b hb).1 ▸ e ▸ ha)⟩
  · intro u hu
    rw [hid] at hu
    rcases mem_append.mp hu with hu | hu
    · exact hc.wf u hu
    · rw [(hnew u hu).1]; exact ⟨ht.1, (hnew u hu).2.2.1⟩
  · intro u hu
    rw [hid] at hu
    rw [hty, lookup_cons_eq]
    rcases mem_append.mp hu with hu | hu
    · by_cases e : encodeTV u = k
      · rw [if_pos e, hk u (hc.wf u hu).1 e]
      · rw [if_neg e]; exact hc.total u hu
    · rw [(hnew u hu).1, if_pos (hnew u hu).2.2.2.symm]
  · intro u u' wu' hl
    rw [hty, lookup_cons_eq] at hl
    by_cases e : encodeTV u' = k
    · rw [if_pos e] at hl; rw [hk u' wu' e]; exact (Option.some.inj hl).symm
    · rw [if_neg e] at hl; exact hc.sound u u' wu' hl
  · intro k' u hl
    rw [hty, lookup_cons_eq] at hl
    by_cases e : k' = k
    · rw [if_pos e] at hl; cases hl; exact ht
    · rw [if_neg e] at hl; exact mono u (hc.range k' u hl)
  · intro n u hl
    rw [hdefs] at hl
    obtain ⟨hm, hx⟩ := hc.defs n u hl
    exact ⟨by rw [hid]; exact mem_append_left _ hm, hx⟩
  · intro u b hl
    rcases hval with e | e <;> rw [e] at hl
    · exact hc.tvcanon u b hl
    · rw [lookup_cons_eq] at hl
      by_cases e2 : u = t
      · rw [if_pos e2] at hl; rw [e2]; exact (Option.some.inj hl).symm
      · rw [if_neg e2] at hl; exact hc.tvcanon u b hl
  · intro k' u hl
    rw [hty, lookup_cons_eq] at hl
    by_cases e : k' = k
    · rw [if_pos e] at hl; cases hl; exact hvt
    · rw [if_neg e] at hl; exact vmono u (hc.tvtotal k' u hl)

/-- entering a fresh well-formed complex type keeps the invariant -/
theorem enter_inv (c : Ctx) (hc : c.Inv) (t : Ty) (wt : t.wf = true) (ct : t.isComplex = true)
    (hmiss : c.toType.lookup (encodeTV t) = none) : (c.enter (encodeTV t) t).Inv := by
  have hnot : t ∉ c.byID := fun hm => by rw [hc.total t hm] at hmiss; simp at hmiss
  exact hc.add_key (new := [t]) rfl rfl rfl (by simp)
    (fun u hu => ⟨mem_singleton.mp hu, hnot, ct, rfl⟩) (Or.inr rfl)
    (fun u wu e => encodeTV_injective u t wu wt e) ⟨wt, Or.inl (by simp [enter])⟩ (by simp [enter])

theorem has_enter (c : Ctx) (tv : Bytes) (t u : Ty) (h : c.has u) : (c.enter tv t).has u :=
  ⟨h.1, h.2.imp (fun h => by simp [enter, h]) id⟩

theorem lookupOrEnter_hit (c : Ctx) (t t' : Ty) (h : c.toType.lookup (encodeTV t) = some t') :
    c.lookupOrEnter t = (t', c) := by
  simp only [lookupOrEnter, h]

theorem lookupOrEnter_miss (c : Ctx) (t : Ty) (h : c.toType.lookup (encodeTV t) = none) :
    c.lookupOrEnter t = (t, c.enter (encodeTV t) t) := by
  simp only [lookupOrEnter, h]

/-- a `Lookup*` call that returned `o` and left `c'`, with typedefs `d`, found or entered the
    structural type `t` -/
structure Entered (c : Ctx) (t : Ty) (d : List (Name × Ty)) (o : Option Ty) (c' : Ctx) : Prop where
  ret : o = some t
  inv : c'.Inv
  defs : c'.typedefs = d
  mono : ∀ u, c.has u → c'.has u
  has : c'.has t

theorem Entered.val {c c' : Ctx} {t r : Ty} {d : List (Name × Ty)} (h : Entered c t d (some r) c') : r = t :=
  Option.some.inj h.ret

theorem lookupOrEnter_spec (c : Ctx) (hc : c.Inv) (t : Ty) (wt : t.wf = true) (ct : t.isComplex = true) :
    Entered c t c.typedefs (some (c.lookupOrEnter t).1) (c.lookupOrEnter t).2 := by
  cases hl : c.toType.lookup (encodeTV t) with
  | some t' =>
    have e := hc.sound t' t wt hl
    subst e
    rw [lookupOrEnter_hit c _ _ hl]
    exact ⟨rfl, hc, rfl, fun u h => h, hc.range _ _ hl⟩
  | none =>
    rw [lookupOrEnter_miss c t hl]
    exact ⟨rfl, enter_inv c hc t wt ct hl, rfl, has_enter c _ t,
      ⟨wt, Or.inl (by simp [enter])⟩⟩

end Ctx
end Zed

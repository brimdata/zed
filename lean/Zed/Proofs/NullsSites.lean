import Zed.Model.NullsSites
import Zed.Proofs.CompareValEq
namespace Zed
open List

/-- where a null key goes: after every non-null key iff `nullsMax ≠ desc` -/
theorem cmpKeys_null_left (nm d : Bool) (t : Ty) (x : Val) (hx : x.isNull = false) :
    cmpKeys nm [d] [.null t] [x] = if nullsLast nm d then .gt else .lt := by
  cases d <;> cases nm <;>
    simp [cmpKeys, nullsLast, cmpVal_null_left _ t x hx, cmpVal_null_right _ t x hx]

theorem cmpKeys_null_right (nm d : Bool) (t : Ty) (x : Val) (hx : x.isNull = false) :
    cmpKeys nm [d] [x] [.null t] = if nullsLast nm d then .lt else .gt := by
  cases d <;> cases nm <;>
    simp [cmpKeys, nullsLast, cmpVal_null_left _ t x hx, cmpVal_null_right _ t x hx]

end Zed

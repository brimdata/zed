import Zed.Proofs.CompareNum
/-! The equations of `compareValues` (`cmpVal`). -/
namespace Zed

theorem isNumberId_iff (id : Nat) : isNumberId id = true ↔ id ≤ 22 := by
  simp [isNumberId, evalBounds, evalBound, Generated.C06.isNumber]; omega

/-- what is compared once both values are known to have the same underlying type -/
def cmpSameOf (nm : Bool) : Val → Val → Ordering
  | .seq _ xs, .seq _ ys => cmpVals nm xs ys
  | a, b => cmpLeaf a b

theorem cmpVal_eq (nm : Bool) (a b : Val) : cmpVal nm a b = cmpCore nm a b (cmpSameOf nm a b) := by
  fun_cases cmpSameOf nm a b
  · rw [cmpVal]
  · rename_i h; exact cmpVal.eq_2 nm a b h

theorem cmpVal_null_null (nm : Bool) (t t' : Ty) : cmpVal nm (.null t) (.null t') = .eq := by
  rw [cmpVal_eq]; simp [cmpCore, Val.isNull, ordOfInt, Generated.C06.bothNull]

theorem cmpVal_null_left (nm : Bool) (t : Ty) (b : Val) (hb : b.isNull = false) :
    cmpVal nm (.null t) b = if nm then .gt else .lt := by
  rw [cmpVal_eq]
  have h1 : (Val.null t).isNull = true := rfl
  cases nm <;> simp [cmpCore, h1, hb, ordOfInt, Generated.C06.nullA]

theorem cmpVal_null_right (nm : Bool) (t : Ty) (a : Val) (ha : a.isNull = false) :
    cmpVal nm a (.null t) = if nm then .lt else .gt := by
  rw [cmpVal_eq]
  have h1 : (Val.null t).isNull = true := rfl
  cases nm <;> simp [cmpCore, h1, ha, ordOfInt, Generated.C06.nullB]

theorem cmpVal_num (nm : Bool) (t t' : Ty) (n n' : Num) (ht : t.isNumber = true) (ht' : t'.isNumber = true) :
    cmpVal nm (.num t n) (.num t' n') = cmpNum n n' := by
  rw [cmpVal_eq]; simp [cmpCore, Val.isNull, Val.ty, Val.num?, ht, ht']

theorem cmpVals_eq_lex (nm : Bool) : (xs ys : Vals) → cmpVals nm xs ys = lexCmp (cmpVal nm) xs.toList ys.toList
  | .nil, .nil | .nil, .cons _ _ | .cons _ _, .nil => by simp only [cmpVals, Vals.toList, lexCmp]
  | .cons x xs, .cons y ys => by rw [cmpVals, Vals.toList, Vals.toList, lexCmp, cmpVals_eq_lex nm xs ys]

theorem Vals.sizeOf_toList : (xs : Vals) → ∀ v ∈ xs.toList, sizeOf v < sizeOf xs
  | .cons x r, v, h => by
    simp only [Vals.toList, List.mem_cons] at h
    rcases h with rfl | h
    · simp only [Vals.cons.sizeOf_spec]; omega
    · have := Vals.sizeOf_toList r v h; simp only [Vals.cons.sizeOf_spec]; omega

end Zed

import Zed.Model.ZngTypeValue
/-! `DecodeTypeValue` model: fuel above the input length always suffices, because every call and
    every loop iteration first consumes a byte. -/
namespace Zed.Zng.TV
open Zed.Zng Zed.Generated.C01

def Res.Sat {α : Type} (P : α → Bytes → Defs → Prop) : Res α → Prop
  | .ok a r d => P a r d
  | .fuelOut => False
  | _ => True

section
variable {α : Type} {P : α → Bytes → Defs → Prop} {x : Res α}

theorem Res.Sat.ok (h : x.Sat P) {a : α} {r : Bytes} {d : Defs} (hx : x = .ok a r d) : P a r d := by
  subst hx; exact h

theorem Res.Sat.no_fuelOut (h : x.Sat P) : x ≠ .fuelOut := by
  intro hx; subst hx; exact h

end

theorem decLength_progress {tv r : Bytes} {n : Int} (h : decLength tv = some (n, r)) : r.length < tv.length := by
  unfold decLength at h
  split at h
  · rename_i u r' hu; cases h; exact readUvarint_progress tv u _ hu
  · cases h

/-! `Sat` passes through the model's sequencing.  The scrutinee is a variable: the same lemma serves a
    call of another decoder and a recursive call under the induction hypothesis (`rdInt_then` and its
    siblings in Model/ZngTypes are the instances at one fixed call); two per type where the model
    spells the sequencing two ways (four cases, `| e => e`). -/
section
variable {β : Type} {Q : β → Bytes → Defs → Prop}

theorem len_then {tv : Bytes} {k : Int → Bytes → Res β} (h : ∀ n r, r.length < tv.length → (k n r).Sat Q) :
    (match decLength tv with | none => Res.fail | some (n, r) => k n r).Sat Q := by
  split
  · trivial
  · next n r hl => exact h n r (decLength_progress hl)

theorem name_then {P : Bytes → Bytes → Defs → Prop} {x : Res Bytes} (hx : x.Sat P)
    {k : Bytes → Bytes → Defs → Res β} (h : ∀ a r d, P a r d → (k a r d).Sat Q) :
    (match x with | .ok a r d => k a r d | .fail => .fail | .panic p => .panic p | .fuelOut => .fuelOut).Sat Q := by
  cases x with
  | ok a r d => exact h a r d hx
  | fuelOut => exact hx
  | _ => trivial

theorem ty_then {P : ZTy → Bytes → Defs → Prop} {x : Res ZTy} (hx : x.Sat P)
    {k : ZTy → Bytes → Defs → Res β} (h : ∀ a r d, P a r d → (k a r d).Sat Q) :
    (match x with | .ok a r d => k a r d | .fail => .fail | .panic p => .panic p | .fuelOut => .fuelOut).Sat Q := by
  cases x with
  | ok a r d => exact h a r d hx
  | fuelOut => exact hx
  | _ => trivial

theorem fields_then {P : List (Bytes × ZTy) → Bytes → Defs → Prop} {x : Res (List (Bytes × ZTy))} (hx : x.Sat P)
    {k : List (Bytes × ZTy) → Bytes → Defs → Res β} (h : ∀ a r d, P a r d → (k a r d).Sat Q) :
    (match x with | .ok a r d => k a r d | .fail => .fail | .panic p => .panic p | .fuelOut => .fuelOut).Sat Q := by
  cases x with
  | ok a r d => exact h a r d hx
  | fuelOut => exact hx
  | _ => trivial

theorem tys_then {P : List ZTy → Bytes → Defs → Prop} {x : Res (List ZTy)} (hx : x.Sat P)
    {k : List ZTy → Bytes → Defs → Res β} (h : ∀ a r d, P a r d → (k a r d).Sat Q) :
    (match x with | .ok a r d => k a r d | .fail => .fail | .panic p => .panic p | .fuelOut => .fuelOut).Sat Q := by
  cases x with
  | ok a r d => exact h a r d hx
  | fuelOut => exact hx
  | _ => trivial

theorem syms_then {P : List Bytes → Bytes → Defs → Prop} {x : Res (List Bytes)} (hx : x.Sat P)
    {k : List Bytes → Bytes → Defs → Res β} (h : ∀ a r d, P a r d → (k a r d).Sat Q) :
    (match x with | .ok a r d => k a r d | .fail => .fail | .panic p => .panic p | .fuelOut => .fuelOut).Sat Q := by
  cases x with
  | ok a r d => exact h a r d hx
  | fuelOut => exact hx
  | _ => trivial

end

theorem ty_then' {P Q : ZTy → Bytes → Defs → Prop} {x : Res ZTy} (hx : x.Sat P)
    {k : ZTy → Bytes → Defs → Res ZTy} (h : ∀ a r d, P a r d → (k a r d).Sat Q) :
    (match x with | .ok a r d => k a r d | e => e).Sat Q := by
  cases x with
  | ok a r d => exact h a r d hx
  | fuelOut => exact hx
  | _ => trivial

theorem tys_then' {P Q : List ZTy → Bytes → Defs → Prop} {x : Res (List ZTy)} (hx : x.Sat P)
    {k : List ZTy → Bytes → Defs → Res (List ZTy)} (h : ∀ a r d, P a r d → (k a r d).Sat Q) :
    (match x with | .ok a r d => k a r d | e => e).Sat Q := by
  cases x with
  | ok a r d => exact h a r d hx
  | fuelOut => exact hx
  | _ => trivial

theorem decName_sat {tv : Bytes} : (decName tv).Sat fun _ r _ => r.length < tv.length := by
  unfold decName
  refine len_then fun n r hr => ?_
  split
  · trivial
  · split
    · trivial
    · show (r.drop n.toNat).length < tv.length
      rw [List.length_drop]; omega

theorem decSyms_sat {n : Nat} {tv : Bytes} : (decSyms n tv).Sat fun _ r _ => r.length ≤ tv.length := by
  induction n generalizing tv with
  | zero => exact Nat.le_refl _
  | succ n ih =>
    rw [decSyms]
    refine name_then decName_sat fun s r d hr => syms_then ih fun ss r2 d2 h2 => ?_
    show r2.length ≤ tv.length; omega

/-- the three facts proved together by induction on the fuel -/
def Spec (fuel : Nat) : Prop :=
  (∀ defs bs, bs.length < fuel → (decTV fuel defs bs).Sat fun _ r _ => r.length < bs.length) ∧
  (∀ n defs bs, bs.length + 1 < fuel →
    (decFields fuel n defs bs).Sat fun _ r _ => r.length ≤ bs.length) ∧
  (∀ n defs bs, bs.length + 1 < fuel →
    (decMembers fuel n defs bs).Sat fun _ r _ => r.length ≤ bs.length)

theorem spec_all : ∀ fuel, Spec fuel := by
  intro fuel
  induction fuel with
  | zero => exact ⟨fun _ bs h => by omega, fun _ _ bs h => by omega, fun _ _ bs h => by omega⟩
  | succ fuel ih =>
    obtain ⟨ihT, ihF, ihM⟩ := ih
    refine ⟨?_, ?_, ?_⟩
    · intro defs bs hl
      cases bs with
      | nil => rw [decTV]; trivial
      | cons id tv =>
        have hl' : tv.length < fuel := by simp only [List.length_cons] at hl; omega
        have wrap (f : ZTy → ZTy) :
            (match decTV fuel defs tv with | .ok t r d => Res.ok (f t) r d | e => e).Sat
              fun _ r _ => r.length < (id :: tv).length :=
          ty_then' (ihT defs tv hl') fun t r d h => Nat.lt_succ_of_lt h
        rw [decTV]
        by_cases hc : id.toNat = typeValueNameDef
        · rw [if_pos hc]
          refine name_then decName_sat fun name r _ hr => ty_then' (ihT defs r (by omega)) fun t r2 d2 h2 => ?_
          split
          · show r2.length < tv.length + 1; omega
          · trivial
        rw [if_neg hc]
        by_cases hc : id.toNat = typeValueNameRef
        · rw [if_pos hc]
          refine name_then decName_sat fun name r _ hr => ?_
          split
          · show r.length < tv.length + 1; omega
          · trivial
        rw [if_neg hc]
        by_cases hc : id.toNat = typeValueRecord
        · rw [if_pos hc]
          refine len_then fun n r hr => ?_
          split
          · trivial
          · split
            · trivial
            · refine fields_then (ihF n.toNat defs r (by omega)) fun fs r2 d2 h2 => ?_
              split
              · trivial
              · show r2.length < tv.length + 1; omega
        rw [if_neg hc]
        by_cases hc : id.toNat = typeValueArray
        · rw [if_pos hc]; exact wrap _
        rw [if_neg hc]
        by_cases hc : id.toNat = typeValueSet
        · rw [if_pos hc]; exact wrap _
        rw [if_neg hc]
        by_cases hc : id.toNat = typeValueError
        · rw [if_pos hc]; exact wrap _
        rw [if_neg hc]
        by_cases hc : id.toNat = typeValueMap
        · rw [if_pos hc]
          refine ty_then' (ihT defs tv hl') fun k r d h1 => ty_then' (ihT d r (by omega)) fun v r2 d2 h2 => ?_
          show r2.length < tv.length + 1; omega
        rw [if_neg hc]
        by_cases hc : id.toNat = typeValueUnion
        · rw [if_pos hc]
          refine len_then fun n r hr => ?_
          split
          · trivial
          · split
            · trivial
            · refine tys_then (ihM n.toNat defs r (by omega)) fun ts r2 d2 h2 => ?_
              show r2.length < tv.length + 1; omega
        rw [if_neg hc]
        by_cases hc : id.toNat = typeValueEnum
        · rw [if_pos hc]
          refine len_then fun n r hr => ?_
          split
          · trivial
          · refine syms_then decSyms_sat fun ss r2 d2 h2 => ?_
            show r2.length < tv.length + 1; omega
        rw [if_neg hc]
        by_cases hc : primitiveIDs.contains id.toNat = true
        · rw [if_pos hc]; exact Nat.lt_succ_self _
        · rw [if_neg hc]; trivial
    · intro n defs bs hl
      cases n with
      | zero => rw [decFields]; exact Nat.le_refl _
      | succ n =>
        rw [decFields]
        refine name_then decName_sat fun name r _ hr => ty_then (ihT defs r (by omega)) fun t r2 d2 h2 =>
          fields_then (ihF n d2 r2 (by omega)) fun fs r3 d3 h3 => ?_
        show r3.length ≤ bs.length; omega
    · intro n defs bs hl
      cases n with
      | zero => rw [decMembers]; exact Nat.le_refl _
      | succ n =>
        rw [decMembers]
        -- not a `_then`: a failed member becomes a panic here (the Go loop does not test it)
        have hT := ihT defs bs (by omega)
        split
        · next t r d2 hd =>
          have := hT.ok hd
          refine tys_then' (ihM n d2 r (by omega)) fun ts r2 d3 h3 => ?_
          show r2.length ≤ bs.length; omega
        · trivial
        · trivial
        · next hd => exact hT.no_fuelOut hd

end Zed.Zng.TV

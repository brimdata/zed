/-
  Proofs about aggregate carriers (C10 / C08): partial-aggregate homomorphism, permutation
  invariance for commutative carriers, the per-instance laws, and the IEEE-addition guard.
-/
import Zed.Model.AggMonoid
namespace Zed.Proofs.AggMonoid
open Zed.Agg
variable {M N α : Type}

theorem foldl_op_acc (m : Mon M) (assoc : ∀ a b c, m.op (m.op a b) c = m.op a (m.op b c))
    (right_id : ∀ a, m.op a m.e = a) (f : α → M) (a : M) (xs : List α) :
    xs.foldl (fun s x => m.op s (f x)) a = m.op a (m.fold f xs) := by
  unfold Mon.fold
  induction xs generalizing a with
  | nil => exact (right_id a).symm
  | cons x xs ih =>
    rw [List.foldl_cons, List.foldl_cons, ih (m.op a (f x)), ih (m.op m.e (f x)), ← assoc, ← assoc,
      right_id]

theorem fold_nil (m : Mon M) (f : α → M) : m.fold f [] = m.e := rfl

theorem fold_cons (m : Mon M) (hm : m.Laws) (f : α → M) (x : α) (xs : List α) :
    m.fold f (x :: xs) = m.op (f x) (m.fold f xs) := by
  show List.foldl _ (m.op m.e (f x)) xs = _
  rw [foldl_op_acc m hm.assoc hm.right_id, hm.left_id]

theorem fold_append (m : Mon M) (hm : m.Laws) (f : α → M) (xs ys : List α) :
    m.fold f (xs ++ ys) = m.op (m.fold f xs) (m.fold f ys) :=
  List.foldl_append.trans (foldl_op_acc m hm.assoc hm.right_id f _ ys)

theorem combineAll_eq_fold (m : Mon M) (ps : List M) : m.combineAll ps = m.fold id ps := rfl

theorem combineAll_cons (m : Mon M) (hm : m.Laws) (p : M) (ps : List M) :
    m.combineAll (p :: ps) = m.op p (m.combineAll ps) :=
  fold_cons m hm id p ps

/-- from any running state `a`; the left unit law is not used -/
theorem partial_hom_acc (m : Mon M) (assoc : ∀ a b c, m.op (m.op a b) c = m.op a (m.op b c))
    (right_id : ∀ a, m.op a m.e = a) (f : α → M) (a : M) (chunks : List (List α)) :
    (chunks.map (m.fold f)).foldl m.op a = chunks.flatten.foldl (fun s x => m.op s (f x)) a := by
  induction chunks generalizing a with
  | nil => rfl
  | cons c cs ih =>
    rw [List.map_cons, List.foldl_cons, ih, List.flatten_cons, List.foldl_append,
      foldl_op_acc m assoc right_id f a c]

/-- combining per-chunk partials (in chunk order) = aggregating the concatenation; monoid laws only -/
theorem partial_hom (m : Mon M) (hm : m.Laws) (f : α → M) (chunks : List (List α)) :
    m.combineAll (chunks.map (m.fold f)) = m.fold f chunks.flatten :=
  partial_hom_acc m hm.assoc hm.right_id f m.e chunks

theorem fold_perm (m : Mon M) (hm : m.CommLaws) (f : α → M) {xs ys : List α} (h : xs.Perm ys) :
    m.fold f xs = m.fold f ys :=
  h.foldl_eq' (fun x _ y _ s => by rw [hm.assoc, hm.comm (f x), ← hm.assoc]) m.e

theorem partial_hom_perm (m : Mon M) (hm : m.CommLaws) (f : α → M) (chunks : List (List α))
    (ps : List M) (xs : List α) (hps : ps.Perm (chunks.map (m.fold f))) (hxs : xs.Perm chunks.flatten) :
    m.combineAll ps = m.fold f xs := by
  rw [combineAll_eq_fold, fold_perm m hm id hps, ← combineAll_eq_fold, partial_hom m hm.toLaws,
    fold_perm m hm f hxs]

theorem prod_laws (m : Mon M) (n : Mon N) (hm : m.Laws) (hn : n.Laws) : (m.prod n).Laws where
  assoc a b c := Prod.ext (hm.assoc a.1 b.1 c.1) (hn.assoc a.2 b.2 c.2)
  left_id a := Prod.ext (hm.left_id a.1) (hn.left_id a.2)
  right_id a := Prod.ext (hm.right_id a.1) (hn.right_id a.2)

theorem prod_commLaws (m : Mon M) (n : Mon N) (hm : m.CommLaws) (hn : n.CommLaws) : (m.prod n).CommLaws where
  toLaws := prod_laws m n hm.toLaws hn.toLaws
  comm a b := Prod.ext (hm.comm a.1 b.1) (hn.comm a.2 b.2)

theorem countMon_laws : countMon.CommLaws where
  assoc a b c := Nat.add_assoc a b c
  left_id a := Nat.zero_add a
  right_id a := Nat.add_zero a
  comm a b := Nat.add_comm a b

/-! `Kind.max` is the maximum under the injective `rank`, so it inherits the laws of `max` on `Nat`. -/

theorem kind_rank_max (a b : Kind) : (Kind.max a b).rank = max a.rank b.rank :=
  (apply_ite Kind.rank _ b a).trans Nat.max_def.symm

theorem kind_rank_inj {a b : Kind} (h : a.rank = b.rank) : a = b :=
  let ofRank : Nat → Kind := fun | 0 => .none | 1 => .uint | 2 => .int | _ => .float
  have inv : ∀ k, ofRank k.rank = k := fun k => by cases k <;> rfl
  (inv a).symm.trans ((congrArg ofRank h).trans (inv b))

theorem kindMon_laws : (Mon.mk Kind.max .none).CommLaws where
  assoc a b c := kind_rank_inj (by simp only [kind_rank_max]; exact Nat.max_assoc ..)
  left_id a := show (if 0 ≤ a.rank then a else Kind.none) = a from if_pos (Nat.zero_le _)
  right_id a := kind_rank_inj ((kind_rank_max a .none).trans (Nat.max_zero _))
  comm a b := kind_rank_inj (by simp only [kind_rank_max]; exact Nat.max_comm ..)

/-! `optOp g` and `optBool g` are core's `Option.merge g`: `g` with `none` adjoined as unit. -/

theorem optOp_eq_merge (g : Int → Int → Int) : optOp g = Option.merge g := by
  funext a b; cases a <;> cases b <;> rfl

theorem optBool_eq_merge (g : Bool → Bool → Bool) : optBool g = Option.merge g := by
  funext a b; cases a <;> cases b <;> rfl

theorem merge_laws {β : Type} (g : β → β → β) (hga : ∀ a b c, g (g a b) c = g a (g b c))
    (hgc : ∀ a b, g a b = g b a) : (Mon.mk (Option.merge g) none).CommLaws :=
  have : Std.Associative g := ⟨hga⟩
  have : Std.Commutative g := ⟨hgc⟩
  { assoc := Std.Associative.assoc (op := Option.merge g)
    left_id := fun _ => Option.merge_none_left
    right_id := fun _ => Option.merge_none_right
    comm := Std.Commutative.comm (op := Option.merge g) }

theorem optOp_laws (g : Int → Int → Int) (hga : ∀ a b c, g (g a b) c = g a (g b c))
    (hgc : ∀ a b, g a b = g b a) : (Mon.mk (optOp g) none).CommLaws :=
  optOp_eq_merge g ▸ merge_laws g hga hgc

theorem optBool_laws (g : Bool → Bool → Bool) (hga : ∀ a b c, g (g a b) c = g a (g b c))
    (hgc : ∀ a b, g a b = g b a) : (Mon.mk (optBool g) none).CommLaws :=
  optBool_eq_merge g ▸ merge_laws g hga hgc

theorem mathSt_ext {a b : MathSt} (hk : a.kind = b.kind) (ha : a.acc = b.acc) : a = b :=
  congr (congrArg MathSt.mk hk) ha

theorem mathMon_laws (g : Int → Int → Int) (hga : ∀ a b c, g (g a b) c = g a (g b c))
    (hgc : ∀ a b, g a b = g b a) : (mathMon g).CommLaws :=
  have ho := optOp_laws g hga hgc
  { assoc := fun a b c =>
      mathSt_ext (kindMon_laws.assoc a.kind b.kind c.kind) (ho.assoc a.acc b.acc c.acc)
    left_id := fun a => mathSt_ext (kindMon_laws.left_id a.kind) (ho.left_id a.acc)
    right_id := fun a => mathSt_ext (kindMon_laws.right_id a.kind) (ho.right_id a.acc)
    comm := fun a b => mathSt_ext (kindMon_laws.comm a.kind b.kind) (ho.comm a.acc b.acc) }

theorem sumMon_laws : sumMon.CommLaws :=
  mathMon_laws _ Int.add_assoc Int.add_comm

-- `min` and `max` on `Int` unfold to the `if`s of `minMon` and `maxMon` (`Int.min_def`, `Int.max_def`)
theorem minMon_laws : minMon.CommLaws :=
  mathMon_laws _ Int.min_assoc Int.min_comm

theorem maxMon_laws : maxMon.CommLaws :=
  mathMon_laws _ Int.max_assoc Int.max_comm

theorem avgMon_laws : avgMon.CommLaws :=
  prod_commLaws ⟨(· + ·), 0⟩ countMon ⟨⟨Int.add_assoc, Int.zero_add, Int.add_zero⟩, Int.add_comm⟩
    countMon_laws

theorem andMon_laws : andMon.CommLaws := optBool_laws _ Bool.and_assoc Bool.and_comm

theorem orMon_laws : orMon.CommLaws := optBool_laws _ Bool.or_assoc Bool.or_comm

theorem setMon_laws : setMon.CommLaws where
  assoc a b c := funext fun x => Bool.or_assoc (a x) (b x) (c x)
  left_id a := funext fun x => Bool.false_or (a x)
  right_id a := funext fun x => Bool.or_false (a x)
  comm a b := funext fun x => Bool.or_comm (a x) (b x)

theorem collectMon_laws : collectMon.Laws where
  assoc a b c := List.append_assoc a b c
  left_id a := List.nil_append a
  right_id a := List.append_nil a

theorem not_collectMon_comm : ¬ (∀ a b, collectMon.op a b = collectMon.op b a) :=
  fun h => absurd (h ["a"] ["b"]) (by decide)

theorem collect_fold (xs : List AVal) : collectMon.fold collectF xs = xs.flatMap collectF := by
  induction xs with
  | nil => rfl
  | cons x xs ih => rw [fold_cons _ collectMon_laws, ih, List.flatMap_cons]; rfl

theorem absSum_nil : absSum [] = 0 := rfl
theorem absSum_cons (x : Int) (xs : List Int) : absSum (x :: xs) = x.natAbs + absSum xs := rfl
theorem absSum_append (xs ys : List Int) : absSum (xs ++ ys) = absSum xs + absSum ys := by
  unfold absSum
  rw [List.map_append, List.sum_append]

theorem natAbs_sum_le (xs : List Int) : xs.sum.natAbs ≤ absSum xs := by
  induction xs with
  | nil => exact Nat.le_refl 0
  | cons x xs ih => exact Nat.le_trans (Int.natAbs_add_le x xs.sum) (Nat.add_le_add_left ih _)

theorem fadd_exact (rnd : Int → Int) (a b : Int) (h : a.natAbs + b.natAbs < exactBound) :
    fadd rnd a b = a + b :=
  if_pos (Nat.lt_of_le_of_lt (Int.natAbs_add_le a b) h)

/-- adding `x`, of magnitude at most `w`, to `acc` is exact and leaves the room `r` the rest needs -/
theorem fadd_exact_step (rnd : Int → Int) {acc x : Int} {w r : Nat} (hx : x.natAbs ≤ w)
    (h : acc.natAbs + (w + r) < exactBound) :
    fadd rnd acc x = acc + x ∧ (acc + x).natAbs + r < exactBound := by
  have hw : acc.natAbs + x.natAbs ≤ acc.natAbs + w := Nat.add_le_add_left hx _
  refine ⟨fadd_exact rnd acc x (Nat.lt_of_le_of_lt (Nat.le_trans hw ?_) h), Nat.lt_of_le_of_lt ?_ h⟩
  · exact Nat.add_le_add_left (Nat.le_add_right w r) _
  · rw [← Nat.add_assoc]
    exact Nat.add_le_add_right (Nat.le_trans (Int.natAbs_add_le acc x) hw) r

theorem foldl_fadd_exact (rnd : Int → Int) (acc : Int) (xs : List Int)
    (h : acc.natAbs + absSum xs < exactBound) : xs.foldl (fadd rnd) acc = acc + xs.sum := by
  induction xs generalizing acc with
  | nil => exact (Int.add_zero acc).symm
  | cons x xs ih =>
    obtain ⟨hx, hxs⟩ := fadd_exact_step rnd (Nat.le_refl x.natAbs) h
    rw [List.foldl_cons, hx, ih _ hxs, List.sum_cons, Int.add_assoc]

theorem exact_from_zero {n : Nat} (h : n < exactBound) : (0 : Int).natAbs + n < exactBound :=
  (Nat.zero_add n).symm ▸ h

/-- under ExactlySummable the float sum equals the exact integer sum, for ANY rounding function -/
theorem fsum_exact (rnd : Int → Int) (xs : List Int) (h : ExactlySummable xs) : fsum rnd xs = xs.sum :=
  (foldl_fadd_exact rnd 0 xs (exact_from_zero h)).trans (Int.zero_add _)

theorem foldl_fadd_chunks (rnd : Int → Int) (acc : Int) (chunks : List (List Int))
    (h : acc.natAbs + absSum chunks.flatten < exactBound) :
    (chunks.map (fsum rnd)).foldl (fadd rnd) acc = acc + chunks.flatten.sum := by
  induction chunks generalizing acc with
  | nil => exact (Int.add_zero acc).symm
  | cons c cs ih =>
    rw [List.flatten_cons, absSum_append] at h
    obtain ⟨hc, hcs⟩ := fadd_exact_step rnd (natAbs_sum_le c) h
    have hc' : ExactlySummable c :=
      Nat.lt_of_le_of_lt (Nat.le_trans (Nat.le_add_right _ _) (Nat.le_add_left _ _)) h
    rw [List.map_cons, List.foldl_cons, fsum_exact rnd c hc', hc, ih _ hcs, List.flatten_cons,
      List.sum_append, Int.add_assoc]

theorem fsum_partial_hom (rnd : Int → Int) (chunks : List (List Int)) (h : ExactlySummable chunks.flatten) :
    (chunks.map (fsum rnd)).foldl (fadd rnd) 0 = fsum rnd chunks.flatten := by
  rw [foldl_fadd_chunks rnd 0 chunks (exact_from_zero h), fsum_exact rnd _ h, Int.zero_add]

theorem absSum_perm {xs ys : List Int} (hp : xs.Perm ys) : absSum xs = absSum ys :=
  (hp.map _).sum_nat

theorem sum_perm_int {xs ys : List Int} (hp : xs.Perm ys) : xs.sum = ys.sum :=
  hp.foldr_eq' (fun x _ y _ z => Int.add_left_comm y x z) 0

theorem foldl_favgStep (rnd : Int → Int) (s : Int × Nat) (xs : List Int) :
    xs.foldl (favgStep rnd) s = (xs.foldl (fadd rnd) s.1, s.2 + xs.length) := by
  induction xs generalizing s with
  | nil => rfl
  | cons x xs ih =>
    simp only [List.foldl_cons, ih, favgStep, List.length_cons, Nat.add_assoc, Nat.add_comm 1]

theorem favg_eq (rnd : Int → Int) (xs : List Int) : favg rnd xs = (fsum rnd xs, xs.length) :=
  (foldl_favgStep rnd (0, 0) xs).trans (congrArg (Prod.mk _) (Nat.zero_add _))

theorem foldl_favgCombine (rnd : Int → Int) (s : Int × Nat) (ps : List (Int × Nat)) :
    ps.foldl (favgCombine rnd) s =
      ((ps.map (·.1)).foldl (fadd rnd) s.1, s.2 + (ps.map (·.2)).sum) := by
  induction ps generalizing s with
  | nil => rfl
  | cons p ps ih =>
    simp only [List.foldl_cons, ih, favgCombine, List.map_cons, List.sum_cons, Nat.add_assoc]

theorem favg_partial_hom (rnd : Int → Int) (chunks : List (List Int)) (h : ExactlySummable chunks.flatten) :
    (chunks.map (favg rnd)).foldl (favgCombine rnd) (0, 0) = favg rnd chunks.flatten := by
  simp only [foldl_favgCombine, List.map_map, Function.comp_def, favg_eq, List.length_flatten,
    fsum_partial_hom rnd chunks h, Nat.zero_add]

/-- without the guard the homomorphism fails for a genuine rounding (to even integers): 2^53 + 1 + 1
    rounds back to 2^53 twice, 2^53 + 2 is exact -/
theorem not_fsum_partial_hom : ∃ (rnd : Int → Int) (chunks : List (List Int)),
    (chunks.map (fsum rnd)).foldl (fadd rnd) 0 ≠ fsum rnd chunks.flatten :=
  ⟨fun x => x - x % 2, [[9007199254740992], [1, 1]], by decide⟩

end Zed.Proofs.AggMonoid

/-
  `foldl_invariant` (an invariant of a left fold over its input), and lists of legs for "an operator copied into
  the legs of a parallel plan" (OptLift, ParLifts): a limit copied into the legs is a `Cut`.  No model is imported.
-/
namespace Zed.Proofs.ListLift

/-- a property of (state, input consumed, input to come) that every step keeps is kept by a run -/
theorem foldl_invariant {σ α : Type} {step : σ → α → σ} {I : σ → List α → List α → Prop}
    (hstep : ∀ st xs r ys, I st xs (r :: ys) → I (step st r) (xs ++ [r]) ys)
    (b : List α) {st : σ} {xs ys : List α} (h : I st xs (b ++ ys)) :
    I (b.foldl step st) (xs ++ b) ys := by
  induction b generalizing st xs with
  | nil => rw [List.append_nil]; exact h
  | cons r b ih =>
    have := ih (hstep _ _ _ _ h)
    rwa [List.append_assoc] at this

theorem foldl_batches_invariant {σ α : Type} {batch : σ → List α → σ}
    {I : σ → List α → List α → Prop}
    (hbatch : ∀ st xs b ys, I st xs (b ++ ys) → I (batch st b) (xs ++ b) ys)
    (bs : List (List α)) {st : σ} {xs ys : List α} (h : I st xs (bs.flatten ++ ys)) :
    I (bs.foldl batch st) (xs ++ bs.flatten) ys := by
  induction bs generalizing st xs with
  | nil => rw [List.flatten_nil, List.append_nil]; exact h
  | cons b bs ih =>
    rw [List.flatten_cons, List.append_assoc] at h
    have := ih (hbatch _ _ _ _ h)
    rwa [List.append_assoc, ← List.flatten_cons] at this

variable {α : Type}

theorem flatten_split_perm (f g : List α → List α) (hfg : ∀ l, (f l ++ g l).Perm l)
    (legs : List (List α)) : legs.flatten.Perm ((legs.map f).flatten ++ (legs.map g).flatten) := by
  induction legs with
  | nil => exact List.Perm.nil
  | cons l ls ih =>
    have h := (hfg l).symm.append ih
    rw [List.append_assoc] at h
    rw [List.map_cons, List.map_cons, List.flatten_cons, List.flatten_cons, List.flatten_cons,
      List.append_assoc]
    exact h.trans ((List.perm_append_comm_assoc _ _ _).append_left _)

theorem flatten_map_perm (f : List α → List α) (legs : List (List α)) (h : ∀ l ∈ legs, (f l).Perm l) :
    (legs.map f).flatten.Perm legs.flatten := by
  induction legs with
  | nil => exact List.Perm.nil
  | cons l ls ih =>
    rw [List.map_cons, List.flatten_cons, List.flatten_cons]
    exact (h l List.mem_cons_self).append (ih fun l' hl' => h l' (List.mem_cons_of_mem _ hl'))

/-- `keep` cuts `min n` elements off a list, `rest` is what it leaves -/
structure Cut (n : Nat) (keep rest : List α → List α) : Prop where
  perm : ∀ l, (keep l ++ rest l).Perm l
  length_keep : ∀ l, (keep l).length = min n l.length

theorem Cut.head (n : Nat) : Cut n (List.take n) (List.drop n : List α → List α) :=
  ⟨fun l => .of_eq (List.take_append_drop n l), fun _ => List.length_take⟩

theorem Cut.tail (n : Nat) :
    Cut n (fun l : List α => l.drop (l.length - n)) (fun l => l.take (l.length - n)) :=
  ⟨fun l => List.perm_append_comm.trans (.of_eq (List.take_append_drop _ l)),
   fun _ => List.length_drop.trans ((Nat.sub_sub_eq_min _ _).trans (Nat.min_comm _ _))⟩

variable {n : Nat} {keep rest : List α → List α}

theorem Cut.rest_nil (c : Cut n keep rest) {l : List α} (h : (keep l).length < n) : rest l = [] := by
  have h1 := (c.perm l).length_eq
  rw [c.length_keep] at h
  rw [List.length_append, c.length_keep] at h1
  exact List.eq_nil_of_length_eq_zero (by omega)

theorem Cut.flatten_rest_nil (c : Cut n keep rest) {legs : List (List α)}
    (hlt : (legs.map keep).flatten.length < n) : (legs.map rest).flatten = [] := by
  induction legs with
  | nil => rfl
  | cons l ls ih =>
    rw [List.map_cons, List.flatten_cons, List.length_append] at hlt
    rw [List.map_cons, List.flatten_cons, c.rest_nil (Nat.lt_of_le_of_lt (Nat.le_add_right _ _) hlt),
      ih (Nat.lt_of_le_of_lt (Nat.le_add_left _ _) hlt), List.append_nil]

theorem Cut.regroup (c : Cut n keep rest) {legs : List (List α)} {q : List α}
    (hq : q.Perm (legs.map keep).flatten) : (q ++ (legs.map rest).flatten).Perm legs.flatten :=
  (hq.append_right _).trans (flatten_split_perm keep rest c.perm legs).symm

/-- `regroup` and `flatten_rest_nil` together, as the optimizer's `head`/`tail` lifts use them -/
theorem Cut.lift (c : Cut n keep rest) {legs : List (List α)} {q : List α}
    (hq : q.Perm (legs.map keep).flatten) :
    ∃ r, (q ++ r).Perm legs.flatten ∧ (q.length < n → r = []) :=
  ⟨_, c.regroup hq, fun h => c.flatten_rest_nil (hq.length_eq ▸ h)⟩

theorem Cut.min_flatten_length (c : Cut n keep rest) (legs : List (List α)) :
    min n (legs.map keep).flatten.length = min n legs.flatten.length := by
  have hl := (flatten_split_perm keep rest c.perm legs).length_eq
  rw [List.length_append] at hl
  by_cases h : (legs.map keep).flatten.length < n
  · rw [hl, c.flatten_rest_nil h, List.length_nil, Nat.add_zero]
  · rw [Nat.min_eq_left (Nat.le_of_not_lt h),
      Nat.min_eq_left (hl ▸ Nat.le_trans (Nat.le_of_not_lt h) (Nat.le_add_right _ _))]

end Zed.Proofs.ListLift

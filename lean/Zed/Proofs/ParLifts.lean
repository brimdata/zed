/-
  `head n`, `tail n` and filters lifted into the scatter legs (C08): the optimizer copies the operator
  into every leg of a scatter whose sorted outputs are fanned in with `merge` (and keeps head/tail
  after the merge).  Results are defined only up to the order of ties, so soundness is stated as:
  the parallel result is a sorted "smallest n" (head) / "largest n" (tail) selection of ALL rows,
  resp. a sorted permutation of the filtered rows.  Everything below uses only that a merge is a
  sorted permutation of the legs' contents (`kmerge_perm`, `kmerge_sorted`); head and tail are the
  two instances of `select_lift` (tail under the reversed order).
-/
import Zed.Model.ParScatter
import Zed.Proofs.ParScatter
import Zed.Proofs.ParSortLift
import Zed.Proofs.ListLift
namespace Zed.Proofs.ParLifts
open Zed.Par Zed.Agg
open Zed.Proofs.ParSortLift
open Zed.Proofs.ListLift (Cut)
variable {ρ : Type}

theorem sorted_take_le_drop (le : ρ → ρ → Bool) {L : List ρ}
    (hs : L.Pairwise (fun x y => le x y = true)) (n : Nat) :
    ∀ x ∈ L.take n, ∀ y ∈ L.drop n, le x y = true := by
  have h : (L.take n ++ L.drop n).Pairwise (fun x y => le x y = true) := by
    rw [List.take_append_drop]; exact hs
  exact (List.pairwise_append.1 h).2.2

theorem sorted_map_of_sublist (le : ρ → ρ → Bool) (f : List ρ → List ρ) (hf : ∀ l, (f l).Sublist l)
    {legs : List (List ρ)} (hs : ∀ l ∈ legs, l.Pairwise (fun x y => le x y = true)) :
    ∀ l ∈ legs.map f, l.Pairwise (fun x y => le x y = true) := by
  intro l' hl'
  obtain ⟨l, hl, rfl⟩ := List.mem_map.1 hl'
  exact (hs l hl).sublist (hf l)

theorem length_lt_of_filter (q : ρ → Bool) {A R F M : List ρ} (hp : (A ++ R).Perm F)
    (hM : M.Sublist F) (hq : ∀ z ∈ M, q z = true) (hR : ∀ w ∈ R, ¬ q w = true)
    {x : ρ} (hx : x ∈ A) (hqx : ¬ q x = true) : M.length < A.length := by
  have h := Nat.le_trans (hM.filter q).length_le (Nat.le_of_eq (hp.filter q).length_eq.symm)
  rw [List.filter_eq_self.2 hq, List.filter_append, List.filter_eq_nil_iff.2 hR, List.append_nil] at h
  exact Nat.lt_of_le_of_lt h (List.length_filter_lt_length_iff_exists.2 ⟨x, hx, hqx⟩)

/-- pigeonhole: `A ++ R` is a permutation of `F` with `A` below `R`; if `F` has at least `|A|`
    elements below `y`, then all of `A` is below `y` -/
theorem le_of_many_below (le : ρ → ρ → Bool) (hle : TotalPreorder le) {A R F M : List ρ}
    (hp : (A ++ R).Perm F) (hAR : ∀ x ∈ A, ∀ w ∈ R, le x w = true) (hM : M.Sublist F)
    (hlen : A.length ≤ M.length) {y : ρ} (hMy : ∀ z ∈ M, le z y = true) :
    ∀ x ∈ A, le x y = true := by
  intro x hx
  cases hxy : le x y with
  | true => rfl
  | false =>
    -- otherwise "strictly below `x`" holds on all of `M`, nowhere in `R`, and not of `x` itself
    refine absurd (length_lt_of_filter (fun z => !le x z) hp hM ?_ ?_ hx ?_) (Nat.not_lt.2 hlen)
    · intro z hz
      cases hxz : le x z with
      | false => rfl
      | true => rw [hle.trans x z y hxz (hMy z hz)] at hxy; cases hxy
    · intro w hw
      rw [hAR x hx w hw]; exact Bool.false_ne_true
    · rw [hle.refl x]; exact Bool.false_ne_true

/-- `f` cuts `min n` elements off a list, `g` is what it leaves (`Cut n f g`).  If the cut part lies
    below the rest in every leg, and also in a permutation `out'` of the legs' cut parts, then `f out'`
    lies below everything else.  (`head`: `take`/`drop`; `tail`: `lastN`/`dropLastN`, reversed order.) -/
theorem select_lift (le : ρ → ρ → Bool) (hle : TotalPreorder le) {n : Nat} {f g : List ρ → List ρ}
    (c : Cut n f g) {legs : List (List ρ)} {out' : List ρ}
    (hlegs : ∀ l ∈ legs, ∀ x ∈ f l, ∀ y ∈ g l, le x y = true)
    (hp : out'.Perm (legs.map f).flatten) (hout : ∀ x ∈ f out', ∀ y ∈ g out', le x y = true) :
    legs.flatten.Perm (f out' ++ (g out' ++ (legs.map g).flatten)) ∧
    (∀ x ∈ f out', ∀ y ∈ g out' ++ (legs.map g).flatten, le x y = true) ∧
    (f out').length = min n legs.flatten.length := by
  refine ⟨?_, ?_, ?_⟩
  · rw [← List.append_assoc]
    exact (c.regroup ((c.perm out').trans hp)).symm
  · intro x hx y hy
    rcases List.mem_append.1 hy with hy | hy
    · exact hout x hx y hy
    · obtain ⟨l', hl', hyl'⟩ := List.mem_flatten.1 hy
      obtain ⟨l, hl, rfl⟩ := List.mem_map.1 hl'
      -- `g l` is not empty, so `f l` has `n` elements, and all of them are below `y`
      have hn : n ≤ (f l).length := Nat.le_of_not_lt fun h => List.ne_nil_of_mem hyl' (c.rest_nil h)
      refine le_of_many_below le hle ((c.perm out').trans hp) hout
        (List.sublist_flatten_of_mem (List.mem_map_of_mem hl)) ?_
        (fun z hz => hlegs l hl z hz y hyl') x hx
      rw [c.length_keep out']
      exact Nat.le_trans (Nat.min_le_left _ _) hn
  · rw [c.length_keep, hp.length_eq]
    exact c.min_flatten_length legs

/-- `T` is a sorted selection of smallest elements of `all`: `all` is a permutation of `T ++ rest`, T is sorted,
    and everything in `rest` is ≥ everything in T -/
structure SmallestSel (le : ρ → ρ → Bool) (T rest all : List ρ) : Prop where
  perm : all.Perm (T ++ rest)
  sorted : T.Pairwise (fun x y => le x y = true)
  below : ∀ x ∈ T, ∀ y ∈ rest, le x y = true

/-- sequential plan, stated for any sorted permutation `out` of the rows -/
theorem head_seq_core (le : ρ → ρ → Bool) (n : Nat) {all out : List ρ}
    (hp : out.Perm all) (hso : out.Pairwise (fun x y => le x y = true)) :
    SmallestSel le (out.take n) (out.drop n) all ∧ (out.take n).length = min n all.length := by
  refine ⟨⟨?_, ?_, ?_⟩, ?_⟩
  · rw [List.take_append_drop]; exact hp.symm
  · exact hso.sublist (List.take_sublist n out)
  · exact sorted_take_le_drop le hso n
  · rw [List.length_take, hp.length_eq]

/-- sequential plan: `head n` of a merge of the legs is a smallest-n selection -/
theorem head_seq (le : ρ → ρ → Bool) (hle : TotalPreorder le) (n : Nat) {legs : List (List ρ)} {out : List ρ}
    (hs : ∀ l ∈ legs, l.Pairwise (fun x y => le x y = true)) (h : KMerge le legs out) :
    SmallestSel le (out.take n) (out.drop n) legs.flatten ∧ (out.take n).length = min n legs.flatten.length :=
  head_seq_core le n (kmerge_perm le h) (kmerge_sorted le hle hs h)

/-- parallel plan, stated for any sorted permutation `out'` of the truncated legs -/
theorem head_lift_core (le : ρ → ρ → Bool) (hle : TotalPreorder le) (n : Nat) {legs : List (List ρ)} {out' : List ρ}
    (hs : ∀ l ∈ legs, l.Pairwise (fun x y => le x y = true))
    (hp : out'.Perm (legs.map (List.take n)).flatten) (hso : out'.Pairwise (fun x y => le x y = true)) :
    SmallestSel le (out'.take n) (out'.drop n ++ (legs.map (List.drop n)).flatten) legs.flatten ∧
    (out'.take n).length = min n legs.flatten.length := by
  have h := select_lift le hle (Cut.head n)
    (fun l hl => sorted_take_le_drop le (hs l hl) n) hp (sorted_take_le_drop le hso n)
  exact ⟨⟨h.1, hso.sublist (List.take_sublist n out'), h.2.1⟩, h.2.2⟩

/-- parallel plan: `head n` in every leg, merge, `head n` again: also a smallest-n selection
    of ALL rows (so it equals the sequential result up to the choice among tied rows at the cut) -/
theorem head_lift_sound (le : ρ → ρ → Bool) (hle : TotalPreorder le) (n : Nat) {legs : List (List ρ)} {out' : List ρ}
    (hs : ∀ l ∈ legs, l.Pairwise (fun x y => le x y = true))
    (h : KMerge le (legs.map (List.take n)) out') :
    SmallestSel le (out'.take n) (out'.drop n ++ (legs.map (List.drop n)).flatten) legs.flatten ∧
    (out'.take n).length = min n legs.flatten.length :=
  head_lift_core le hle n hs (kmerge_perm le h)
    (kmerge_sorted le hle (sorted_map_of_sublist le _ (List.take_sublist n) hs) h)

/-- the final re-application is needed: without it the parallel plan returns up to k·n rows -/
theorem not_head_lift_without_reapply :
    ∃ (legs : List (List Int)) (out' : List Int) (n : Nat),
      KMerge (fun a b => decide (a ≤ b)) (legs.map (List.take n)) out' ∧ out'.length > n := by
  refine ⟨[[1, 2], [1, 3]], [1, 1], 1, ?_, by decide⟩
  refine KMerge.step (i := 0) (t := []) rfl (by decide) ?_
  refine KMerge.step (i := 1) (t := []) rfl (by decide) ?_
  exact KMerge.done (by decide)

/-- largest-n selection (mirror image) -/
structure LargestSel (le : ρ → ρ → Bool) (T rest all : List ρ) : Prop where
  perm : all.Perm (rest ++ T)
  sorted : T.Pairwise (fun x y => le x y = true)
  above : ∀ x ∈ T, ∀ y ∈ rest, le y x = true

def lastN (n : Nat) (l : List ρ) : List ρ := l.drop (l.length - n)
def dropLastN (n : Nat) (l : List ρ) : List ρ := l.take (l.length - n)

theorem cut_lastN (n : Nat) : Cut n (lastN n) (dropLastN n : List ρ → List ρ) := Cut.tail n

theorem lastN_sublist (n : Nat) (l : List ρ) : (lastN n l).Sublist l := List.drop_sublist _ _

theorem sorted_lastN_ge_dropLastN (le : ρ → ρ → Bool) {L : List ρ}
    (hs : L.Pairwise (fun x y => le x y = true)) (n : Nat) :
    ∀ x ∈ lastN n L, ∀ y ∈ dropLastN n L, le y x = true :=
  fun x hx y hy => sorted_take_le_drop le hs _ y hy x hx

theorem tail_seq_core (le : ρ → ρ → Bool) (n : Nat) {all out : List ρ}
    (hp : out.Perm all) (hso : out.Pairwise (fun x y => le x y = true)) :
    LargestSel le (lastN n out) (dropLastN n out) all ∧ (lastN n out).length = min n all.length := by
  refine ⟨⟨?_, hso.sublist (lastN_sublist n out), sorted_lastN_ge_dropLastN le hso n⟩, ?_⟩
  · exact (List.perm_append_comm.trans (((cut_lastN n).perm out).trans hp)).symm
  · exact ((cut_lastN n).length_keep out).trans (congrArg _ hp.length_eq)

theorem tail_seq (le : ρ → ρ → Bool) (hle : TotalPreorder le) (n : Nat) {legs : List (List ρ)} {out : List ρ}
    (hs : ∀ l ∈ legs, l.Pairwise (fun x y => le x y = true)) (h : KMerge le legs out) :
    LargestSel le (lastN n out) (dropLastN n out) legs.flatten ∧ (lastN n out).length = min n legs.flatten.length :=
  tail_seq_core le n (kmerge_perm le h) (kmerge_sorted le hle hs h)

/-- parallel plan, stated for any sorted permutation `out'` of the truncated legs -/
theorem tail_lift_core (le : ρ → ρ → Bool) (hle : TotalPreorder le) (n : Nat) {legs : List (List ρ)} {out' : List ρ}
    (hs : ∀ l ∈ legs, l.Pairwise (fun x y => le x y = true))
    (hp : out'.Perm (legs.map (lastN n)).flatten) (hso : out'.Pairwise (fun x y => le x y = true)) :
    LargestSel le (lastN n out') (dropLastN n out' ++ (legs.map (dropLastN n)).flatten) legs.flatten ∧
    (lastN n out').length = min n legs.flatten.length := by
  have h := select_lift (fun a b => le b a) hle.flip (cut_lastN n)
    (fun l hl => sorted_lastN_ge_dropLastN le (hs l hl) n) hp (sorted_lastN_ge_dropLastN le hso n)
  exact ⟨⟨h.1.trans List.perm_append_comm, hso.sublist (lastN_sublist n out'), h.2.1⟩, h.2.2⟩

/-- `tail n` in every leg, merge, `tail n` again -/
theorem tail_lift_sound (le : ρ → ρ → Bool) (hle : TotalPreorder le) (n : Nat) {legs : List (List ρ)} {out' : List ρ}
    (hs : ∀ l ∈ legs, l.Pairwise (fun x y => le x y = true))
    (h : KMerge le (legs.map (lastN n)) out') :
    LargestSel le (lastN n out') (dropLastN n out' ++ (legs.map (dropLastN n)).flatten) legs.flatten ∧
    (lastN n out').length = min n legs.flatten.length :=
  tail_lift_core le hle n hs (kmerge_perm le h)
    (kmerge_sorted le hle (sorted_map_of_sublist le _ (lastN_sublist n) hs) h)

/-- a filter copied into the legs: the merge of the filtered legs is sorted and is a permutation
    of the filter of ANY merge of the unfiltered legs (equal up to the order of ties) -/
theorem filter_lift_sound (le : ρ → ρ → Bool) (hle : TotalPreorder le) (p : ρ → Bool) {legs : List (List ρ)} {out out' : List ρ}
    (hs : ∀ l ∈ legs, l.Pairwise (fun x y => le x y = true))
    (h' : KMerge le (legs.map (List.filter p)) out') (h : KMerge le legs out) :
    out'.Perm (out.filter p) ∧ out'.Pairwise (fun x y => le x y = true) ∧ (out.filter p).Pairwise (fun x y => le x y = true) := by
  refine ⟨?_, ?_, ?_⟩
  · have h1 := kmerge_perm le h'
    rw [← List.filter_flatten] at h1
    exact h1.trans ((kmerge_perm le h).filter p).symm
  · exact kmerge_sorted le hle (sorted_map_of_sublist le _ (fun _ => List.filter_sublist) hs) h'
  · exact (kmerge_sorted le hle hs h).sublist List.filter_sublist

/-- one direction: the i-th element of `a` is below the i-th element of `b`, because the `i + 1`
    elements of `b.take (i + 1)` are -/
theorem sorted_perm_getElem_le (le : ρ → ρ → Bool) (hle : TotalPreorder le) {a b : List ρ}
    (hp : a.Perm b) (ha : a.Pairwise (fun x y => le x y = true)) (hb : b.Pairwise (fun x y => le x y = true))
    (i : Nat) (hi : i < a.length) (hi' : i < b.length) : le a[i] b[i] = true := by
  refine le_of_many_below le hle (A := a.take (i + 1)) (R := a.drop (i + 1)) (M := b.take (i + 1))
    ((List.Perm.of_eq (List.take_append_drop _ a)).trans hp) (sorted_take_le_drop le ha (i + 1))
    (List.take_sublist _ b) ?_ ?_ a[i] ?_
  · rw [List.length_take, List.length_take, hp.length_eq]
    exact Nat.le_refl _
  · intro z hz
    rw [List.take_succ_eq_append_getElem hi'] at hz
    rcases List.mem_append.1 hz with hz | hz
    · refine sorted_take_le_drop le hb i z hz b[i] ?_
      rw [List.drop_eq_getElem_cons hi']; exact List.mem_cons_self
    · rw [List.mem_singleton.1 hz]; exact hle.refl _
  · rw [List.take_succ_eq_append_getElem hi]
    exact List.mem_append_right _ (List.mem_singleton_self _)

/-- two sorted permutations of each other agree position by position up to ties: their i-th elements compare equal -/
theorem sorted_perm_pointwise_equiv (le : ρ → ρ → Bool) (hle : TotalPreorder le) {a b : List ρ}
    (hp : a.Perm b) (ha : a.Pairwise (fun x y => le x y = true)) (hb : b.Pairwise (fun x y => le x y = true)) :
    ∀ i (hi : i < a.length), le a[i] (b[i]'(by rw [← hp.length_eq]; exact hi)) = true ∧
                              le (b[i]'(by rw [← hp.length_eq]; exact hi)) a[i] = true := by
  intro i hi
  have hi' : i < b.length := by rw [← hp.length_eq]; exact hi
  exact ⟨sorted_perm_getElem_le le hle hp ha hb i hi hi', sorted_perm_getElem_le le hle hp.symm hb ha i hi' hi⟩

/-! ### non-vacuity: sorted legs with ties across legs (and ties at the cut) -/

private def exLe : Int → Int → Bool := fun a b => decide (a ≤ b)
private def exLegs : List (List Int) := [[1, 3, 3, 7], [2, 3, 5], [], [3, 7, 7]]

private theorem exLegs_sorted : ∀ l ∈ exLegs, l.Pairwise (fun x y => exLe x y = true) := by decide

private theorem exLegs_merge : KMerge exLe exLegs (kmergeFn exLe 10 exLegs) :=
  Zed.Proofs.ParScatter.kmergeFn_isKMerge exLe intLe_totalPreorder 10 exLegs (by decide)

example : ∀ l ∈ exLegs, l.Pairwise (fun x y => exLe x y = true) := exLegs_sorted

/-- head 4: the cut falls inside the run of four tied 3s spread over three legs -/
example : kmergeFn exLe 10 exLegs = [1, 2, 3, 3, 3, 3, 5, 7, 7, 7] ∧
    kmergeFn exLe 10 (exLegs.map (List.take 4)) = [1, 2, 3, 3, 3, 3, 5, 7, 7, 7] ∧
    kmergeFn exLe 10 (exLegs.map (List.take 2)) = [1, 2, 3, 3, 3, 7] := by decide +kernel

example : SmallestSel exLe ((kmergeFn exLe 10 exLegs).take 4) ((kmergeFn exLe 10 exLegs).drop 4) exLegs.flatten ∧
    ((kmergeFn exLe 10 exLegs).take 4).length = min 4 exLegs.flatten.length :=
  head_seq exLe intLe_totalPreorder 4 exLegs_sorted exLegs_merge

example : SmallestSel exLe ((kmergeFn exLe 10 (exLegs.map (List.take 2))).take 2)
      ((kmergeFn exLe 10 (exLegs.map (List.take 2))).drop 2 ++ (exLegs.map (List.drop 2)).flatten) exLegs.flatten ∧
    ((kmergeFn exLe 10 (exLegs.map (List.take 2))).take 2).length = min 2 exLegs.flatten.length :=
  head_lift_sound exLe intLe_totalPreorder 2 exLegs_sorted
    (Zed.Proofs.ParScatter.kmergeFn_isKMerge exLe intLe_totalPreorder 10 _ (by decide))

example : kmergeFn exLe 10 (exLegs.map (lastN 2)) = [3, 3, 5, 7, 7, 7] ∧
    lastN 2 (kmergeFn exLe 10 (exLegs.map (lastN 2))) = [7, 7] := by decide +kernel

example : LargestSel exLe (lastN 2 (kmergeFn exLe 10 exLegs)) (dropLastN 2 (kmergeFn exLe 10 exLegs)) exLegs.flatten ∧
    (lastN 2 (kmergeFn exLe 10 exLegs)).length = min 2 exLegs.flatten.length :=
  tail_seq exLe intLe_totalPreorder 2 exLegs_sorted exLegs_merge

example : LargestSel exLe (lastN 2 (kmergeFn exLe 10 (exLegs.map (lastN 2))))
      (dropLastN 2 (kmergeFn exLe 10 (exLegs.map (lastN 2))) ++ (exLegs.map (dropLastN 2)).flatten) exLegs.flatten ∧
    (lastN 2 (kmergeFn exLe 10 (exLegs.map (lastN 2)))).length = min 2 exLegs.flatten.length :=
  tail_lift_sound exLe intLe_totalPreorder 2 exLegs_sorted
    (Zed.Proofs.ParScatter.kmergeFn_isKMerge exLe intLe_totalPreorder 10 _ (by decide))

private def exP : Int → Bool := fun a => decide (a % 2 = 1)

example : kmergeFn exLe 10 (exLegs.map (List.filter exP)) = [1, 3, 3, 3, 3, 5, 7, 7, 7] := by decide +kernel

example : (kmergeFn exLe 10 (exLegs.map (List.filter exP))).Perm ((kmergeFn exLe 10 exLegs).filter exP) ∧
    (kmergeFn exLe 10 (exLegs.map (List.filter exP))).Pairwise (fun x y => exLe x y = true) ∧
    ((kmergeFn exLe 10 exLegs).filter exP).Pairwise (fun x y => exLe x y = true) :=
  filter_lift_sound exLe intLe_totalPreorder exP exLegs_sorted
    (Zed.Proofs.ParScatter.kmergeFn_isKMerge exLe intLe_totalPreorder 10 _ (by decide)) exLegs_merge

/-- a comparator with genuine ties between distinct rows (compare on the first component): two sorted
    permutations that differ in the order of the tied rows agree pointwise up to ties -/
private def exLe2 : Int × Int → Int × Int → Bool := fun a b => decide (a.1 ≤ b.1)

private theorem exLe2_totalPreorder : TotalPreorder exLe2 :=
  intLe_totalPreorder.comap Prod.fst

private def exA : List (Int × Int) := [(1, 0), (2, 0), (2, 1)]
private def exB : List (Int × Int) := [(1, 0), (2, 1), (2, 0)]

private theorem exA_perm_exB : exA.Perm exB := List.Perm.cons _ (List.Perm.swap _ _ _)

example : exA ≠ exB ∧ ∀ i (hi : i < exA.length),
    exLe2 exA[i] (exB[i]'(by rw [← exA_perm_exB.length_eq]; exact hi)) = true ∧
    exLe2 (exB[i]'(by rw [← exA_perm_exB.length_eq]; exact hi)) exA[i] = true :=
  ⟨by decide, sorted_perm_pointwise_equiv exLe2 exLe2_totalPreorder exA_perm_exB (by decide) (by decide)⟩

end Zed.Proofs.ParLifts

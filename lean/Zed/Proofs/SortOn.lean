import Zed.Proofs.Spill
/-! The sort theorems relative to a predicate `P` on the elements: the comparison only has to
    be total and transitive on the elements that satisfy `P`. -/
namespace Zed
open List

section
variable {α : Type} (P : α → Prop) (le : α → α → Bool)

attribute [local instance] boolRelToRel

/-- core's `pairwise_mergeSort`, `sublist_mergeSort` want the laws on the whole type: hence the subtype -/
def leS : {x // P x} → {x // P x} → Bool := fun a b => le a.1 b.1

theorem lift_list (l : List α) (h : ∀ x ∈ l, P x) : ∃ l' : List {x // P x}, l'.map Subtype.val = l :=
  ⟨l.attachWith P h, attachWith_map_subtype_val h⟩

theorem lift_chunks (chunks : List (List α)) (h : ∀ c ∈ chunks, ∀ x ∈ c, P x) :
    ∃ chunks' : List (List {x // P x}), chunks'.map (map Subtype.val) = chunks :=
  ⟨chunks.pmap (fun c hc => c.attachWith P hc) h, by
    rw [map_pmap]; simp only [attachWith_map_subtype_val]; exact pmap_eq_self.mpr fun _ _ => rfl⟩

theorem mergeSort_val (l' : List {x // P x}) :
    (mergeSort l' (leS P le)).map Subtype.val = mergeSort (l'.map Subtype.val) le :=
  map_mergeSort (fun _ _ _ _ => rfl)

theorem kmerge_val : (runs' : List (List {x // P x})) →
    (kmerge (leS P le) runs').map Subtype.val = kmerge le (runs'.map (map Subtype.val))
  | [] => by simp [kmerge, kmergeF]
  | r :: rs => by
    rw [kmerge_cons, map_cons, kmerge_cons, ← kmerge_val rs]
    exact map_merge (fun _ _ _ _ => rfl)

variable (transP : ∀ a b c, P a → P b → P c → le a b = true → le b c = true → le a c = true)
  (totalP : ∀ a b, P a → P b → (le a b || le b a) = true)

include transP in
theorem leS_trans (a b c : {x // P x}) : leS P le a b → leS P le b c → leS P le a c :=
  transP a.1 b.1 c.1 a.2 b.2 c.2

include totalP in
theorem leS_total (a b : {x // P x}) : leS P le a b || leS P le b a := totalP a.1 b.1 a.2 b.2

include transP totalP

theorem spill_on (chunks : List (List α)) (h : ∀ c ∈ chunks, ∀ x ∈ c, P x) :
    kmerge le (chunks.map fun c => mergeSort c le) = mergeSort chunks.flatten le := by
  obtain ⟨chunks', rfl⟩ := lift_chunks P chunks h
  have tr := leS_trans P le transP
  have to := leS_total P le totalP
  have := kmerge_sorted_chunks (leS P le) tr to chunks'
  have h2 := congrArg (map Subtype.val) this
  rw [kmerge_val, mergeSort_val, map_flatten] at h2
  rw [← h2]
  congr 1
  simp only [map_map]
  apply map_congr_left
  intro c _
  simp only [Function.comp]
  exact (mergeSort_val P le c).symm

theorem sorted_on (l : List α) (h : ∀ x ∈ l, P x) : (mergeSort l le).Pairwise (fun a b => le a b = true) := by
  obtain ⟨l', rfl⟩ := lift_list P l h
  have tr := leS_trans P le transP
  have to := leS_total P le totalP
  rw [← mergeSort_val]
  exact (pairwise_mergeSort tr to l').map Subtype.val (fun _ _ hab => hab)

theorem stable_on (l c : List α) (h : ∀ x ∈ l, P x) (hc : c.Pairwise (fun a b => le a b = true))
    (hs : c <+ l) : c <+ mergeSort l le := by
  obtain ⟨l', rfl⟩ := lift_list P l h
  have tr := leS_trans P le transP
  have to := leS_total P le totalP
  obtain ⟨c', hc's, rfl⟩ := sublist_map_iff.mp hs
  rw [← mergeSort_val]
  refine Sublist.map _ (sublist_mergeSort tr to ?_ hc's)
  exact pairwise_map.mp hc

end
end Zed

import Zed.Proofs.VecLoad
/-! Projections of vectors, one node at a time (`fieldsCase`); the statement over the whole type tree is
    `projection_sound_all` in `VecLoadFull`. -/
namespace Zed.Vng

theorem projVec_named (fs : PFields) (n : Bytes) (v : Vec) :
    projVec (.fields fs) (.named n v) = .named n (projVec (.fields fs) v) := rfl

theorem projTy_named (fs : PFields) (n : Bytes) (t : Ty) :
    projTy (.fields fs) (.named n t) = .named n (projTy (.fields fs) t) := rfl

theorem projVal_named (fs : PFields) (n : Bytes) (t : Ty) (x : Val) :
    projVal (.fields fs) (.named n t) x = projVal (.fields fs) t x := rfl

theorem projVec_error (fs : PFields) (v : Vec) (nulls : Bitmap) :
    projVec (.fields fs) (.error v nulls) = .error (projVec (.fields fs) v) nulls := rfl

theorem projTy_error (fs : PFields) (t : Ty) :
    projTy (.fields fs) (.error t) = .error (projTy (.fields fs) t) := rfl

theorem projVal_error (fs : PFields) (t : Ty) (x : Val) :
    projVal (.fields fs) (.error t) x = projVal (.fields fs) t x := rfl

def isLeafTy : Ty → Bool
  | .prim _ => true
  | .enum _ => true
  | _ => false

mutual
/-- leaf vectors carry leaf types, and no vector is `missing`. -/
def Vec.wf : Vec → Bool
  | .flat t _ _ => isLeafTy t
  | .dict t _ _ _ => isLeafTy t
  | .const t _ _ _ => isLeafTy t
  | .constNull _ => true
  | .record fs _ _ => FVecs.wf fs
  | .array _ v _ => Vec.wf v
  | .set _ v _ => Vec.wf v
  | .map _ k v _ => Vec.wf k && Vec.wf v
  | .union _ vs _ => Vecs.wf vs
  | .named _ v => Vec.wf v
  | .error v _ => Vec.wf v
  | .missing _ => false
def FVecs.wf : FVecs → Bool
  | .nil => true
  | .cons _ v rest => Vec.wf v && FVecs.wf rest
def Vecs.wf : Vecs → Bool
  | .nil => true
  | .cons v rest => Vec.wf v && Vecs.wf rest
end

def bitmapClear : Bitmap → Bool
  | none => true
  | some F => F.all (!·)

theorem bitmapClear_get {b : Bitmap} (h : bitmapClear b = true) (s : Nat) : b.get s = false := by
  cases b with
  | none => rfl
  | some F =>
    simp only [bitmapClear, List.all_eq_true, Bool.not_eq_true'] at h
    simp only [Bitmap.get, List.getD_eq_getElem?_getD]
    cases hs : F[s]? with
    | none => rfl
    | some x => simpa using h x (List.mem_of_getElem? hs)

mutual
/-- error wrappers (reached through records / named / error) never carry a null of their own. -/
def Vec.errClear : Vec → Bool
  | .error v nulls => bitmapClear nulls && Vec.errClear v
  | .named _ v => Vec.errClear v
  | .record fs _ _ => FVecs.errClear fs
  | _ => true
def FVecs.errClear : FVecs → Bool
  | .nil => true
  | .cons _ v rest => Vec.errClear v && FVecs.errClear rest
end

mutual
/-- every `.prim` node carries a primitive or enum type (true of every encoder output). -/
def Col.leafOK : Col → Bool
  | .prim t _ => isLeafTy t
  | .nulls _ _ c => Col.leafOK c
  | .record _ fs => FCols.leafOK fs
  | .array _ _ c => Col.leafOK c
  | .set _ _ c => Col.leafOK c
  | .map _ _ k v => Col.leafOK k && Col.leafOK v
  | .union _ _ cs => Cols.leafOK cs
  | .named _ c => Col.leafOK c
  | .error c => Col.leafOK c
def FCols.leafOK : FCols → Bool
  | .nil => true
  | .cons _ c rest => Col.leafOK c && FCols.leafOK rest
def Cols.leafOK : Cols → Bool
  | .nil => true
  | .cons c rest => Col.leafOK c && Cols.leafOK rest
end

theorem nullsWrap_leafOK (vs : List Val) (c : Col) (h : Col.leafOK c = true) :
    Col.leafOK (nullsWrap vs c) = true := by
  rw [nullsWrap]
  by_cases h0 : (nullsEncode (vs.map Val.toOpt)).count = 0
  · rw [if_pos h0]; exact h
  · rw [if_neg h0]; exact h

mutual
theorem enc_leafOK : ∀ (t : Ty) (vs : List Val), Col.leafOK (enc t vs) = true
  | .named _ t, vs => enc_leafOK t vs
  | .error t, vs => enc_leafOK t vs
  | .prim _, _ => nullsWrap_leafOK _ _ rfl
  | .enum _, _ => nullsWrap_leafOK _ _ rfl
  | .record fs, _ => nullsWrap_leafOK _ _ (encFields_leafOK fs _)
  | .array t, _ => nullsWrap_leafOK _ _ (enc_leafOK t _)
  | .set t, _ => nullsWrap_leafOK _ _ (enc_leafOK t _)
  | .map k v, _ => nullsWrap_leafOK _ _ (Bool.and_eq_true_iff.mpr ⟨enc_leafOK k _, enc_leafOK v _⟩)
  | .union ts, _ => nullsWrap_leafOK _ _ (encTys_leafOK ts _ _)
theorem encFields_leafOK : ∀ (fs : Fields) (rows : List (List Val)), FCols.leafOK (encFields fs rows) = true
  | .nil, _ => rfl
  | .cons _ t rest, _ => Bool.and_eq_true_iff.mpr ⟨enc_leafOK t _, encFields_leafOK rest _⟩
theorem encTys_leafOK : ∀ (ts : Tys) (k : Nat) (ps : List (Nat × Val)), Cols.leafOK (encTys ts k ps) = true
  | .nil, _, _ => rfl
  | .cons t rest, _, _ => Bool.and_eq_true_iff.mpr ⟨enc_leafOK t _, encTys_leafOK rest _ _⟩
end

mutual
theorem load_wf : ∀ (c : Col) (P : Bitmap) (cnt : Nat) (own : Option (List Nat × Nat)) (v : Vec),
    Col.leafOK c = true → load c P cnt own = some v → Vec.wf v = true
  | .nulls runs count inner, P, cnt, own, v, hc, h => by
    cases own with
    | some _ => cases h
    | none => exact load_wf inner P _ _ v hc h
  | .prim t p, P, cnt, own, v, hc, h => by
    obtain ⟨x, rfl⟩ | ⟨es, idx, rfl⟩ | rfl | ⟨vals, rfl⟩ := loadLeaf_some h <;> first | exact hc | rfl
  | .record len fs, P, cnt, own, v, hc, h => by
    rw [load_record] at h
    obtain ⟨x, hx, rfl⟩ := Option.map_eq_some_iff.mp h
    exact loadFields_wf fs _ _ x hc hx
  | .array len lens vals, P, cnt, own, v, hc, h => by
    rw [load_array] at h
    obtain ⟨x, hx, rfl⟩ := Option.map_eq_some_iff.mp h
    exact load_wf vals _ _ _ x hc hx
  | .set len lens vals, P, cnt, own, v, hc, h => by
    rw [load_set] at h
    obtain ⟨x, hx, rfl⟩ := Option.map_eq_some_iff.mp h
    exact load_wf vals _ _ _ x hc hx
  | .map len lens keys vals, P, cnt, own, v, hc, h => by
    have hc : Col.leafOK keys = true ∧ Col.leafOK vals = true := Bool.and_eq_true_iff.mp hc
    rw [load_map] at h
    obtain ⟨k, hk, h⟩ := Option.bind_eq_some_iff.mp h
    obtain ⟨x, hx, rfl⟩ := Option.map_eq_some_iff.mp h
    exact Bool.and_eq_true_iff.mpr ⟨load_wf keys _ _ _ k hc.1 hk, load_wf vals _ _ _ x hc.2 hx⟩
  | .union len tags vals, P, cnt, own, v, hc, h => by
    rw [load_union] at h
    obtain ⟨x, hx, rfl⟩ := Option.map_eq_some_iff.mp h
    exact loadCols_wf vals x hc hx
  | .named n c, P, cnt, own, v, hc, h => by
    rw [load_named] at h
    obtain ⟨x, hx, rfl⟩ := Option.map_eq_some_iff.mp h
    exact load_wf c _ _ _ x hc hx
  | .error c, P, cnt, own, v, hc, h => by
    rw [load_error] at h
    obtain ⟨x, hx, rfl⟩ := Option.map_eq_some_iff.mp h
    exact load_wf c _ _ _ x hc hx
theorem loadFields_wf : ∀ (fs : FCols) (b : Bitmap) (cnt : Nat) (fvs : FVecs),
    FCols.leafOK fs = true → loadFields fs b cnt = some fvs → FVecs.wf fvs = true
  | .nil, _, _, fvs, _, h => by cases h; rfl
  | .cons n c rest, b, cnt, fvs, hc, h => by
    have hc : Col.leafOK c = true ∧ FCols.leafOK rest = true := Bool.and_eq_true_iff.mp hc
    rw [loadFields_cons] at h
    obtain ⟨x, hx, h⟩ := Option.bind_eq_some_iff.mp h
    obtain ⟨xs, hxs, rfl⟩ := Option.map_eq_some_iff.mp h
    exact Bool.and_eq_true_iff.mpr ⟨load_wf c _ _ _ x hc.1 hx, loadFields_wf rest _ _ xs hc.2 hxs⟩
theorem loadCols_wf : ∀ (cs : Cols) (vs : Vecs), Cols.leafOK cs = true → loadCols cs = some vs → Vecs.wf vs = true
  | .nil, vs, _, h => by cases h; rfl
  | .cons c rest, vs, hc, h => by
    have hc : Col.leafOK c = true ∧ Cols.leafOK rest = true := Bool.and_eq_true_iff.mp hc
    rw [loadCols_cons] at h
    obtain ⟨x, hx, h⟩ := Option.bind_eq_some_iff.mp h
    obtain ⟨xs, hxs, rfl⟩ := Option.map_eq_some_iff.mp h
    exact Bool.and_eq_true_iff.mpr ⟨load_wf c _ _ _ x hc.1 hx, loadCols_wf rest xs hc.2 hxs⟩
end

theorem serializeFields_cons_some {n : Bytes} {v : Vec} {rest : FVecs} {s : Nat} {xs : List Val}
    (h : serializeFields (.cons n v rest) s = some xs) :
    ∃ x ys, serialize v s = some x ∧ serializeFields rest s = some ys ∧ xs = x :: ys := by
  rw [serializeFields] at h
  cases h1 : serialize v s with
  | none => rw [h1] at h; cases h
  | some x =>
    cases h2 : serializeFields rest s with
    | none => rw [h1, h2] at h; cases h
    | some ys => rw [h1, h2] at h; exact ⟨x, ys, rfl, rfl, (Option.some.inj h).symm⟩

theorem vecType_missing (len : Nat) : vecType (.missing len) = missingTy := rfl

theorem proj_leafTy (fs : PFields) {t : Ty} (h : isLeafTy t = true) :
    projTy (.fields fs) t = missingTy ∧ ∀ x, projVal (.fields fs) t x = missingVal := by
  cases t with
  | prim _ => exact ⟨rfl, fun _ => rfl⟩
  | enum _ => exact ⟨rfl, fun _ => rfl⟩
  | _ => cases h

theorem serialize_record_some {rfs : FVecs} {len : Nat} {nulls : Bitmap} {s : Nat} {x : Val}
    (h : serialize (.record rfs len nulls) s = some x) (hn : nulls.get s = false) :
    ∃ xs, serializeFields rfs s = some xs ∧ x = .cont (Vals.ofList xs) := by
  rw [serialize, hn, if_neg Bool.false_ne_true] at h
  cases hx : serializeFields rfs s with
  | none => rw [hx] at h; cases h
  | some xs => rw [hx] at h; exact ⟨xs, rfl, (Option.some.inj h).symm⟩

/-- `v` holds the column `val` on the slots `D`: what the loader delivers (`Holds.ofList`) and a projection
    consumes, one step per way down (`error`, `record`, `HoldsF.lookup`). -/
structure Holds (v : Vec) (D : Nat → Prop) (val : Nat → Val) : Prop where
  wf : Vec.wf v = true
  clear : Vec.errClear v = true
  ser : ∀ s, D s → serialize v s = some (val s)
  conf : ∀ s, D s → conforms (vecType v) (val s) = true

structure HoldsF (rfs : FVecs) (D : Nat → Prop) (rows : Nat → List Val) : Prop where
  wf : FVecs.wf rfs = true
  clear : FVecs.errClear rfs = true
  ser : ∀ s, D s → serializeFields rfs s = some (rows s)
  conf : ∀ s, D s → conformsRow (fvecTypes rfs) (rows s) = true

theorem Holds.error {v : Vec} {nulls : Bitmap} {D : Nat → Prop} {val : Nat → Val}
    (h : Holds (.error v nulls) D val) : (∀ s, nulls.get s = false) ∧ Holds v D val := by
  have hec : bitmapClear nulls = true ∧ Vec.errClear v = true := Bool.and_eq_true_iff.mp h.clear
  have hg := bitmapClear_get hec.1
  exact ⟨hg, h.wf, hec.2, fun s hs => by
    have := h.ser s hs; rwa [serialize, hg s, if_neg Bool.false_ne_true] at this, h.conf⟩

theorem Holds.record {rfs : FVecs} {len : Nat} {nulls : Bitmap} {D : Nat → Prop} {val : Nat → Val}
    (h : Holds (.record rfs len nulls) D val) :
    HoldsF rfs (fun s => D s ∧ nulls.get s = false) (fun s => (val s).items) ∧
    ∀ s, D s → nulls.get s = false → val s = .cont (Vals.ofList (val s).items) := by
  have hrow : ∀ s, D s → nulls.get s = false →
      serializeFields rfs s = some (val s).items ∧ val s = .cont (Vals.ofList (val s).items) := by
    intro s hs hn
    obtain ⟨xs, hx, hv⟩ := serialize_record_some (h.ser s hs) hn
    rw [hv, Val.items_cont, Vals.toList_ofList]
    exact ⟨hx, rfl⟩
  refine ⟨⟨h.wf, h.clear, fun s hs => (hrow s hs.1 hs.2).1, fun s hs => ?_⟩,
    fun s hs hn => (hrow s hs hn).2⟩
  have := h.conf s hs.1
  rw [(hrow s hs.1 hs.2).2] at this
  have this : conformsRow (fvecTypes rfs) (Vals.ofList (val s).items).toList = true := this
  rwa [Vals.toList_ofList] at this

/-- a field name is looked up alike in the vectors and in their types. -/
theorem HoldsF.lookup (a : Bytes) : ∀ {rfs : FVecs} {D : Nat → Prop} {rows : Nat → List Val}, HoldsF rfs D rows →
    (rfs.lookup a = none ∧ (fvecTypes rfs).lookup a = none) ∨
    ∃ fv i, rfs.lookup a = some fv ∧ (fvecTypes rfs).lookup a = some (i, vecType fv) ∧
      Holds fv D (fun s => (rows s).getD i .null)
  | .nil, _, _, _ => .inl ⟨rfl, rfl⟩
  | .cons n fv rest, D, rows, h => by
    have hwf : Vec.wf fv = true ∧ FVecs.wf rest = true := Bool.and_eq_true_iff.mp h.wf
    have hec : Vec.errClear fv = true ∧ FVecs.errClear rest = true := Bool.and_eq_true_iff.mp h.clear
    have hrow : ∀ s, D s → ∃ x ys, rows s = x :: ys ∧ serialize fv s = some x ∧
        serializeFields rest s = some ys ∧ conforms (vecType fv) x = true ∧
        conformsRow (fvecTypes rest) ys = true := fun s hs => by
      obtain ⟨x, ys, h1, h2, e⟩ := serializeFields_cons_some (h.ser s hs)
      have := conformsRow_cons (h.conf s hs)
      rw [e] at this
      exact ⟨x, ys, e, h1, h2, this.2⟩
    by_cases hn : n = a
    · subst hn
      refine .inr ⟨fv, 0, by rw [FVecs.lookup, if_pos rfl], by rw [fvecTypes, Fields.lookup, if_pos rfl],
        hwf.1, hec.1, fun s hs => ?_, fun s hs => ?_⟩
      · obtain ⟨x, ys, e, h1, _⟩ := hrow s hs
        rw [e]; exact h1
      · obtain ⟨x, ys, e, _, _, h3, _⟩ := hrow s hs
        rw [e]; exact h3
    · have hrest : HoldsF rest D (fun s => (rows s).tail) :=
        ⟨hwf.2, hec.2, fun s hs => by obtain ⟨x, ys, e, _, h2, _⟩ := hrow s hs; rw [e]; exact h2,
          fun s hs => by obtain ⟨x, ys, e, _, _, _, h4⟩ := hrow s hs; rw [e]; exact h4⟩
      rcases HoldsF.lookup a hrest with ⟨h1, h2⟩ | ⟨fv', i, h1, h2, k⟩
      · exact .inl ⟨by rw [FVecs.lookup, if_neg hn, h1], by rw [fvecTypes, Fields.lookup, if_neg hn, h2]; rfl⟩
      · have e : (fun s => ((rows s).tail).getD i Val.null) = fun s => (rows s).getD (i + 1) .null :=
          funext fun s => by cases rows s <;> rfl
        exact .inr ⟨fv', i + 1, by rw [FVecs.lookup, if_neg hn, h1],
          by rw [fvecTypes, Fields.lookup, if_neg hn, h2]; rfl, e ▸ k⟩

theorem Holds.ofList {v : Vec} {t : Ty} {vs : List Val} (hty : vecType v = t) (hwf : Vec.wf v = true)
    (hec : Vec.errClear v = true) (hs : ∀ i, i < vs.length → serialize v i = vs[i]?)
    (hconf : ∀ x ∈ vs, conforms t x = true) :
    Holds v (· < vs.length) (fun i => vs.getD i .null) := by
  have hget : ∀ i, i < vs.length → vs[i]? = some (vs.getD i .null) := fun i hi => by
    simp [List.getD_eq_getElem?_getD, List.getElem?_eq_getElem hi]
  exact ⟨hwf, hec, fun i hi => (hs i hi).trans (hget i hi),
    fun i hi => hty ▸ hconf _ (List.mem_of_getElem? (hget i hi))⟩

def PSpec (P : Proj) (v : Vec) : Prop :=
  ∀ (D : Nat → Prop) (val : Nat → Val), Holds v D val →
    vecType (projVec P v) = projTy P (vecType v) ∧
    ∀ s, D s → serialize (projVec P v) s = some (projVal P (vecType v) (val s))

def FSpec (fs : PFields) : Prop :=
  ∀ (rfs : FVecs) (rtys : Fields) (len : Nat) (D : Nat → Prop) (rows : Nat → List Val),
    fvecTypes rfs = rtys → FVecs.wf rfs = true → FVecs.errClear rfs = true →
    (∀ s, D s → serializeFields rfs s = some (rows s)) →
    (∀ s, D s → conformsRow rtys (rows s) = true) →
    fvecTypes (projFieldVecs fs rfs len) = projFieldTys fs rtys ∧
    ∀ s, D s → serializeFields (projFieldVecs fs rfs len) s = some (projFieldVals fs rtys (rows s))

/-- the `.fields` case of the projection, given the fields-level statement; by the form of the
    vector. -/
theorem fieldsCase (fs : PFields) (h : FSpec fs) : ∀ v : Vec, PSpec (.fields fs) v
  | .flat _ _ _ | .dict _ _ _ _ | .const _ _ _ _ => fun _ val k =>
    ⟨(proj_leafTy fs k.wf).1.symm, fun s _ => congrArg some ((proj_leafTy fs k.wf).2 (val s)).symm⟩
  | .constNull _ => fun _ _ _ => ⟨rfl, fun _ _ => rfl⟩
  | .missing _ => fun _ _ k => nomatch k.wf
  | .array _ _ _ | .set _ _ _ | .map _ _ _ _ | .union _ _ _ => fun _ _ k => ⟨rfl, k.ser⟩
  | .named n v => fun D val k => by
    obtain ⟨a, b⟩ := fieldsCase fs h v D val ⟨k.wf, k.clear, k.ser, k.conf⟩
    rw [projVec_named]
    refine ⟨?_, fun s hs => ?_⟩
    · show Ty.named n (vecType (projVec (.fields fs) v)) = projTy (.fields fs) (.named n (vecType v))
      rw [projTy_named, a]
    · show serialize (projVec (.fields fs) v) s = some (projVal (.fields fs) (.named n (vecType v)) (val s))
      rw [projVal_named]; exact b s hs
  | .error v nulls => fun D val k => by
    obtain ⟨hg, k'⟩ := k.error
    obtain ⟨a, b⟩ := fieldsCase fs h v D val k'
    rw [projVec_error]
    refine ⟨?_, fun s hs => ?_⟩
    · show Ty.error (vecType (projVec (.fields fs) v)) = projTy (.fields fs) (.error (vecType v))
      rw [projTy_error, a]
    · show serialize (.error (projVec (.fields fs) v) nulls) s =
        some (projVal (.fields fs) (.error (vecType v)) (val s))
      rw [serialize, hg s, if_neg Bool.false_ne_true, projVal_error]
      exact b s hs
  | .record rfs len nulls => fun D val k => by
    obtain ⟨kf, hcont⟩ := k.record
    obtain ⟨h1, h2⟩ := h rfs _ len _ _ rfl kf.wf kf.clear kf.ser kf.conf
    refine ⟨congrArg Ty.record h1, fun s hs => ?_⟩
    show serialize (.record (projFieldVecs fs rfs len) len nulls) s = _
    have hk := k.ser s hs
    rw [serialize] at hk ⊢
    cases hn : nulls.get s with
    | true =>
      rw [hn, if_pos rfl] at hk
      rw [if_pos rfl, ← Option.some.inj hk]; rfl
    | false =>
      rw [if_neg Bool.false_ne_true, h2 s ⟨hs, hn⟩, Option.map_some, hcont s hs hn]
      show _ = some (Val.cont (Vals.ofList (projFieldVals fs (fvecTypes rfs)
        (Vals.ofList (val s).items).toList)))
      rw [Vals.toList_ofList, Val.items_cont, Vals.toList_ofList]

theorem projFieldVecs_cons (a : Bytes) (p : Proj) (rest : PFields) (rfs : FVecs) (len : Nat) :
    projFieldVecs (.cons a p rest) rfs len =
      .cons a (match rfs.lookup a with
        | some v => projVec p v
        | none => .missing len) (projFieldVecs rest rfs len) := rfl

theorem projFieldTys_cons (a : Bytes) (p : Proj) (rest : PFields) (rtys : Fields) :
    projFieldTys (.cons a p rest) rtys =
      .cons a (match rtys.lookup a with
        | some (_, t) => projTy p t
        | none => missingTy) (projFieldTys rest rtys) := rfl

theorem projFieldVals_cons (a : Bytes) (p : Proj) (rest : PFields) (rtys : Fields) (items : List Val) :
    projFieldVals (.cons a p rest) rtys items =
      (match rtys.lookup a with
        | some (i, t) => projVal p t (items.getD i .null)
        | none => missingVal) :: projFieldVals rest rtys items := rfl

mutual
theorem pspec : ∀ (P : Proj) (v : Vec), PSpec P v
  | .all, _ => fun _ _ k => ⟨rfl, k.ser⟩
  | .fields fs, v => fieldsCase fs (fspec fs) v
theorem fspec : ∀ fs : PFields, FSpec fs
  | .nil => fun _ _ _ _ _ _ _ _ _ _ => ⟨rfl, fun _ _ => rfl⟩
  | .cons a p rest => by
    intro rfs rtys len D rows hty hwf hec hser hconf
    subst hty
    obtain ⟨r1, r2⟩ := fspec rest rfs _ len D rows rfl hwf hec hser hconf
    rw [projFieldVecs_cons, projFieldTys_cons]
    rcases HoldsF.lookup a ⟨hwf, hec, hser, hconf⟩ with ⟨h1, h2⟩ | ⟨fv, i, h1, h2, kv⟩
    · rw [h1, h2]
      refine ⟨congrArg (Fields.cons a missingTy) r1, fun s hs => ?_⟩
      rw [projFieldVals_cons, h2, serializeFields, r2 s hs]
      rfl
    · obtain ⟨q1, q2⟩ := pspec p fv D _ kv
      rw [h1, h2]
      refine ⟨by rw [fvecTypes, q1, r1], fun s hs => ?_⟩
      rw [projFieldVals_cons, h2, serializeFields, r2 s hs, q2 s hs]
end

end Zed.Vng

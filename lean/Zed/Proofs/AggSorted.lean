/-
  Sorted-input mode of the group-by Aggregator (C10): early release from the table is safe when
  the input really is sorted on the primary key, and unsafe otherwise.  The invariant has an order
  part (`Past`, no monoid laws needed) and a value part (the `Ledger` of AggGroupby); the mode with
  spills (AggSortedSpill) extends both.
-/
import Zed.Model.AggGroupby
import Zed.Model.AggSortedSpill
import Zed.Proofs.AggGroupby
import Zed.Proofs.BoolOrder
namespace Zed.Proofs.AggSorted
open Zed.Agg
open Zed.Proofs.AggGroupby (Ledger)
open Zed.Proofs.ListLift (foldl_invariant foldl_batches_invariant)
variable {K S P : Type} [DecidableEq K]

omit [DecidableEq K] in
theorem keys_tableRows (t : List (SRow K S P)) : (tableRows t).map (·.1) = t.map (·.key) := by
  rw [tableRows, List.map_map]; rfl

theorem tableRows_supsert (m : Mon S) (t : List (SRow K S P)) (k : K) (s : S) (g : P) :
    tableRows (supsert m t k s g) = upsert m (tableRows t) k s := by
  induction t with
  | nil => rfl
  | cons r t ih =>
    show tableRows (supsert m (r :: t) k s g) = upsert m ((r.key, r.st) :: tableRows t) k s
    rw [supsert, upsert]
    by_cases h : r.key = k
    · rw [if_pos h, if_pos h]; rfl
    · rw [if_neg h, if_neg h, ← ih]; rfl

theorem supsert_of_not_mem (m : Mon S) (t : List (SRow K S P)) (k : K) (s : S) (g : P)
    (h : k ∉ t.map (·.key)) : supsert m t k s g = t ++ [⟨k, m.op m.e s, g⟩] := by
  induction t with
  | nil => rfl
  | cons r t ih =>
    rw [List.map_cons, List.mem_cons, not_or] at h
    rw [supsert, if_neg (fun e => h.1 e.symm), ih h.2, List.cons_append]

theorem supsert_mem (m : Mon S) (t : List (SRow K S P)) (k : K) (s : S) (g : P) (r' : SRow K S P)
    (h : r' ∈ supsert m t k s g) :
    (∃ r0 ∈ t, r0.key = r'.key ∧ r0.gv = r'.gv) ∨ (r'.key = k ∧ r'.gv = g) := by
  induction t with
  | nil => exact Or.inr (List.mem_singleton.1 h ▸ ⟨rfl, rfl⟩)
  | cons r t ih =>
    rw [supsert] at h
    split at h
    · rcases List.mem_cons.1 h with h | h
      · exact Or.inl ⟨r, List.mem_cons_self, h ▸ ⟨rfl, rfl⟩⟩
      · exact Or.inl ⟨r', List.mem_cons_of_mem _ h, rfl, rfl⟩
    · rcases List.mem_cons.1 h with h | h
      · exact Or.inl ⟨r, List.mem_cons_self, h ▸ ⟨rfl, rfl⟩⟩
      · exact (ih h).imp (fun ⟨r0, h0, h1⟩ => ⟨r0, List.mem_cons_of_mem _ h0, h1⟩) id

theorem newMaxKey_ge (vle : P → P → Bool) (hv : TotalPreorder vle) (mk : Option P) (p : P) :
    vle p (newMaxKey vle mk p) = true := by
  cases mk with
  | none => exact hv.refl p
  | some q =>
    rw [newMaxKey]
    split
    · exact hv.refl p
    · next h => exact BoolOrder.le_of_not_strict hv.total_or (Bool.eq_false_iff.2 h)

theorem newMaxKey_cases (vle : P → P → Bool) (mk : Option P) (p : P) :
    newMaxKey vle mk p = p ∨ mk = some (newMaxKey vle mk p) := by
  cases mk with
  | none => exact Or.inl rfl
  | some q =>
    rw [newMaxKey]
    split
    · exact Or.inl rfl
    · exact Or.inr rfl

theorem sConsume_eq (m : Mon S) (prim : K → P) (vle : P → P → Bool) (st : SGB K S P) (r : K × S) :
    sConsume m prim vle st r =
      { st with table := supsert m st.table r.1 r.2 (newMaxKey vle st.maxKey (prim r.1)),
                maxKey := some (newMaxKey vle st.maxKey (prim r.1)) } := by
  unfold sConsume newMaxKey
  cases st.maxKey <;> rfl

omit [DecidableEq K] in
theorem sRelease_some (vle : P → P → Bool) (st : SGB K S P) (mk : P) (h : st.maxKey = some mk) :
    sRelease vle st =
      { st with out := st.out ++ tableRows (st.table.filter fun r => ltOf vle r.gv mk),
                table := st.table.filter fun r => !ltOf vle r.gv mk } := by
  unfold sRelease
  rw [h]
  rfl

/-- `ys` is the input still to come -/
structure Past (prim : K → P) (vle : P → P → Bool) (st : SGB K S P) (ys : List (K × S)) : Prop where
  sorted : ys.Pairwise (fun a b => vle (prim a.1) (prim b.1) = true)
  /-- released keys are strictly in the past -/
  past : ∀ k ∈ st.out.map (·.1), ∀ y ∈ ys, ltOf vle (prim k) (prim y.1) = true
  /-- a row's groupval is at least its own primary key -/
  gvge : ∀ r ∈ st.table, vle (prim r.key) r.gv = true
  /-- maxTableKey is at most every primary key still to come -/
  mkle : ∀ mk, st.maxKey = some mk → ∀ y ∈ ys, vle mk (prim y.1) = true

omit [DecidableEq K] in
theorem past_init (prim : K → P) (vle : P → P → Bool) (ys : List (K × S))
    (hs : ys.Pairwise (fun a b => vle (prim a.1) (prim b.1) = true)) :
    Past prim vle ({} : SGB K S P) ys where
  sorted := hs
  past := by intro k hk; cases hk
  gvge := by intro r hr; cases hr
  mkle := by intro mk h; cases h

omit [DecidableEq K] in
theorem Past.head_not_released {prim : K → P} {vle : P → P → Bool} {st : SGB K S P} {r : K × S}
    {ys : List (K × S)} (h : Past prim vle st (r :: ys)) : r.1 ∉ st.out.map (·.1) := by
  intro hmem
  have := h.past r.1 hmem r List.mem_cons_self
  exact Bool.false_ne_true ((BoolOrder.strict_irrefl _).symm.trans this)

theorem past_consume (m : Mon S) {prim : K → P} {vle : P → P → Bool} (hv : TotalPreorder vle)
    {st : SGB K S P} {r : K × S} {ys : List (K × S)} (h : Past prim vle st (r :: ys)) :
    Past prim vle (sConsume m prim vle st r) ys := by
  rw [sConsume_eq]
  have hs := List.pairwise_cons.1 h.sorted
  refine ⟨hs.2, fun k hk y hy => h.past k hk y (List.mem_cons_of_mem _ hy), ?_, ?_⟩
  · intro r' hr'
    rcases supsert_mem m st.table r.1 r.2 _ r' hr' with ⟨r0, h0, hk, hg⟩ | ⟨hk, hg⟩
    · rw [← hk, ← hg]; exact h.gvge r0 h0
    · rw [hk, hg]; exact newMaxKey_ge vle hv _ _
  · intro mk hmk y hy
    cases hmk
    rcases newMaxKey_cases vle st.maxKey (prim r.1) with e | e
    · rw [e]; exact hs.1 y hy
    · exact h.mkle _ e y (List.mem_cons_of_mem _ hy)

omit [DecidableEq K] in
theorem past_release {prim : K → P} {vle : P → P → Bool} (hv : TotalPreorder vle)
    {st : SGB K S P} {ys : List (K × S)} (h : Past prim vle st ys) :
    Past prim vle (sRelease vle st) ys := by
  unfold sRelease
  cases hmk : st.maxKey with
  | none => exact h
  | some mk =>
    refine ⟨h.sorted, ?_, fun r hr => h.gvge r (List.mem_filter.1 hr).1,
      fun mk' hmk' => h.mkle mk' (hmk.symm ▸ hmk')⟩
    intro k hk y hy
    rcases List.mem_append.1 (List.map_append ▸ hk) with hk | hk
    · exact h.past k hk y hy
    · -- groupval < maxTableKey ≤ everything still to come, and the key is ≤ its groupval
      rw [List.map_map] at hk
      obtain ⟨r, hr, rfl⟩ := List.mem_map.1 hk
      obtain ⟨hr, hlt⟩ := List.mem_filter.1 hr
      exact BoolOrder.le_strict_le hv.trans (h.gvge r hr) hlt (h.mkle mk hmk y hy)

theorem past_batch (m : Mon S) {prim : K → P} {vle : P → P → Bool} (hv : TotalPreorder vle)
    (b : List (K × S)) {st : SGB K S P} {ys : List (K × S)} (h : Past prim vle st (b ++ ys)) :
    Past prim vle (sBatch m prim vle st b) ys :=
  past_release hv (foldl_invariant (I := fun st _ ys => Past prim vle st ys) (xs := [])
    (fun _ _ _ _ h => past_consume m hv h) b h)

/-- a released key is strictly below every later input row on the primary key, for every way of
    cutting sorted input into batches `pre ++ post` -/
theorem released_key_is_strictly_past (m : Mon S) (prim : K → P) (vle : P → P → Bool)
    (hv : TotalPreorder vle) (pre post : List (List (K × S)))
    (hsorted : (pre ++ post).flatten.Pairwise (fun a b => vle (prim a.1) (prim b.1) = true)) :
    ∀ k ∈ (pre.foldl (sBatch m prim vle) {}).out.map (·.1), ∀ y ∈ post.flatten,
      ltOf vle (prim k) (prim y.1) = true := by
  rw [List.flatten_append] at hsorted
  exact (foldl_batches_invariant (I := fun st _ ys => Past prim vle st ys) (xs := [])
    (fun _ _ b _ h => past_batch m hv b h) pre (past_init prim vle _ hsorted)).past

/-- a released key never occurs in later input (the reason the release is safe) -/
theorem released_key_is_past (m : Mon S) (prim : K → P) (vle : P → P → Bool)
    (hv : TotalPreorder vle) (pre post : List (List (K × S)))
    (hsorted : (pre ++ post).flatten.Pairwise (fun a b => vle (prim a.1) (prim b.1) = true)) :
    ∀ k ∈ (pre.foldl (sBatch m prim vle) {}).out.map (·.1), ∀ y ∈ post.flatten, y.1 ≠ k := by
  intro k hk y hy e
  have := released_key_is_strictly_past m prim vle hv pre post hsorted k hk y hy
  rw [e] at this
  exact Bool.false_ne_true ((BoolOrder.strict_irrefl _).symm.trans this)

theorem ledger_sConsume {m : Mon S} (hm : m.CommLaws) (prim : K → P) (vle : P → P → Bool)
    {ext : List (K × S)} {st : SGB K S P} {xs : List (K × S)} {r : K × S}
    (h : Ledger m st.out ext (tableRows st.table) xs) (hr : r.1 ∉ st.out.map (·.1)) :
    Ledger m (sConsume m prim vle st r).out ext (tableRows (sConsume m prim vle st r).table)
      (xs ++ [r]) := by
  rw [sConsume_eq]
  show Ledger m st.out ext (tableRows (supsert m st.table r.1 r.2 _)) _
  rw [tableRows_supsert]
  exact h.upsert hm r hr

theorem ledger_sRelease {m : Mon S} (hm : m.CommLaws) (vle : P → P → Bool)
    {st : SGB K S P} {xs : List (K × S)} (h : Ledger m st.out [] (tableRows st.table) xs) :
    Ledger m (sRelease vle st).out [] (tableRows (sRelease vle st).table) xs := by
  unfold sRelease
  cases st.maxKey with
  | none => exact h
  | some mk =>
    refine h.releaseTab hm ?_ (fun _ _ hin => nomatch hin)
    unfold tableRows
    rw [← List.map_append]
    exact (List.filter_append_perm _ _).symm.map _

/-- `ext`: rows held in spill files (`[]` here, `st.pending` in AggSortedSpill) -/
def MemInv (m : Mon S) (prim : K → P) (vle : P → P → Bool) (ext : List (K × S)) (st : SGB K S P)
    (xs ys : List (K × S)) : Prop :=
  Ledger m st.out ext (tableRows st.table) xs ∧ Past prim vle st ys

theorem MemInv.consume {m : Mon S} (hm : m.CommLaws) {prim : K → P} {vle : P → P → Bool}
    (hv : TotalPreorder vle) {ext : List (K × S)} {st : SGB K S P} {xs ys : List (K × S)} {r : K × S}
    (h : MemInv m prim vle ext st xs (r :: ys)) :
    MemInv m prim vle ext (sConsume m prim vle st r) (xs ++ [r]) ys :=
  ⟨ledger_sConsume hm prim vle h.1 h.2.head_not_released, past_consume m hv h.2⟩

theorem MemInv.release {m : Mon S} (hm : m.CommLaws) {prim : K → P} {vle : P → P → Bool}
    (hv : TotalPreorder vle) {st : SGB K S P} {xs ys : List (K × S)}
    (h : MemInv m prim vle [] st xs ys) : MemInv m prim vle [] (sRelease vle st) xs ys :=
  ⟨ledger_sRelease hm vle h.1, past_release hv h.2⟩

theorem MemInv.batch {m : Mon S} (hm : m.CommLaws) {prim : K → P} {vle : P → P → Bool}
    (hv : TotalPreorder vle) (b : List (K × S)) {st : SGB K S P} {xs ys : List (K × S)}
    (h : MemInv m prim vle [] st xs (b ++ ys)) :
    MemInv m prim vle [] (sBatch m prim vle st b) (xs ++ b) ys :=
  (foldl_invariant (I := MemInv m prim vle []) (fun _ _ _ _ h => h.consume hm hv) b h).release hm hv

/-- if the input really is sorted on the primary key (in the declared direction), then for every way of cutting it
    into batches the rows released early are never needed again: the output has exactly one row per distinct key,
    holding the aggregate of exactly that key's rows -/
theorem sorted_release_safe (m : Mon S) (hm : m.CommLaws) (prim : K → P) (vle : P → P → Bool)
    (hv : TotalPreorder vle) (batches : List (List (K × S)))
    (hsorted : batches.flatten.Pairwise (fun a b => vle (prim a.1) (prim b.1) = true)) :
    GroupsAgree m (groupbySorted m prim vle batches) batches.flatten := by
  have h := foldl_batches_invariant (I := MemInv m prim vle []) (st := {}) (xs := []) (ys := [])
    (fun _ _ b _ h => h.batch hm hv b) batches
    ⟨Zed.Proofs.AggGroupby.Ledger.init m, List.append_nil _ ▸ past_init prim vle _ hsorted⟩
  rw [List.nil_append] at h
  exact h.1.agree hm.toLaws

theorem natLe_totalPreorder : TotalPreorder (fun (a b : Nat) => decide (a ≤ b)) :=
  Zed.Proofs.AggGroupby.natLe_totalPreorder

theorem natAdd_commLaws : (⟨(· + ·), 0⟩ : Mon Nat).CommLaws :=
  Zed.Proofs.AggGroupby.addMon_commLaws

/-- sorted batches: key 2 spans the first batch boundary, key 3 the second; key 1 is released
    after the first batch, key 2 after the second -/
def exBatches : List (List (Nat × Nat)) := [[(1, 1), (2, 1)], [(2, 1), (3, 1)], [(3, 1)]]

example : GroupsAgree (⟨(· + ·), 0⟩ : Mon Nat)
    (groupbySorted ⟨(· + ·), 0⟩ id (fun a b => decide (a ≤ b)) exBatches) exBatches.flatten :=
  sorted_release_safe _ natAdd_commLaws id _ natLe_totalPreorder exBatches (by decide)

/-- the early release really happens in the example, and the final output is as expected -/
example : (sBatch (⟨(· + ·), 0⟩ : Mon Nat) id (fun a b => decide (a ≤ b)) {} [(1, 1), (2, 1)]).out
    = [(1, 1)] := by decide
example : groupbySorted (⟨(· + ·), 0⟩ : Mon Nat) id (fun a b => decide (a ≤ b)) exBatches
    = [(1, 1), (2, 2), (3, 2)] := by decide

/-- the hypothesis is needed: on input that is NOT sorted on the primary key the operator emits a key twice.
    (Before fix 32e95e058 the optimizer declared the input sorted when ANY group-by key was the sort key, while
    the operator treats the FIRST key as the sorted one; this is the model-level witness of that defect.) -/
theorem not_sorted_release_safe_unsorted :
    ∃ (batches : List (List ((Nat × Nat) × Nat))),
      ¬ GroupsAgree (⟨(· + ·), 0⟩ : Mon Nat) (groupbySorted ⟨(· + ·), 0⟩ (fun k => k.1) (fun a b => decide (a ≤ b)) batches) batches.flatten := by
  refine ⟨[[((1, 1), 1), ((2, 1), 1)], [((1, 1), 1), ((1, 2), 1)]], ?_⟩
  intro h
  have hn := h.nodup
  revert hn
  decide +kernel

end Zed.Proofs.AggSorted

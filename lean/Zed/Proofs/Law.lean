import Zed.Proofs.Order
/-! `Law strict S c`: on the set `S`, `c` is the comparison of a total preorder, of a linear order if `strict`; the
    closure lemmas are the ways the model builds its comparisons, the set is what carries a guard. -/
namespace Zed

/-- lexicographic with `c` on the elements; a proper prefix is smaller -/
def lexCmp {α : Type} (c : α → α → Ordering) : List α → List α → Ordering
  | [], [] => .eq
  | [], _ :: _ => .lt
  | _ :: _, [] => .gt
  | a :: as, b :: bs => (c a b).then (lexCmp c as bs)

abbrev All {α : Type} : α → Prop := fun _ => True

end Zed

namespace Zed.Ord
open Zed

section
variable {α β : Type}

structure Law (strict : Prop) (S : α → Prop) (c : α → α → Ordering) : Prop where
  refl : ∀ a, S a → c a a = .eq
  tr : ∀ x y z, S x → S y → S z → STr (c x y) (c y z) (c x z)
  sep : strict → ∀ a b, S a → S b → c a b = .eq → a = b

abbrev Pre (S : α → Prop) (c : α → α → Ordering) : Prop := Law False S c
abbrev Lin (S : α → Prop) (c : α → α → Ordering) : Prop := Law True S c

variable {p q : Prop} {S S' : α → Prop} {T : β → Prop} {c c' c₁ c₂ : α → α → Ordering}
  {d : β → β → Ordering}

theorem Law.swap (h : Law p S c) {a b : α} (ha : S a) (hb : S b) : c b a = (c a b).swap :=
  (h.refl a ha ▸ h.tr a b a ha hb ha).swap_of_eq

theorem Law.eq_iff (h : Lin S c) {a b : α} (ha : S a) (hb : S b) : c a b = .eq ↔ a = b :=
  ⟨h.sep trivial a b ha hb, fun e => e ▸ h.refl a ha⟩

theorem Law.mono (h : Law p S c) (hs : ∀ a, S' a → S a) : Law p S' c :=
  ⟨fun a ha => h.refl a (hs a ha), fun x y z hx hy hz => h.tr x y z (hs x hx) (hs y hy) (hs z hz),
   fun f a b ha hb => h.sep f a b (hs a ha) (hs b hb)⟩

theorem Law.congr (h : Law p S c) (e : ∀ a b, S a → S b → c' a b = c a b) : Law p S c' :=
  ⟨fun a ha => e a a ha ha ▸ h.refl a ha,
   fun x y z hx hy hz => by rw [e x y hx hy, e y z hy hz, e x z hx hz]; exact h.tr x y z hx hy hz,
   fun f a b ha hb hc => h.sep f a b ha hb (e a b ha hb ▸ hc)⟩

theorem Pre.const : Pre S fun _ _ => Ordering.eq := ⟨fun _ _ => rfl, fun _ _ _ _ _ _ => rfl, fun f => f.elim⟩

/-- a descending key -/
theorem Law.flip (h : Law p S c) : Law p S fun a b => c b a :=
  ⟨h.refl, fun x y z hx hy hz => (h.tr z y x hz hy hx).comm,
   fun f a b ha hb e => (h.sep f b a hb ha e).symm⟩

theorem Law.pull (h : Law q T d) (f : α → β) (hf : ∀ a, S a → T (f a)) : Pre S fun a b => d (f a) (f b) :=
  ⟨fun a ha => h.refl _ (hf a ha), fun x y z hx hy hz => h.tr _ _ _ (hf x hx) (hf y hy) (hf z hz),
   fun f => f.elim⟩

theorem Law.pullInj (h : Law p T d) (f : α → β) (hf : ∀ a, S a → T (f a))
    (inj : ∀ a b, S a → S b → f a = f b → a = b) : Law p S fun a b => d (f a) (f b) :=
  ⟨(h.pull f hf).refl, (h.pull f hf).tr,
   fun s a b ha hb hc => inj a b ha hb (h.sep s _ _ (hf a ha) (hf b hb) hc)⟩

/-- first by `c₁`; among the elements `c₁` does not separate from `a`, by `c₂` -/
theorem Law.then (h₁ : Law q S c₁) (h₂ : ∀ a, S a → Law p (fun b => S b ∧ c₁ a b = .eq) c₂) :
    Law p S fun a b => (c₁ a b).then (c₂ a b) where
  refl a ha := by
    have e := h₁.refl a ha
    rw [e]; exact (h₂ a ha).refl a ⟨ha, e⟩
  tr x y z hx hy hz := (h₁.tr x y z hx hy hz).then fun e1 e2 =>
    (h₂ x hx).tr x y z ⟨hx, h₁.refl x hx⟩ ⟨hy, e1⟩ ⟨hz, (h₁.tr x y z hx hy hz).eq_eq e1 e2⟩
  sep s a b ha hb h := by
    rw [Ordering.then_eq_eq] at h
    exact (h₂ a ha).sep s a b ⟨ha, h₁.refl a ha⟩ ⟨hb, h.1⟩ h.2

theorem natLin : Lin All (compare : Nat → Nat → Ordering) :=
  ⟨fun _ _ => Nat.compare_eq_eq.mpr rfl, fun x y z _ _ _ => STr_compare_nat x y z,
   fun _ _ _ _ _ => Nat.compare_eq_eq.mp⟩

theorem intLin : Lin All (compare : Int → Int → Ordering) :=
  ⟨fun _ _ => Int.compare_eq_eq.mpr rfl, fun x y z _ _ _ => STr_compare_int x y z,
   fun _ _ _ _ _ => Int.compare_eq_eq.mp⟩

theorem Law.byClass (κ : α → Nat) (h : ∀ a, S a → Law p (fun b => S b ∧ κ b = κ a) c) :
    Law p S fun a b => (compare (κ a) (κ b)).then (c a b) :=
  Law.then (natLin.pull κ fun _ _ => trivial) fun a ha =>
    (h a ha).mono fun _ hb => ⟨hb.1, (Nat.compare_eq_eq.mp hb.2).symm⟩

/-- the values of a constructor `mk` compare as its arguments do -/
theorem Law.image (h : Law p T d) (mk : β → α) (inv : ∀ a, S a → ∃ x, a = mk x) (hT : ∀ x, S (mk x) → T x)
    (e : ∀ x y, S (mk x) → S (mk y) → c (mk x) (mk y) = d x y) : Law p S c where
  refl a ha := by obtain ⟨x, rfl⟩ := inv a ha; rw [e x x ha ha]; exact h.refl x (hT x ha)
  tr a b c' ha hb hc := by
    obtain ⟨x, rfl⟩ := inv a ha; obtain ⟨y, rfl⟩ := inv b hb; obtain ⟨z, rfl⟩ := inv c' hc
    rw [e x y ha hb, e y z hb hc, e x z ha hc]; exact h.tr x y z (hT x ha) (hT y hb) (hT z hc)
  sep s a b ha hb hc := by
    obtain ⟨x, rfl⟩ := inv a ha; obtain ⟨y, rfl⟩ := inv b hb
    rw [e x y ha hb] at hc; rw [h.sep s x y (hT x ha) (hT y hb) hc]

theorem Law.prod {γ : Type} {U : γ → Prop} {e : γ → γ → Ordering} (h₁ : Law p T d) (h₂ : Law p U e) :
    Law p (fun x : β × γ => T x.1 ∧ U x.2) fun x y => (d x.1 y.1).then (e x.2 y.2) :=
  have h := (h₁.pull Prod.fst fun _ h => h.1).then fun _ _ => h₂.pull Prod.snd fun _ h => h.1.2
  ⟨h.refl, h.tr, fun s x y hx hy he => by
    rw [Ordering.then_eq_eq] at he
    exact Prod.ext (h₁.sep s _ _ hx.1 hy.1 he.1) (h₂.sep s _ _ hx.2 hy.2 he.2)⟩

theorem Law.lex (h : Law p S c) : Law p (fun l : List α => ∀ x ∈ l, S x) (lexCmp c) where
  refl l hl := by
    induction l with
    | nil => rfl
    | cons a as ih =>
      rw [lexCmp, h.refl a (hl a (by simp)), ih fun x hx => hl x (by simp [hx])]; rfl
  tr l m n hl hm hn := by
    induction l generalizing m n with
    | nil => cases m <;> cases n <;> first | rfl | trivial | exact STr.lt_any _
    | cons x xs ih =>
      cases m with
      | nil => cases n <;> first | rfl | trivial
      | cons y ys =>
        cases n with
        | nil => exact STr.any_gt _
        | cons z zs =>
          exact (h.tr x y z (hl x (by simp)) (hm y (by simp)) (hn z (by simp))).then fun _ _ =>
            ih ys zs (fun a ha => hl a (by simp [ha])) (fun a ha => hm a (by simp [ha]))
              (fun a ha => hn a (by simp [ha]))
  sep s l m hl hm he := by
    induction l generalizing m with
    | nil => cases m <;> first | rfl | cases he
    | cons x xs ih =>
      cases m with
      | nil => cases he
      | cons y ys =>
        rw [lexCmp, Ordering.then_eq_eq] at he
        rw [h.sep s x y (hl x (by simp)) (hm y (by simp)) he.1,
          ih ys (fun a ha => hl a (by simp [ha])) (fun a ha => hm a (by simp [ha])) he.2]

/-- one-sided in the hypothesis: that is what a recursion on the first argument has -/
theorem lexCmp_swap : (l m : List α) → (∀ x ∈ l, ∀ y, c y x = (c x y).swap) → lexCmp c m l = (lexCmp c l m).swap
  | [], [], _ | [], _ :: _, _ | _ :: _, [], _ => rfl
  | x :: xs, y :: ys, h => by
    rw [lexCmp, lexCmp, Ordering.swap_then, h x (by simp) y, lexCmp_swap xs ys fun a ha => h a (by simp [ha])]

/-- induction on a bound of a rank; a family `F` of sets, since the guard may change in the recursion -/
theorem Law.of_rank (ρ : α → Nat) (F : (α → Prop) → Prop)
    (step : ∀ n, (∀ S, F S → Law p (fun a => S a ∧ ρ a < n) c) →
      ∀ S, F S → Law p (fun a => S a ∧ ρ a < n + 1) c)
    (hS : F S) : Law p S c := by
  have all : ∀ n, ∀ S, F S → Law p (fun a => S a ∧ ρ a < n) c := fun n => by
    induction n with
    | zero =>
      exact fun _ _ => ⟨fun _ h => absurd h.2 (Nat.not_lt_zero _), fun _ _ _ h => absurd h.2 (Nat.not_lt_zero _),
        fun _ _ _ h => absurd h.2 (Nat.not_lt_zero _)⟩
    | succ n ih => exact step n ih
  exact ⟨fun a ha => (all _ S hS).refl a ⟨ha, Nat.lt_succ_self _⟩,
    fun x y z hx hy hz =>
      (all (ρ x + ρ y + ρ z + 1) S hS).tr x y z ⟨hx, by omega⟩ ⟨hy, by omega⟩ ⟨hz, by omega⟩,
    fun s a b ha hb => (all (ρ a + ρ b + 1) S hS).sep s a b ⟨ha, by omega⟩ ⟨hb, by omega⟩⟩

end
end Zed.Ord

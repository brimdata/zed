import Zed.Model.ZngUvarint
/-! The varint codec: the round trip. -/
namespace Zed.Zng

theorem readUvarintAux_uvarint (k : Nat) : ∀ (n : Nat) (f : Bool) (rest : Bytes), n < 2 * 128 ^ k →
    readUvarintAux (k + 1) f (uvarint n ++ rest) = .ok (n, rest) := by
  have one (k n f rest) (h128 : n < 128) (hk : ¬ (k = 0 ∧ n > 1)) :
      readUvarintAux (k + 1) f (uvarint n ++ rest) = .ok (n, rest) := by
    rw [uvarint, if_pos h128, List.singleton_append, readUvarintAux,
      UInt8.toNat_ofNat_of_lt' (Nat.lt_trans h128 (by decide)), if_pos h128, if_neg hk]
  induction k with
  | zero => intro n f rest hn; exact one 0 n f rest (by omega) (by omega)
  | succ k ih =>
    intro n f rest hn
    by_cases h128 : n < 128
    · exact one (k + 1) n f rest h128 (fun h => Nat.succ_ne_zero k h.1)
    · rw [Nat.pow_succ] at hn
      rw [uvarint, if_neg h128, List.cons_append, readUvarintAux,
        UInt8.toNat_ofNat_of_lt' (Nat.add_lt_add_right (Nat.mod_lt n (by decide)) 128),
        if_neg (Nat.not_lt.mpr (Nat.le_add_left 128 _)), ih (n / 128) false rest (by omega)]
      simp only [Nat.add_sub_cancel, Nat.mod_add_div]

theorem readUvarint_uvarint (n : Nat) (rest : Bytes) (hn : n < two64) :
    readUvarint (uvarint n ++ rest) = .ok (n, rest) :=
  readUvarintAux_uvarint 9 n true rest hn

theorem lt_two64 {n : Nat} (h : n < two63) : n < two64 := Nat.lt_trans h (by decide)

theorem asInt_small (n : Nat) (h : n < two63) : asInt n = (n : Int) := by
  rw [asInt, Nat.mod_eq_of_lt (lt_two64 h), if_pos h]; rfl

theorem readUvarintAsInt_uvarint (n : Nat) (rest : Bytes) (hn : n < two63) :
    readUvarintAsInt (uvarint n ++ rest) = .ok ((n : Int), rest) := by
  unfold readUvarintAsInt
  rw [readUvarint_uvarint n rest (lt_two64 hn)]
  simp only [asInt_small n hn]

theorem hasLen_append (b rest : Bytes) : hasLen (b ++ rest) b.length = true := by
  rw [hasLen_iff, List.length_append]; exact Nat.le_add_right _ _

theorem uvarint_small (n : Nat) (h : n < 128) : uvarint n = [UInt8.ofNat n] := by
  rw [uvarint]; simp [h]

theorem uvarint_ne_nil (n : Nat) : uvarint n ≠ [] := by
  rw [uvarint]; split <;> simp

end Zed.Zng

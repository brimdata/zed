import Zed.Model.ZsonQuote
/-!
  Lemmas for `quote_roundtrip_string` / `quote_roundtrip_name` (C02): the lexer's string scanner inverts `QuotedString`, and
  the identifier / type-name scanners invert `QuotedName` / `QuotedTypeName`.
  The character classes come from the regenerated tables (`unsafeAscii`, `shortEscapes`):
  `short_facts` / `unsafe_facts` are re-decided against them on every build.
-/
namespace Zed.Zson.Quote
open Zed.Generated

/-- the side conditions of `EscShape`'s three escaped shapes, as a decidable test. -/
def shortOK (c : Nat) : Bool :=
  match shortEscape c with
  | some e => decide (e ≠ 117 ∧ (((e = 34 ∨ e = 92) ∧ c = e) ∨
        (e ≠ 34 ∧ e ≠ 92 ∧ e ≠ 47 ∧ e ≠ 39 ∧ simpleEscape e = some c)))
  | none => decide (c < 32 ∧ unhex4 48 48 (hexDigit (c / 16)) (hexDigit (c % 16)) = some c ∧
        hexDigit (c / 16) ≠ 34 ∧ hexDigit (c / 16) ≠ 92 ∧ hexDigit (c % 16) ≠ 34 ∧ hexDigit (c % 16) ≠ 92 ∧
        isSurrogate c = false)

theorem short_facts : ∀ c ∈ C02.unsafeAscii, shortOK c = true := by decide +kernel

theorem unsafe_facts : ∀ c ∈ List.range 32 ++ [34, 92], c ∈ C02.unsafeAscii := by decide +kernel

theorem safe_facts (c : Nat) (hs : safeAscii c = true) : 32 ≤ c ∧ c ≠ 34 ∧ c ≠ 92 := by
  have hs' : c ∉ C02.unsafeAscii := by simpa [safeAscii] using hs
  have hnot : c ∉ List.range 32 ++ [34, 92] := fun hm => hs' (unsafe_facts c hm)
  simp only [List.mem_append, List.mem_range, List.mem_cons, List.not_mem_nil, or_false, not_or] at hnot
  omega

/-- the four shapes of `escapeChar c`. -/
inductive EscShape (c : Nat) : List Nat → Prop where
  | plain : c ≠ 34 → c ≠ 92 → 32 ≤ c → EscShape c [c]
  | quoteLike : (c = 34 ∨ c = 92) → EscShape c [92, c]
  | simple (e : Nat) : e ≠ 117 → e ≠ 34 → e ≠ 92 → e ≠ 47 → e ≠ 39 → simpleEscape e = some c → EscShape c [92, e]
  | uni (h1 h2 : Nat) : unhex4 48 48 h1 h2 = some c → h1 ≠ 34 → h1 ≠ 92 → h2 ≠ 34 → h2 ≠ 92 →
      isSurrogate c = false → EscShape c [92, 117, 48, 48, h1, h2]

theorem escShape (c : Nat) : EscShape c (escapeChar c) := by
  unfold escapeChar
  by_cases h : c < 128
  · simp only [h, if_true]
    cases hs : safeAscii c
    · have := short_facts c (by simpa [safeAscii] using hs)
      unfold shortOK at this
      simp only [Bool.false_eq_true, if_false]
      cases he : shortEscape c with
      | none =>
        rw [he] at this
        simp only [decide_eq_true_eq] at this
        obtain ⟨_, h2, h3, h4, h5, h6, h7⟩ := this
        exact .uni _ _ h2 h3 h4 h5 h6 h7
      | some e =>
        rw [he] at this
        simp only [decide_eq_true_eq] at this
        obtain ⟨h1, h3⟩ := this
        rcases h3 with ⟨h3, h4⟩ | ⟨a, b, c', d, e'⟩
        · subst h4; exact .quoteLike h3
        · exact .simple e h1 a b c' d e'
    · have := safe_facts c hs
      simp only [if_true]
      exact .plain this.2.1 this.2.2 this.1
  · simp only [h, if_false]
    have h' : 128 ≤ c := Nat.le_of_not_lt h
    exact .plain (by omega) (by omega) (by omega)

theorem scanToClose_plain (c : Nat) (X : List Nat) (h1 : c ≠ 34) (h2 : c ≠ 92) :
    scanToClose (c :: X) = (scanToClose X).map fun (b, rest) => (c :: b, rest) := by
  rw [scanToClose.eq_def]
  simp [cQuote, cBackslash, h1, h2]

theorem scanToClose_esc (d : Nat) (X : List Nat) :
    scanToClose (92 :: d :: X) = (scanToClose X).map fun (b, rest) => (92 :: d :: b, rest) := by
  rw [scanToClose.eq_def]
  simp [cQuote, cBackslash]

theorem scanToClose_escape (s : List Nat) (rest : List Nat) :
    scanToClose (escape s ++ 34 :: rest) = some (escape s, 34 :: rest) := by
  induction s with
  | nil => rw [scanToClose.eq_def]; simp [escape, cQuote]
  | cons c r ih =>
    simp only [escape, List.append_assoc]
    have hs := escShape c
    generalize escapeChar c = ec at hs ⊢
    cases hs with
    | plain h1 h2 _ => simp [scanToClose_plain, h1, h2, ih]
    | quoteLike _ => simp [scanToClose_esc, ih]
    | simple e _ _ _ _ _ _ => simp [scanToClose_esc, ih]
    | uni h1 h2 _ a b c' d _ =>
      simp [scanToClose_esc, scanToClose_plain, a, b, c', d, ih]

theorem parseSlow_escape (whole : List Nat) (s : List Nat) (acc : List Nat) :
    parseSlow whole acc (escape s) = some (acc ++ s) := by
  induction s generalizing acc with
  | nil => simp [escape, parseSlow]
  | cons c r ih =>
    simp only [escape]
    have hs := escShape c
    generalize escapeChar c = ec at hs ⊢
    cases hs with
    | plain h1 h2 h3 =>
      have : ¬ c < 32 := by omega
      rw [parseSlow.eq_def]
      simp [cBackslash, cQuote, h1, h2, this, ih]
    | quoteLike h =>
      rcases h with h | h <;> subst h <;> (rw [parseSlow.eq_def]; simp [cBackslash, cQuote, cSlash, cApos, ih])
    | simple e h0 h1 h2 h3 h4 h5 =>
      rw [parseSlow.eq_def]
      simp [cBackslash, cQuote, cSlash, cApos, cU, h0, h1, h2, h3, h4, h5, ih]
    | uni h1 h2 hu a b c' d hs =>
      rw [parseSlow.eq_def]
      simp [cBackslash, cQuote, cSlash, cApos, cU, hu, hs, ih]

theorem scanString_escape (s : List Nat) (acc rest : List Nat) :
    scanString acc (escape s ++ 34 :: rest) = some (acc ++ s, rest) := by
  induction s generalizing acc with
  | nil => rw [scanString.eq_def]; simp [escape, cQuote]
  | cons c r ih =>
    by_cases hc : c ≥ 128
    · -- slow path from here on
      have e1 : escape (c :: r) = c :: escape r := by
        simp [escape, escapeChar, Nat.not_lt.mpr hc]
      have h34 : c ≠ 34 := by omega
      have hA := scanToClose_escape (c :: r) rest
      have hB := parseSlow_escape (c :: escape r) (c :: r) acc
      rw [e1] at hA hB ⊢
      simp only [List.cons_append] at hA ⊢
      rw [scanString.eq_def]
      simp [cQuote, h34, hc, hA, hB]
    · have hlt : c < 128 := Nat.lt_of_not_le hc
      have hs := escShape c
      have e0 : escape (c :: r) = escapeChar c ++ escape r := rfl
      generalize hec : escapeChar c = ec at hs
      cases hs with
      | plain h1 h2 h3 =>
        have h10 : c ≠ 10 := by omega
        rw [e0, hec, scanString.eq_def]
        simp [cQuote, cBackslash, cNewline, h1, h2, hc, h10, ih]
      | quoteLike h =>
        rw [e0, hec]
        rcases h with h | h <;> subst h <;> (rw [scanString.eq_def]; simp [cQuote, cBackslash, cNewline, cU, cSlash, ih])
      | simple e h0 h1 h2 h3 h4 h5 =>
        rw [e0, hec, scanString.eq_def]
        simp [cQuote, cBackslash, cNewline, cU, cSlash, h0, h1, h2, h3, h5, ih]
      | uni h1 h2 hu a b c' d hs =>
        -- `scanString` calls `scanToClose` after the `\u`: peel `92 :: 117` off `hA`
        have hA := scanToClose_escape (c :: r) rest
        have hB := parseSlow_escape (escape (c :: r)) (c :: r) acc
        rw [e0, hec] at hA hB ⊢
        simp only [List.cons_append, List.nil_append, scanToClose_esc] at hA
        rw [scanString.eq_def]
        simp only [List.cons_append, List.nil_append] at hB ⊢
        simp [cQuote, cBackslash, cNewline, cU]
        cases hX : scanToClose (48 :: 48 :: h1 :: h2 :: (escape r ++ 34 :: rest)) with
        | none => simp [hX] at hA
        | some p =>
          simp [hX] at hA
          obtain ⟨p1, p2⟩ := p
          simp at hA
          obtain ⟨ha1, ha2⟩ := hA
          subst ha1 ha2
          simp [hB]

theorem unquote_quotedString (s rest : List Nat) :
    unquoteString (quotedString s ++ rest) = some (s, rest) := by
  simp [quotedString, unquoteString, cQuote, scanString_escape]

theorem idChar_ne_quote (L : List Nat) (c : Nat) (h : idChar L c = true) : c ≠ 34 := by
  intro hc; subst hc
  simp [idChar, isLetter, asciiLetter] at h

theorem idChar_typeChar (L : List Nat) (c : Nat) (h : idChar L c = true) : typeChar L c = true := by
  simp [typeChar, h]

theorem spanType_append (L : List Nat) (s rest : List Nat) (hs : s.all (typeChar L) = true)
    (hr : ∀ c, rest.head? = some c → typeChar L c = false) :
    spanType L (s ++ rest) = (s, rest) := by
  induction s with
  | nil =>
    cases rest with
    | nil => simp [spanType]
    | cons c r => simp [spanType, hr c rfl]
  | cons c r ih =>
    simp only [List.all_cons, Bool.and_eq_true] at hs
    simp [spanType, hs.1, ih hs.2]

theorem isIdentifier_all (L : List Nat) (s : List Nat) (h : isIdentifier L s = true) :
    s.all (typeChar L) = true ∧ ∃ c r, s = c :: r ∧ idChar L c = true := by
  cases s with
  | nil => simp [isIdentifier] at h
  | cons c r =>
    simp only [isIdentifier, Bool.and_eq_true, List.all_eq_true] at h
    refine ⟨?_, c, r, rfl, h.1⟩
    simp only [List.all_cons, Bool.and_eq_true, List.all_eq_true]
    refine ⟨idChar_typeChar L c h.1, fun x hx => ?_⟩
    have := h.2 x hx
    simp only [Bool.or_eq_true] at this
    rcases this with h1 | h1
    · exact idChar_typeChar L x h1
    · simp [typeChar, h1]

theorem unquoteName_quotedName (L : List Nat) (s rest : List Nat)
    (hr : ∀ c, rest.head? = some c → typeChar L c = false) :
    unquoteName L (quotedName L s ++ rest) = some (s, rest) := by
  unfold quotedName
  by_cases hi : isIdentifier L s = true
  · obtain ⟨hall, c, r, rfl, hc⟩ := isIdentifier_all L s hi
    have hsp := spanType_append L (c :: r) rest hall hr
    have hq := idChar_ne_quote L c hc
    simp only [hi, if_true]
    simp only [List.cons_append] at hsp ⊢
    simp [unquoteName, cQuote, hq, hc, hsp, hi]
  · simp only [hi]
    simp [unquoteName, quotedString, cQuote, unquoteString, scanString_escape]

/-- what a *bare* type name must satisfy to be read back as a name. -/
def tnameGuard (s : List Nat) : Bool :=
  s != [] && s.head? != some 46 && s != ascii "error" && s != ascii "enum" && !isPrimitiveName s

theorem isTypeName_all (L : List Nat) (s : List Nat) (h : isTypeName L s = true) (hd : s.head? ≠ some 46)
    (hne : s ≠ []) : s.all (typeChar L) = true ∧ ∃ c r, s = c :: r ∧ idChar L c = true := by
  cases s with
  | nil => exact absurd rfl hne
  | cons c r =>
    simp only [isTypeName, Bool.and_eq_true, Bool.not_eq_true'] at h
    refine ⟨by simp [List.all_cons, h.1.1, h.2], c, r, rfl, ?_⟩
    have h1 := h.1.1
    have h2 := h.1.2
    simp only [typeChar, Bool.or_eq_true, h2, Bool.false_eq_true, or_false] at h1
    rcases h1 with h1 | h1
    · exact h1
    · simp at h1; subst h1; simp at hd

theorem unquoteTName_quotedTypeName (L : List Nat) (s rest : List Nat) (hg : tnameGuard s = true)
    (hr : ∀ c, rest.head? = some c → typeChar L c = false) :
    unquoteTName L (quotedTypeName L s ++ rest) = some (s, rest) := by
  simp only [tnameGuard, Bool.and_eq_true, bne_iff_ne, ne_eq, Bool.not_eq_true'] at hg
  obtain ⟨⟨⟨⟨hne, hdot⟩, herr⟩, henum⟩, hprim⟩ := hg
  unfold quotedTypeName
  by_cases hi : isTypeName L s = true
  · obtain ⟨hall, c, r, rfl, hc⟩ := isTypeName_all L s hi hdot hne
    have hsp := spanType_append L (c :: r) rest hall hr
    have hq := idChar_ne_quote L c hc
    simp only [hi, if_true]
    simp only [List.cons_append] at hsp ⊢
    simp [unquoteTName, cQuote, hq, hc, hsp, herr, henum, hprim]
  · simp only [hi]
    simp [unquoteTName, quotedString, cQuote, unquoteString, scanString_escape, herr, henum, hprim]

end Zed.Zson.Quote

/-
  `commits.Patch` (as coded) against `commits.Snapshot`: playing the same actions on `NewPatch(B)` and on the
  snapshot `B`, when both succeed, keeps  S = (B \ p.deletedObjects) ∪ p.diff  as sets of object ids (`Rel`).
  Merge and revert are the child's patch and its inverse applied to a tip.
-/
import Zed.Proofs.LakeSnap
namespace Zed.Lake
variable {K : Type}

theorem view_snap_exists (B : Snap K) (id : Nat) : (View.snap B).exists_ id = B.hasObj id := by
  simp [View.exists_, View.lookup, find_isSome]

/-- `Patch.Lookup` on a patch over a snapshot: the diff, else the base — deletedObjects are
    NOT consulted -/
theorem patch_exists (p : Patch K) (B : Snap K) (hb : p.base = .snap B) (id : Nat) :
    p.exists_ id = (p.diff.hasObj id || B.hasObj id) := by
  unfold Patch.exists_ Patch.toView View.exists_ View.lookup
  rw [hb]
  cases hf : p.diff.find id with
  | none =>
    have : p.diff.hasObj id = false := by rw [← find_isSome, hf]; rfl
    simp [this, View.lookup, find_isSome]
  | some o =>
    have : p.diff.hasObj id = true := by rw [← find_isSome, hf]; rfl
    simp [this]

theorem addObj_diff (p p' : Patch K) (o : Obj K) (h : p.addObj o = .ok p') :
    p.base.exists_ o.id = false ∧ p.diff.hasObj o.id = false ∧
    p' = { p with diff := { p.diff with objs := p.diff.objs ++ [o] } } := by
  revert h
  fun_cases Patch.addObj p o <;> intro h <;> cases h
  case case2 hb d hd =>
    obtain ⟨h1, rfl⟩ := addObj_ok _ _ _ hd
    exact ⟨by simpa using hb, h1, rfl⟩

theorem addObj_of_patch (p : Patch K) (o : Obj K) (hb : p.base.exists_ o.id = false)
    (hd : p.diff.hasObj o.id = false) :
    p.addObj o = .ok { p with diff := { p.diff with objs := p.diff.objs ++ [o] } } := by
  unfold Patch.addObj
  simp [hb, addObj_of _ _ hd]

theorem Patch.delObj_ok (p p' : Patch K) (x : Nat) (h : p.delObj x = .ok p') :
    (p.diff.hasObj x = true ∧
      p' = { p with diff := { p.diff with objs := p.diff.objs.filter (·.id != x) } }) ∨
    (p.diff.hasObj x = false ∧ p.base.exists_ x = true ∧ p' = { p with delObjs := p.delObjs ++ [x] }) := by
  revert h
  fun_cases Patch.delObj p x <;> intro h <;> cases h
  case case1 hdx d hd => exact Or.inl ⟨hdx, by rw [(Zed.Lake.delObj_ok _ _ _ hd).2]⟩
  case case4 hdx hb => exact Or.inr ⟨by simpa using hdx, by simpa using hb, rfl⟩

theorem Patch.addVec_ok (p p' : Patch K) (v : Nat) (h : p.addVec v = .ok p') :
    p' = { p with diff := { p.diff with vecs := p.diff.vecs ++ [v] } } := by
  revert h
  fun_cases Patch.addVec p v <;> intro h <;> cases h
  case case2 _ d hd => rw [(Zed.Lake.addVec_ok _ _ _ hd).2]

theorem Patch.playAction_vec (p p' : Patch K) (v : Nat)
    (h : p.playAction (.addVec v) = .ok p' ∨ p.playAction (.delVec v) = .ok p') :
    p'.base = p.base ∧ p'.delObjs = p.delObjs ∧ p'.diff.objs = p.diff.objs := by
  rcases h with h | h
  · rw [Patch.addVec_ok p p' v h]; exact ⟨rfl, rfl, rfl⟩
  · revert h
    show p.delVec v = .ok p' → _
    fun_cases Patch.delVec p v <;> intro h <;> cases h
    case inr.case1 _ d hd => rw [(Zed.Lake.delVec_ok _ _ _ hd).2]; exact ⟨rfl, rfl, rfl⟩
    case inr.case4 => exact ⟨rfl, rfl, rfl⟩

theorem Patch.revert_ok {p : Patch K} {tip : Snap K} {acts : List (Action K)} (h : p.revert tip = .ok acts) :
    ∃ adds, p.revertAdds tip p.delObjs = .ok adds ∧
      acts = (p.diff.objs.filter (tip.hasObj ·.id)).map (.del ·.id) ++ adds := by
  revert h
  fun_cases Patch.revert p tip <;> intro h
  case case1 => cases h
  case case2 => cases h
  case case3 _ adds ha _ _ => exact ⟨adds, ha, (Except.ok.inj h).symm⟩

theorem revertAdds_from (B : Snap K) (p : Patch K) (hb : p.base = .snap B) (tip : Snap K)
    (ids : List Nat) (acts : List (Action K)) (h : p.revertAdds tip ids = .ok acts) :
    ∃ D : List (Obj K), D.map (·.id) = ids ∧ (∀ o ∈ D, o ∈ B.objs) ∧
      acts = (D.filter (fun o => !tip.hasObj o.id)).map .add := by
  revert h
  fun_induction Patch.revertAdds p tip ids generalizing acts <;> intro h
  case case1 => cases h; exact ⟨[], rfl, fun _ ho => (nomatch ho), rfl⟩
  case case2 => cases h
  case case3 => cases h
  case case4 x xs o hl r hr ih =>
    cases h
    rw [hb] at hl
    have hoid : o.id = x := find_id B x o hl
    obtain ⟨D, h1, h2, rfl⟩ := ih r hr
    refine ⟨o :: D, by rw [List.map_cons, h1, hoid], fun o' ho' =>
      (List.mem_cons.mp ho').elim (fun e => e ▸ List.mem_of_find?_eq_some hl) (h2 o'), ?_⟩
    rw [List.filter_cons, hoid]
    cases tip.hasObj x <;> rfl

/-- `delIn`, `diffOut` and the two `Nodup`s are what the "both succeed" hypothesis buys: the
    snapshot refuses a second delete or add of an id, so the patch never records one twice -/
structure Rel (B : Snap K) (p : Patch K) (S : Snap K) : Prop where
  base : p.base = .snap B
  mem : ∀ id, S.hasObj id = ((B.hasObj id && !p.delObjs.contains id) || p.diff.hasObj id)
  delIn : ∀ id, p.delObjs.contains id = true → B.hasObj id = true
  diffOut : ∀ id, p.diff.hasObj id = true → B.hasObj id = false
  delNodup : p.delObjs.Nodup
  diffNodup : (p.diff.objs.map (·.id)).Nodup

theorem Rel.init (B : Snap K) : Rel B (Patch.new (.snap B)) B where
  base := rfl
  mem := by intro id; simp [Patch.new, Snap.hasObj]
  delIn := by intro id h; simp [Patch.new] at h
  diffOut := by intro id h; simp [Patch.new, Snap.hasObj] at h
  delNodup := by simp [Patch.new]
  diffNodup := by simp [Patch.new]

/-- the relation only looks at the base, the deleted ids and the two object lists -/
theorem Rel.congr {B : Snap K} {p p' : Patch K} {S S' : Snap K} (r : Rel B p S)
    (hb : p'.base = p.base) (hd : p'.delObjs = p.delObjs) (ho : p'.diff.objs = p.diff.objs)
    (hS : S'.objs = S.objs) : Rel B p' S' where
  base := hb.trans r.base
  mem := by simpa only [Snap.hasObj, hd, ho, hS] using r.mem
  delIn := by simpa only [hd] using r.delIn
  diffOut := by simpa only [Snap.hasObj, ho] using r.diffOut
  delNodup := hd ▸ r.delNodup
  diffNodup := ho ▸ r.diffNodup

theorem Rel.added {B : Snap K} {p : Patch K} {S : Snap K} (r : Rel B p S) (id : Nat) :
    (S.hasObj id && !B.hasObj id) = p.diff.hasObj id := by
  rw [r.mem id]
  cases hD : p.diff.hasObj id
  · cases B.hasObj id <;> cases p.delObjs.contains id <;> rfl
  · rw [r.diffOut id hD]; simp

theorem Rel.deleted {B : Snap K} {p : Patch K} {S : Snap K} (r : Rel B p S) (id : Nat) :
    (B.hasObj id && !S.hasObj id) = p.delObjs.contains id := by
  rw [r.mem id]
  cases hC : p.delObjs.contains id
  · cases B.hasObj id <;> cases p.diff.hasObj id <;> rfl
  · have hB := r.delIn id hC
    have hD : p.diff.hasObj id = false := Bool.eq_false_iff.mpr fun h => by
      rw [r.diffOut id h] at hB; cases hB
    rw [hB, hD]; rfl

theorem Rel.disjoint {B : Snap K} {p : Patch K} {S : Snap K} (r : Rel B p S) (id : Nat)
    (h : p.diff.hasObj id = true) : p.delObjs.contains id = false :=
  Bool.eq_false_iff.mpr fun hc => by
    have := r.delIn id hc
    rw [r.diffOut id h] at this; cases this

theorem sim_step (B : Snap K) (p p' : Patch K) (S S' : Snap K) (a : Action K)
    (r : Rel B p S) (hp : p.playAction a = .ok p') (hs : playAction S a = .ok S') : Rel B p' S' := by
  cases a with
  | add o =>
    obtain ⟨hB, hdn, rfl⟩ := addObj_diff p p' o hp
    rw [r.base, view_snap_exists] at hB
    obtain ⟨_, rfl⟩ := addObj_ok S S' o hs
    exact {
      base := r.base
      mem := by
        intro id
        rw [hasObj_append, r.mem id, hasObj_append, Bool.or_assoc]
      delIn := r.delIn
      diffOut := by
        intro id h
        rw [hasObj_append] at h
        by_cases he : o.id = id
        · rw [← he]; exact hB
        · have : (o.id == id) = false := by simpa using he
          simp only [List.any_cons, this, List.any_nil, Bool.or_false] at h
          exact r.diffOut id h
      delNodup := r.delNodup
      diffNodup := nodup_ids_append _ _ r.diffNodup hdn }
  | del x =>
    obtain ⟨hSx, rfl⟩ := delObj_ok S S' x hs
    rcases Patch.delObj_ok p p' x hp with ⟨hdx, rfl⟩ | ⟨hdx, hBx, rfl⟩
    · -- the patch added `x` itself: it leaves the diff, and was never in the base
      have hBx := r.diffOut x hdx
      exact {
        base := r.base
        mem := by
          intro id
          rw [hasObj_filter S (· != x), r.mem id, hasObj_filter p.diff (· != x)]
          by_cases he : id = x
          · subst he; simp [hBx]
          · have : (id != x) = true := by simpa using he
            simp [this]
        delIn := r.delIn
        diffOut := by
          intro id h
          rw [hasObj_filter p.diff (· != x)] at h
          exact r.diffOut id (by simp only [Bool.and_eq_true] at h; exact h.1)
        delNodup := r.delNodup
        diffNodup := nodup_ids_filter _ _ r.diffNodup }
    · -- `x` is a base object; it was not deleted before, since it is still in `S`
      rw [r.base, view_snap_exists] at hBx
      have hnc : p.delObjs.contains x = false := by
        have := r.mem x
        rw [hSx, hBx, hdx] at this
        simpa using this.symm
      exact {
        base := r.base
        mem := by
          intro id
          rw [hasObj_filter S (· != x), r.mem id]
          simp only [List.contains_eq_mem, List.mem_append, List.mem_singleton]
          by_cases he : id = x
          · subst he; simp [hdx]
          · have h1 : (id != x) = true := by simpa using he
            simp [h1, he]
        delIn := by
          intro id h
          simp only [List.contains_eq_mem, List.mem_append, List.mem_singleton, decide_eq_true_eq] at h
          rcases h with h | h
          · exact r.delIn id (by simpa using h)
          · subst h; exact hBx
        diffOut := r.diffOut
        delNodup := by
          rw [List.nodup_append]
          refine ⟨r.delNodup, by simp, ?_⟩
          intro a ha b hb
          simp only [List.mem_singleton] at hb
          subst hb
          intro hab; subst hab
          have : p.delObjs.contains a = true := by simpa using ha
          rw [hnc] at this; cases this
        diffNodup := r.diffNodup }
  | addVec v =>
    obtain ⟨h1, h2, h3⟩ := Patch.playAction_vec p p' v (.inl hp)
    exact r.congr h1 h2 h3 (playAction_vec_objs S S' v (.inl hs))
  | delVec v =>
    obtain ⟨h1, h2, h3⟩ := Patch.playAction_vec p p' v (.inr hp)
    exact r.congr h1 h2 h3 (playAction_vec_objs S S' v (.inr hs))

theorem sim (B : Snap K) (as : List (Action K)) (p p' : Patch K) (S S' : Snap K)
    (r : Rel B p S) (hp : p.play as = .ok p') (hs : play S as = .ok S') : Rel B p' S' := by
  induction as generalizing p S with
  | nil =>
    simp only [Patch.play, Except.ok.injEq] at hp
    simp only [play, Except.ok.injEq] at hs
    subst hp; subst hs; exact r
  | cons a as ih =>
    simp only [Patch.play] at hp
    simp only [play] at hs
    cases hpa : p.playAction a with
    | error e => simp [hpa] at hp
    | ok p1 =>
      cases hsa : playAction S a with
      | error e => simp [hsa] at hs
      | ok S1 =>
        simp only [hpa] at hp
        simp only [hsa] at hs
        exact ih p1 S1 (sim_step B p p1 S S1 a r hpa hsa) hp hs

/-- a patch that so far only collected object adds / base deletes -/
structure Plain (p : Patch K) : Prop where
  delVecs : p.delVecs = []
  vecs : p.diff.vecs = []

theorem addAll_spec (p p' : Patch K) (os : List (Obj K)) (h : addAll p os = .ok p') :
    p' = { p with diff := { p.diff with objs := p.diff.objs ++ os } } := by
  induction os generalizing p with
  | nil => simp only [addAll, Except.ok.injEq] at h; subst h; simp
  | cons o os ih =>
    unfold addAll at h
    cases ha : p.addObj o with
    | error e => simp [ha] at h
    | ok p1 =>
      simp only [ha] at h
      rw [ih p1 h, (addObj_diff p p1 o ha).2.2]
      simp [List.append_assoc]

theorem addVecAll_spec (p p' : Patch K) (ids : List Nat) (h : addVecAll p ids = .ok p') :
    p' = { p with diff := { p.diff with vecs := p.diff.vecs ++ ids } } := by
  induction ids generalizing p with
  | nil => simp only [addVecAll, Except.ok.injEq] at h; subst h; simp
  | cons i is ih =>
    unfold addVecAll at h
    cases ha : p.addVec i with
    | error e => simp [ha] at h
    | ok p1 =>
      simp only [ha] at h
      have hp1 := Patch.addVec_ok p p1 i ha
      rw [ih p1 h, hp1]
      simp [List.append_assoc]

theorem delAll_spec (p p' : Patch K) (ids : List Nat) (hnd : ∀ id ∈ ids, p.diff.hasObj id = false)
    (h : delAll p ids = .ok p') : p' = { p with delObjs := p.delObjs ++ ids } := by
  induction ids generalizing p with
  | nil => simp only [delAll, Except.ok.injEq] at h; subst h; simp
  | cons i is ih =>
    unfold delAll at h
    cases ha : p.delObj i with
    | error e => simp [ha] at h
    | ok p1 =>
      simp only [ha] at h
      rcases Patch.delObj_ok p p1 i ha with ⟨hi, _⟩ | ⟨_, _, rfl⟩
      · rw [hnd i (by simp)] at hi; cases hi
      · rw [ih { p with delObjs := p.delObjs ++ [i] } (fun id hid => hnd id (by simp [hid])) h]
        simp [List.append_assoc]

theorem delAll_sub (p p' : Patch K) (ids : List Nat) (h : delAll p ids = .ok p') :
    (∀ o ∈ p'.diff.objs, o ∈ p.diff.objs) ∧ p'.diff.vecs = p.diff.vecs ∧ p'.delVecs = p.delVecs := by
  induction ids generalizing p with
  | nil => simp only [delAll, Except.ok.injEq] at h; subst h; exact ⟨fun o ho => ho, rfl, rfl⟩
  | cons x xs ih =>
    unfold delAll at h
    cases ha : p.delObj x with
    | error e => simp [ha] at h
    | ok p1 =>
      simp only [ha] at h
      obtain ⟨h1, h2, h3⟩ := ih p1 h
      rcases Patch.delObj_ok p p1 x ha with ⟨_, rfl⟩ | ⟨_, _, rfl⟩
      · exact ⟨fun o ho => (List.mem_filter.mp (h1 o ho)).1, h2, h3⟩
      · exact ⟨h1, h2, h3⟩

/-- first loop of `Diff`: every child object that does not "exist" in the parent patch is added -/
theorem diffAdds_ok (pp pc p p' : Patch K) (dirty d' : Bool) (os : List (Obj K))
    (h : diffAdds pp pc p dirty os = .ok (p', d')) :
    p' = { p with diff := { p.diff with objs := p.diff.objs ++ os.filter (fun o => !pp.exists_ o.id) } } := by
  revert h
  fun_induction diffAdds pp pc p dirty os <;> intro h
  case case1 => cases h; simp
  case case2 => cases h
  case case3 p dirty o os he _ p1 ha ih =>
    rw [ih h, (addObj_diff p p1 o ha).2.2, List.filter_cons, he]
    simp [List.append_assoc]
  case case4 => cases h
  case case5 p dirty o os he ih =>
    rw [ih h, List.filter_cons, if_neg (by simpa using he)]

/-- second loop of `Diff`: the child's deletes, one by one as `delAll` makes them -/
theorem diffDels_delAll (pp p p' : Patch K) (dirty d' : Bool) (ids : List Nat)
    (h : diffDels pp p dirty ids = .ok (p', d')) : delAll p ids = .ok p' := by
  revert h
  fun_induction diffDels pp p dirty ids <;> intro h
  case case1 => cases h; rfl
  case case2 p dirty x xs _ p1 ha ih => rw [delAll, ha]; exact ih h
  case case3 => cases h
  case case4 => cases h

theorem diffAdds_spec (pp pc p : Patch K) (hb : p.base = pp.toView) (os : List (Obj K)) (dirty : Bool)
    (hn : ((os.filter (fun o => !pp.exists_ o.id)).map (·.id)).Nodup)
    (hdis : ∀ o ∈ os, pp.exists_ o.id = false → p.diff.hasObj o.id = false)
    (hdel : ∀ o ∈ os, pp.exists_ o.id = false → pc.delObjs.contains o.id = false) :
    ∃ dirty', diffAdds pp pc p dirty os =
      .ok ({ p with diff := { p.diff with objs := p.diff.objs ++ os.filter (fun o => !pp.exists_ o.id) } }, dirty') := by
  induction os generalizing p dirty with
  | nil => exact ⟨dirty, by simp [diffAdds]⟩
  | cons o os ih =>
    unfold diffAdds
    cases he : pp.exists_ o.id with
    | true =>
      rw [List.filter_cons, he] at hn ⊢
      simp only [Bool.not_true, Bool.false_eq_true, if_false] at hn ⊢
      exact ih p hb dirty hn (fun o' ho' => hdis o' (by simp [ho'])) (fun o' ho' => hdel o' (by simp [ho']))
    | false =>
      rw [List.filter_cons, he] at hn ⊢
      simp only [Bool.not_false, if_true, hdel o (by simp) he, Bool.false_eq_true, if_false, List.map_cons] at hn ⊢
      rw [addObj_of_patch p o (by rw [hb]; exact he) (hdis o (by simp) he)]
      have hn' := List.nodup_cons.mp hn
      obtain ⟨d', h⟩ := ih { p with diff := { p.diff with objs := p.diff.objs ++ [o] } } hb true hn'.2
        (fun o' ho' he' => by
          show (({ p.diff with objs := p.diff.objs ++ [o] } : Snap K)).hasObj o'.id = false
          rw [hasObj_append, hdis o' (by simp [ho']) he']
          have : o.id ≠ o'.id := fun h => hn'.1 (h ▸ List.mem_map_of_mem (f := fun x : Obj K => x.id)
            (List.mem_filter.mpr ⟨ho', by simp [he']⟩))
          simpa using this)
        (fun o' ho' => hdel o' (by simp [ho']))
      exact ⟨d', by simp only []; rw [h]; simp [List.append_assoc]⟩

theorem diffDels_spec (pp p : Patch K) (hb : p.base = pp.toView) (ids : List Nat) (dirty : Bool)
    (hex : ∀ id ∈ ids, pp.exists_ id = true)
    (hnd : ∀ id ∈ ids, p.diff.hasObj id = false) :
    ∃ dirty', diffDels pp p dirty ids = .ok ({ p with delObjs := p.delObjs ++ ids }, dirty') := by
  induction ids generalizing p dirty with
  | nil => exact ⟨dirty, by simp [diffDels]⟩
  | cons x xs ih =>
    have hx := hex x (by simp)
    have hd : p.delObj x = .ok { p with delObjs := p.delObjs ++ [x] } := by
      have hbx : p.base.exists_ x = true := by rw [hb]; exact hx
      simp [Patch.delObj, hnd x (by simp), hbx]
    obtain ⟨d', h1⟩ := ih { p with delObjs := p.delObjs ++ [x] } hb true
      (fun id hid => hex id (by simp [hid])) (fun id hid => hnd id (by simp [hid]))
    exact ⟨d', by rw [diffDels, if_pos hx, hd]; simp [h1, List.append_assoc]⟩

theorem diff_eq_delAll (pp pc d : Patch K) (h : diff pp pc = .ok d) :
    delAll { Patch.new pp.toView with
        diff := { objs := pc.selectAll.filter (fun o => !pp.exists_ o.id) } } pc.delObjs = .ok d := by
  unfold diff at h
  cases h1 : diffAdds pp pc (Patch.new pp.toView) false pc.selectAll with
  | error e => simp [h1] at h
  | ok r =>
    obtain ⟨p1, d1⟩ := r
    simp only [h1] at h
    cases h2 : diffDels pp p1 d1 pc.delObjs with
    | error e => simp [h2] at h
    | ok r2 =>
      obtain ⟨p2, d2⟩ := r2
      simp only [h2] at h
      split at h
      · cases h
        have := diffDels_delAll _ _ _ _ _ _ h2
        rw [diffAdds_ok _ _ _ _ _ _ _ h1] at this
        exact this
      · cases h

/-- everything `Diff(parent, child)` adds is an object of the child patch (its base or its diff);
    it carries no vector actions -/
theorem diff_sub (pp pc d : Patch K) (h : diff pp pc = .ok d) :
    (∀ o ∈ d.diff.objs, o ∈ pc.selectAll) ∧ d.diff.vecs = [] ∧ d.delVecs = [] := by
  obtain ⟨h1, h2, h3⟩ := delAll_sub _ d _ (diff_eq_delAll pp pc d h)
  exact ⟨fun o ho => (List.mem_filter.mp (h1 o ho)).1, h2, h3⟩

/-- `Diff(parent, child)` for two patches over the same base `B` -/
theorem diff_spec (B : Snap K) (pp pc d : Patch K) (Sp Sc : Snap K)
    (rp : Rel B pp Sp) (rc : Rel B pc Sc) (h : diff pp pc = .ok d) :
    d.delObjs = pc.delObjs ∧
    d.diff.objs = pc.diff.objs.filter (fun o => !pp.exists_ o.id) ∧
    d.delVecs = [] ∧ d.diff.vecs = [] := by
  -- the parent "sees" every base object, so only objects of the child's diff get added
  have hsel : pc.selectAll.filter (fun o => !pp.exists_ o.id)
      = pc.diff.objs.filter (fun o => !pp.exists_ o.id) := by
    have : pc.selectAll = B.objs ++ pc.diff.objs := by
      simp [Patch.selectAll, Patch.toView, View.selectAll, rc.base]
    rw [this, List.filter_append, List.filter_eq_nil_iff.mpr, List.nil_append]
    intro o ho
    rw [patch_exists pp B rp.base, show B.hasObj o.id = true from
      List.any_eq_true.mpr ⟨o, ho, by simp⟩]
    simp
  -- the child deleted base objects only, and none of those is in its diff
  have hk := diff_eq_delAll pp pc d h
  rw [hsel] at hk
  rw [delAll_spec _ d pc.delObjs (by
    intro id hid
    rw [Bool.eq_false_iff]
    intro hc
    obtain ⟨o, ho, hoid⟩ := List.any_eq_true.mp hc
    have hB := rc.delIn id (by simpa using hid)
    rw [rc.diffOut id (List.any_eq_true.mpr ⟨o, (List.mem_filter.mp ho).1, hoid⟩)] at hB
    cases hB) hk]
  exact ⟨by simp [Patch.new], rfl, rfl, rfl⟩

/-- merge of `Sc` into `Sp` over the ancestor `B`: `Sp` minus what the child deleted, plus what it added;
    `guard`: `Sp` still has what the child deletes -/
theorem merge_rel {B Sp Sc : Snap K} {pp pc d : Patch K} (rp : Rel B pp Sp) (rc : Rel B pc Sc)
    (hd : diff pp pc = .ok d) (guard : pc.delObjs.all Sp.hasObj = true) :
    ∃ S', play Sp d.commitActions = .ok S' ∧ S'.vecs = Sp.vecs ∧
      ∀ id, S'.hasObj id =
        ((Sp.hasObj id && !(B.hasObj id && !Sc.hasObj id)) || (Sc.hasObj id && !B.hasObj id)) := by
  obtain ⟨h1, h2, h3, h4⟩ := diff_spec B pp pc d Sp Sc rp rc hd
  obtain ⟨S', e1, e2, e3⟩ := play_lenient Sp pc.delObjs pc.diff.objs rc.delNodup rc.diffNodup rc.disjoint
  refine ⟨S', ?_, e2, fun id => by rw [e3 id, rc.deleted id, rc.added id]; rfl⟩
  rw [← e1, Patch.commitActions, h1, h2, h3, h4, List.map_nil, List.append_nil, List.map_nil, List.append_nil,
    List.filter_eq_self.mpr (fun id hid => List.all_eq_true.mp guard id hid)]
  congr 3
  refine List.filter_congr fun o ho => ?_
  have hB := rc.diffOut o.id (List.any_eq_true.mpr ⟨o, ho, by simp⟩)
  rw [patch_exists pp B rp.base, rp.mem, hB]
  cases pp.diff.hasObj o.id <;> rfl

/-- revert of `B → Sc` on `T`: `T` minus what the commit added, plus what it deleted -/
theorem revert_rel {B Sc T : Snap K} {pc : Patch K} {acts : List (Action K)} (rc : Rel B pc Sc)
    (hr : pc.revert T = .ok acts) :
    ∃ T', play T acts = .ok T' ∧ T'.vecs = T.vecs ∧
      ∀ id, T'.hasObj id =
        ((T.hasObj id && !(Sc.hasObj id && !B.hasObj id)) || (B.hasObj id && !Sc.hasObj id)) := by
  obtain ⟨adds, hra, rfl⟩ := Patch.revert_ok hr
  obtain ⟨D, hD, _, rfl⟩ := revertAdds_from B pc rc.base T pc.delObjs adds hra
  obtain ⟨T', h1, h2, h3⟩ := play_lenient T (pc.diff.objs.map (·.id)) D rc.diffNodup (hD ▸ rc.delNodup)
    (fun id h => by
      rw [any_id_contains, hD] at h
      rw [← any_id_contains]
      exact Bool.eq_false_iff.mpr fun hc => by rw [rc.disjoint id hc] at h; cases h)
  refine ⟨T', ?_, h2, fun id => ?_⟩
  · rw [← h1, ← ids_filter pc.diff.objs T.hasObj, List.map_map]; rfl
  · rw [h3 id, ← any_id_contains, any_id_contains D, hD, rc.deleted id, rc.added id]; rfl

/-- `PatchOfPath` from an ancestor: the patch and the tip snapshot come from the same actions -/
theorem patchOfPath_replay (cs : List (Commit K)) (c anc : Nat) (hanc : anc ∈ pathAt cs c)
    (S : Snap K) (hS : snapAt cs c = .ok S) :
    ∃ B, snapAt cs anc = .ok B ∧ ∃ A, play B A = .ok S ∧
      patchOfPath cs B anc c = (Patch.new (.snap B)).play A := by
  obtain ⟨B, hB, hplay⟩ := snapAt_replay cs c anc hanc S hS
  refine ⟨B, hB, _, hplay, ?_⟩
  unfold patchOfPath
  simp only [pathRange_dropLast cs c anc hanc]

theorem Patch.playAction_diff (Q : Obj K → Prop) (p p' : Patch K) (a : Action K)
    (h : p.playAction a = .ok p') (hd : ∀ o ∈ p.diff.objs, Q o)
    (ha : ∀ o, a = .add o → Q o) : (∀ o ∈ p'.diff.objs, Q o) ∧ p'.base = p.base := by
  cases a with
  | add o =>
    obtain ⟨_, _, rfl⟩ := addObj_diff p p' o h
    refine ⟨fun o' ho' => (List.mem_append.mp ho').elim (hd o') fun h1 => ?_, rfl⟩
    rw [List.mem_singleton.mp h1]
    exact ha _ rfl
  | del x =>
    rcases Patch.delObj_ok p p' x h with ⟨_, rfl⟩ | ⟨_, _, rfl⟩
    · exact ⟨fun o ho => hd o (List.mem_filter.mp ho).1, rfl⟩
    · exact ⟨hd, rfl⟩
  | addVec v =>
    obtain ⟨h1, _, h3⟩ := Patch.playAction_vec p p' v (.inl h)
    exact ⟨h3 ▸ hd, h1⟩
  | delVec v =>
    obtain ⟨h1, _, h3⟩ := Patch.playAction_vec p p' v (.inr h)
    exact ⟨h3 ▸ hd, h1⟩

theorem Patch.play_diff (Q : Obj K → Prop) (p p' : Patch K) (as : List (Action K))
    (h : p.play as = .ok p') (hd : ∀ o ∈ p.diff.objs, Q o)
    (ha : ∀ o, Action.add o ∈ as → Q o) : (∀ o ∈ p'.diff.objs, Q o) ∧ p'.base = p.base := by
  induction as generalizing p with
  | nil => simp only [Patch.play, Except.ok.injEq] at h; subst h; exact ⟨hd, rfl⟩
  | cons a as ih =>
    simp only [Patch.play] at h
    cases hpa : p.playAction a with
    | error e => simp [hpa] at h
    | ok p1 =>
      simp only [hpa] at h
      obtain ⟨h1, h2⟩ := Patch.playAction_diff Q p p1 a hpa hd (fun o ho => ha o (by simp [ho]))
      obtain ⟨h3, h4⟩ := ih p1 h h1 (fun o ho => ha o (by simp [ho]))
      exact ⟨h3, h4.trans h2⟩

theorem pathActions_mem (cs : List (Commit K)) (ids : List Nat) (a : Action K) (h : a ∈ pathActions cs ids) :
    ∃ co ∈ cs, a ∈ co.acts := by
  unfold pathActions at h
  obtain ⟨c, _, hc⟩ := List.mem_flatMap.mp h
  cases hg : getCommit cs c with
  | none => simp [hg] at hc
  | some co => simp only [hg] at hc; exact ⟨co, getCommit_mem cs c co hg, hc⟩

theorem patch_dels_adds {v : View K} {ids : List Nat} {objs : List (Obj K)} {p1 p2 : Patch K}
    (h1 : delAll (Patch.new v) ids = .ok p1) (h2 : addAll p1 objs = .ok p2) :
    p2.commitActions = ids.map .del ++ objs.map .add := by
  rw [addAll_spec _ _ _ h2, delAll_spec _ _ _ (by intro id _; simp [Patch.new, Snap.hasObj]) h1]
  simp [Patch.commitActions, Patch.new]

theorem compact_acts {v : View K} {objs : List (Obj K)} {vs dels : List Nat} {p1 p2 p3 : Patch K}
    (h1 : addAll (Patch.new v) objs = .ok p1) (h2 : addVecAll p1 vs = .ok p2) (h3 : delAll p2 dels = .ok p3)
    (hne : ∀ id ∈ dels, ∀ o ∈ objs, o.id ≠ id) :
    p3.commitActions = dels.map .del ++ objs.map .add ++ vs.map .addVec := by
  have e1 := addAll_spec _ _ _ h1
  have e2 := addVecAll_spec _ _ _ h2
  rw [delAll_spec p2 p3 dels (by
    intro id hid
    rw [e2, e1]
    simp only [Patch.new, Snap.hasObj, List.nil_append, List.any_eq_false]
    intro o ho
    simpa using hne id hid o ho) h3, e2, e1]
  simp [Patch.commitActions, Patch.new]

end Zed.Lake

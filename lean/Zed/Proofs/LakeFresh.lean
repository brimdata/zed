/-
  Freshness.  Invariants of every snapshot of every commit store (by `snapAt_all`, the induction
  along the fold `Store.Snapshot` computes): ids below the id counter, `count` = length of the file;
  the invariant `Good` of the pool state and its preservation by every operation.
-/
import Zed.Proofs.LakeOps
import Zed.Proofs.LakeWrite
import Zed.Proofs.LakePatch
namespace Zed.Lake
variable {K V : Type}

/-- what the invariant says about a data object mentioned in a commit: its id is below the id
    counter, and its `count` is the number of values of its file (if the file still exists) -/
def ObjOk (n : Nat) (files : List (Nat × List V)) (o : Obj K) : Prop :=
  o.id < n ∧ ∀ p, fileOf files o.id = some p → o.count = p.length

def actOk (n : Nat) (files : List (Nat × List V)) : Action K → Prop
  | .add o => ObjOk n files o
  | .addVec v => v < n
  | _ => True

def ActsOk (n : Nat) (files : List (Nat × List V)) (acts : List (Action K)) : Prop :=
  ∀ a ∈ acts, actOk n files a

def SnapOk (n : Nat) (files : List (Nat × List V)) (s : Snap K) : Prop :=
  (∀ o ∈ s.objs, ObjOk n files o) ∧ (∀ v ∈ s.vecs, v < n)

theorem playAction_snapOk (n : Nat) (files : List (Nat × List V)) (s s' : Snap K) (a : Action K)
    (h : playAction s a = .ok s') (hb : SnapOk n files s) (ha : actOk n files a) : SnapOk n files s' := by
  cases a with
  | add o =>
    rw [(addObj_ok s s' o h).2]
    refine ⟨?_, hb.2⟩
    intro o' ho'
    simp only [List.mem_append, List.mem_singleton] at ho'
    rcases ho' with h1 | h1
    · exact hb.1 o' h1
    · subst h1; exact ha
  | del x =>
    rw [(delObj_ok s s' x h).2]
    exact ⟨fun o ho => hb.1 o (List.mem_filter.mp ho).1, hb.2⟩
  | addVec v =>
    rw [(addVec_ok s s' v h).2]
    refine ⟨hb.1, fun v' hv' => ?_⟩
    rcases List.mem_append.mp hv' with h1 | h1
    · exact hb.2 v' h1
    · rw [List.mem_singleton.mp h1]; exact ha
  | delVec v =>
    rw [(delVec_ok s s' v h).2]
    exact ⟨hb.1, fun v' hv' => hb.2 v' (List.mem_filter.mp hv').1⟩

theorem actsOk_append (n : Nat) (files : List (Nat × List V)) (a b : List (Action K)) :
    ActsOk n files (a ++ b) ↔ ActsOk n files a ∧ ActsOk n files b := by
  simp only [ActsOk, List.mem_append]
  exact ⟨fun h => ⟨fun x hx => h x (Or.inl hx), fun x hx => h x (Or.inr hx)⟩,
    fun h x hx => hx.elim (h.1 x) (h.2 x)⟩

theorem actsOk_dels (n : Nat) (files : List (Nat × List V)) (ids : List Nat) :
    ActsOk (K := K) n files (ids.map .del) := by
  intro a ha
  obtain ⟨i, _, rfl⟩ := List.mem_map.mp ha
  trivial

theorem actsOk_adds (n : Nat) (files : List (Nat × List V)) (os : List (Obj K))
    (h : ∀ o ∈ os, ObjOk n files o) : ActsOk n files (os.map .add) := by
  intro a ha
  obtain ⟨o, ho, rfl⟩ := List.mem_map.mp ha
  exact h o ho

theorem actsOk_addVecs (n : Nat) (files : List (Nat × List V)) (vs : List Nat) (h : ∀ v ∈ vs, v < n) :
    ActsOk (K := K) n files (vs.map .addVec) := by
  intro a ha
  obtain ⟨v, hv, rfl⟩ := List.mem_map.mp ha
  exact h v hv

/-- **invariant of the pool state**: every data object file is below the id counter (KSUIDs are
    never reused) and every `Add` / `AddVector` action of every commit mentions an id below the
    counter and an object whose `count` is the length of its file -/
structure Good (s : State K V) : Prop where
  files : ∀ f ∈ s.files, f.1 < s.nextObj
  acts : ∀ c ∈ s.commits, ActsOk s.nextObj s.files c.acts

theorem Good.init : Good ({} : State K V) := ⟨by simp, by simp⟩

theorem Good.snap (s : State K V) (g : Good s) (c : Nat) (snap : Snap K) (h : snapAt s.commits c = .ok snap) :
    SnapOk s.nextObj s.files snap :=
  snapAt_all' (SnapOk s.nextObj s.files) ⟨by simp [Snap.empty], by simp [Snap.empty]⟩ s.commits
    (fun c hc a ha st st' hp hb => playAction_snapOk _ _ st st' a hp hb (g.acts c hc a ha)) c snap h

theorem Good.snap_lt (s : State K V) (g : Good s) (c : Nat) (snap : Snap K) (h : snapAt s.commits c = .ok snap) :
    (∀ o ∈ snap.objs, o.id < s.nextObj) ∧ (∀ v ∈ snap.vecs, v < s.nextObj) :=
  ⟨fun o ho => ((Good.snap s g c snap h).1 o ho).1, (Good.snap s g c snap h).2⟩

/-- below id `n` the new store has no file the old one had not (new ids are fresh, vacuum removes) -/
structure FilesExt (n : Nat) (files files' : List (Nat × List V)) : Prop where
  keep : ∀ id, id < n → ∀ p, fileOf files' id = some p → fileOf files id = some p

theorem FilesExt.refl (n : Nat) (files : List (Nat × List V)) : FilesExt n files files := ⟨fun _ _ _ h => h⟩

theorem FilesExt.append (n : Nat) (files e : List (Nat × List V)) (he : ∀ f ∈ e, n ≤ f.1) :
    FilesExt n files (files ++ e) := by
  refine ⟨?_⟩
  intro id hid p hp
  rw [fileOf_append_none] at hp
  · exact hp
  · exact fun f hf e => Nat.lt_irrefl _ (Nat.lt_of_lt_of_le hid (e ▸ he f hf))

theorem actsOk_ext (n n' : Nat) (files files' : List (Nat × List V)) (hn : n ≤ n')
    (hx : FilesExt n files files') (acts : List (Action K)) (h : ActsOk n files acts) : ActsOk n' files' acts := by
  intro a ha
  have := h a ha
  cases a with
  | add o => exact ⟨Nat.lt_of_lt_of_le this.1 hn, fun p hp => this.2 p (hx.keep o.id this.1 p hp)⟩
  | addVec v => exact Nat.lt_of_lt_of_le this hn
  | del x => trivial
  | delVec x => trivial

/-- committing on a state whose stores extend `s` -/
theorem Good.commit (s s1 : State K V) (g : Good s) (b t : Nat) (acts : List (Action K))
    (hc : s1.commits = s.commits) (hn : s.nextObj ≤ s1.nextObj) (hf : ∀ f ∈ s1.files, f.1 < s1.nextObj)
    (hx : FilesExt s.nextObj s.files s1.files)
    (ha : ActsOk s1.nextObj s1.files acts) : Good (s1.commit b t acts) := by
  refine ⟨by rw [commit_files, commit_nextObj]; exact hf, ?_⟩
  intro c hcm
  rw [commit_commits, hc] at hcm
  rw [commit_nextObj, commit_files]
  simp only [List.mem_append, List.mem_singleton] at hcm
  rcases hcm with h | h
  · exact actsOk_ext _ _ _ _ hn hx _ (g.acts c h)
  · subst h; exact ha

theorem Good.commit_self (s : State K V) (g : Good s) (b t : Nat) (acts : List (Action K))
    (ha : ActsOk s.nextObj s.files acts) : Good (s.commit b t acts) :=
  Good.commit s s g b t acts rfl (Nat.le_refl _) g.files (FilesExt.refl _ _) ha

theorem Good.commit_written (cfg : Cfg K V) {s s1 : State K V} {parts : List (List V)} {objs : List (Obj K)}
    (g : Good s) (hw : writeObjs cfg s parts = (s1, objs)) (b t : Nat) (acts : List (Action K))
    (ha : (∀ o ∈ objs, ObjOk s1.nextObj s1.files o) → ActsOk s1.nextObj s1.files acts) :
    Good (s1.commit b t acts) := by
  have w := written cfg hw g.files
  have hc1 : s1.commits = s.commits := by
    have := writeObjs_commits cfg s parts; rw [hw] at this; exact this
  obtain ⟨e, he, hee⟩ := w.ext
  refine Good.commit s s1 g _ _ _ hc1 w.next (fun f hf => ?_)
    (by rw [he]; exact FilesExt.append _ _ _ (fun f hf => (hee f hf).1))
    (ha fun o ho => ⟨(w.ids o ho).2, w.counts o ho⟩)
  rw [he] at hf
  rcases List.mem_append.mp hf with h | h
  · exact Nat.lt_of_lt_of_le (g.files f h) w.next
  · exact (hee f h).2

theorem patchOfPath_objOk (s : State K V) (g : Good s) (base : Snap K)
    (baseID commit : Nat) (p : Patch K) (h : patchOfPath s.commits base baseID commit = .ok p) :
    (∀ o ∈ p.diff.objs, ObjOk s.nextObj s.files o) ∧ p.base = .snap base := by
  unfold patchOfPath at h
  simp only [] at h
  have := Patch.play_diff (ObjOk s.nextObj s.files) _ p _ h (by simp [Patch.new]) (by
    intro o ho
    obtain ⟨co, hco, hmem⟩ := pathActions_mem _ _ _ ho
    exact g.acts co hco _ hmem)
  exact ⟨this.1, this.2⟩

theorem merge_good (s s' : State K V) (c p : Nat) (g : Good s) (h : merge s c p = .ok s') : Good s' := by
  obtain ⟨ctip, ptip, acts, _, _, hm, rfl⟩ := merge_ok h
  obtain ⟨_, base, pc, pp, d, hb, hc, _, hd, rfl⟩ := mergeActions_ok hm
  apply Good.commit_self s g
  -- what `Diff` adds comes from the child patch: from the base snapshot or from commit actions
  have hbase := Good.snap s g _ base hb
  obtain ⟨c1, c2⟩ := patchOfPath_objOk s g base _ _ pc hc
  obtain ⟨d1, d2, d3⟩ := diff_sub pp pc d hd
  simp only [Patch.commitActions, d2, d3, List.map_nil, List.append_nil]
  refine (actsOk_append _ _ _ _).mpr ⟨actsOk_dels _ _ _, actsOk_adds _ _ _ fun o ho => ?_⟩
  have := d1 o ho
  simp only [Patch.selectAll, Patch.toView, View.selectAll, c2, List.mem_append] at this
  exact this.elim (hbase.1 o) (c1 o)

theorem revert_good (s s' : State K V) (b c : Nat) (g : Good s) (h : revert s b c = .ok s') : Good s' := by
  obtain ⟨t, patch, tipSnap, acts, _, hp, _, hr, rfl⟩ := revert_ok h
  obtain ⟨co, base, _, hb, hp⟩ := patchOfCommit_ok hp
  obtain ⟨adds, hra, rfl⟩ := Patch.revert_ok hr
  apply Good.commit_self s g
  -- what a revert adds are objects of the snapshot of the reverted commit's parent
  have hbase := Good.snap s g _ base hb
  have hpb := (Patch.play_diff (fun _ => True) _ patch _ hp (by simp) (by simp)).2
  obtain ⟨D, _, hmem, rfl⟩ := revertAdds_from base patch hpb tipSnap _ adds hra
  exact (actsOk_append _ _ _ _).mpr ⟨fun a ha => by obtain ⟨o, _, rfl⟩ := List.mem_map.mp ha; trivial,
    actsOk_adds _ _ _ fun o ho => hbase.1 o (hmem o (List.mem_filter.mp ho).1)⟩

variable [DecidableEq V]

/-- **the invariant is preserved by every operation** -/
theorem step_good (cfg : Cfg K V) (s : State K V) (op : Op V) (g : Good s) : Good (step cfg s op) := by
  unfold step
  split
  · rename_i s' ha
    cases op with
    | load b vals parts =>
      obtain ⟨t, s1, objs, _, hw, _, rfl⟩ := load_ok ha
      exact g.commit_written cfg hw _ _ _ (actsOk_adds _ _ _)
    | delete b ids =>
      obtain ⟨t, _, _, _, _, rfl⟩ := delete_ok ha
      exact Good.commit_self s g _ _ _ (actsOk_dels _ _ _)
    | deleteWhere b k parts =>
      obtain ⟨t, _, ids, _, s1, objs, p1, p2, _, _, _, _, hw, hp1, hp2, rfl⟩ := deleteWhere_ok ha
      rw [patch_dels_adds hp1 hp2]
      exact g.commit_written cfg hw _ _ _ fun ho =>
        (actsOk_append _ _ _ _).mpr ⟨actsOk_dels _ _ _, actsOk_adds _ _ _ ho⟩
    | compact b ids vec parts =>
      obtain ⟨t, snap, _, s1, objs, p1, p2, p3, _, hs, _, _, hw, hp1, hp2, hp3, rfl⟩ := compact_ok ha
      have w := written cfg hw g.files
      rw [compact_acts hp1 hp2 hp3 (fun id hid o ho => by
        obtain ⟨o', ho', rfl⟩ := List.mem_map.mp hid
        exact fun e => Nat.lt_irrefl _ (Nat.lt_of_lt_of_le
          (e ▸ (Good.snap_lt s g _ snap hs).1 o' (List.mem_filter.mp ho').1) (w.ids o ho).1))]
      refine g.commit_written cfg hw _ _ _ fun ho => (actsOk_append _ _ _ _).mpr
        ⟨(actsOk_append _ _ _ _).mpr ⟨actsOk_dels _ _ _, actsOk_adds _ _ _ ho⟩, actsOk_addVecs _ _ _ ?_⟩
      intro v hv
      split at hv
      · obtain ⟨o, ho, rfl⟩ := List.mem_map.mp hv
        exact (w.ids o ho).2
      · cases hv
    | addVectors b ids =>
      obtain ⟨t, snap, _, hs, hin, rfl⟩ := addVectorsOf_ok (show addVectorsOf s b (uniqueIds ids) = .ok s' from ha)
      exact Good.commit_self s g _ _ _ (actsOk_addVecs _ _ _ fun i hi =>
        hasObj_lt snap _ _ (Good.snap_lt s g _ snap hs).1 (hin i hi).1)
    | deleteVectors b ids =>
      obtain ⟨t, _, _, _, _, rfl⟩ := deleteVectorsOf_ok (show deleteVectorsOf s b (uniqueIds ids) = .ok s' from ha)
      exact Good.commit_self s g _ _ _ fun a ha => by obtain ⟨i, _, rfl⟩ := List.mem_map.mp ha; trivial
    | vacuum c =>
      obtain ⟨snap, _, rfl⟩ := vacuum_ok (show vacuum s c = .ok s' from ha)
      have hx : FilesExt s.nextObj s.files (s.files.filter fun f =>
          !((addedIds (pathActions s.commits ((pathAt s.commits c).drop 1))).filter
            (fun i => !snap.hasObj i)).contains f.1) := by
        refine ⟨fun id _ p hp => ?_⟩
        rw [fileOf_filter_id s.files (fun i => !(List.filter _ _).contains i)] at hp
        split at hp
        · exact hp
        · cases hp
      exact ⟨fun f hf => g.files f (List.mem_filter.mp hf).1,
        fun c' hc' => actsOk_ext _ _ _ _ (Nat.le_refl _) hx _ (g.acts c' hc')⟩
    | createBranch n p =>
      obtain ⟨_, rfl⟩ := createBranch_ok (show createBranch s n p = .ok s' from ha)
      exact ⟨g.files, g.acts⟩
    | merge c p => exact merge_good s s' c p g ha
    | revert b c => exact revert_good s s' b c g ha
  · exact g

end Zed.Lake

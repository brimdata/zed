import Zed.Proofs.DecodeInv
/-! the round trip through any context that satisfies the invariant (`Rt`) -/
namespace Zed
open Zcode List Generated.C05
namespace Ctx

/-- the encoder's typedef map is mirrored by the context's `typedefs` -/
def Rel (ed : EncDefs) (cd : List (Name × Ty)) : Prop :=
  ∀ n x, ed.lookup n = some x → cd.lookup n = some (.named n x)

theorem Rel_cons (ed : EncDefs) (cd : List (Name × Ty)) (n : Name) (x : Ty) (h : Rel ed cd) :
    Rel ((n, x) :: ed) ((n, .named n x) :: cd) := by
  intro m y hl
  rw [lookup_cons_eq] at hl ⊢
  by_cases e : m = n
  · subst e; simp only [if_true] at hl ⊢; rw [Option.some.inj hl]
  · simp only [e, if_false] at hl ⊢; exact h m y hl

theorem fields_nameOk : (fs : Fields) → fs.wf = true → ∀ p ∈ fs.toList, nameOk p.1 = true
  | .nil, _, p, hp => by simp [Fields.toList] at hp
  | .cons n t r, w, p, hp => by
    simp only [Fields.wf, Bool.and_eq_true] at w
    simp only [Fields.toList, mem_cons] at hp
    rcases hp with rfl | hp
    · exact w.1.1
    · exact fields_nameOk r w.2 p hp

def Rt {α : Type} (c : Ctx) (ed : EncDefs) (P : Ctx → Prop) (a : α) (rest : Bytes) (d : Dec α) : Prop :=
  ∃ c', d = (c', some (a, rest)) ∧ c'.Inv ∧ Rel ed c'.typedefs ∧ (∀ u, c.has u → c'.has u) ∧ P c'

section
variable {α β : Type} {c : Ctx} {ed ed' : EncDefs} {P P' : Ctx → Prop} {a : α} {b : β} {rest rest' : Bytes}

theorem Rt.bind {d : Dec α} {k : Ctx → α → Bytes → Dec β} (h : Rt c ed P a rest d)
    (hk : ∀ c1, c1.Inv → Rel ed c1.typedefs → (∀ u, c.has u → c1.has u) → P c1 → Rt c1 ed' P' b rest' (k c1 a rest)) :
    Rt c ed' P' b rest' (d.bind k) := by
  obtain ⟨c1, rfl, i1, r1, m1, x1⟩ := h
  obtain ⟨c2, h2, i2, r2, m2, x2⟩ := hk c1 i1 r1 m1 x1
  exact ⟨c2, h2, i2, r2, fun u hu => m2 u (m1 u hu), x2⟩

theorem Rt.parse {x : Option (α × Bytes)} {k : Ctx → α → Bytes → Dec β} (h : x = some (a, rest))
    (hk : Rt c ed' P' b rest' (k c a rest)) : Rt c ed' P' b rest' (Dec.bind (c, x) k) := by
  subst h; exact hk

theorem Rt.pure (hc : c.Inv) (hr : Rel ed c.typedefs) (hp : P c) : Rt c ed P a rest (c, some (a, rest)) :=
  ⟨c, rfl, hc, hr, fun _ h => h, hp⟩

theorem Rt.call {t : Ty} {d : List (Name × Ty)} {r : Option Ty × Ctx} (sp : Entered c t d r.1 r.2) (hr : Rel ed d) :
    Rt c ed (·.has t) t rest (Dec.ret r rest) := by
  obtain ⟨o, c'⟩ := r
  have e : o = some t := sp.ret
  subst e
  exact ⟨c', rfl, sp.inv, by rw [sp.defs]; exact hr, sp.mono, sp.has⟩
end

/-- the three encoders at once, by induction on the decoder's fuel (which bounds the encoded length,
    hence the type).  Members need one unit more than fields: a field's name is consumed before
    `decodeTV` is called with one unit less, a member begins with the type's own first byte. -/
theorem rt_all (f : Nat) :
    (∀ (t : Ty) (ed : EncDefs) (c : Ctx) (rest : Bytes), t.wf = true → c.Inv → Rel ed c.typedefs →
      (encTy t ed).1.length + 1 ≤ f →
      Rt c (encTy t ed).2 (·.has t) t rest (decodeTV f c ((encTy t ed).1 ++ rest))) ∧
    (∀ (fs : Fields) (ed : EncDefs) (c : Ctx) (rest : Bytes), fs.wf = true → c.Inv → Rel ed c.typedefs →
      (encFields fs ed).1.length + 1 ≤ f →
      Rt c (encFields fs ed).2 (fun c' => ∀ p ∈ fs.toList, c'.has p.2) fs.toList rest
        (decodeFields f fs.length c ((encFields fs ed).1 ++ rest))) ∧
    (∀ (ts : Tys) (ed : EncDefs) (c : Ctx) (rest : Bytes), ts.wf = true → c.Inv → Rel ed c.typedefs →
      (encTys ts ed).1.length + 2 ≤ f →
      Rt c (encTys ts ed).2 (fun c' => ∀ t ∈ ts.toList, c'.has t) ts.toList rest
        (decodeTys f ts.length c ((encTys ts ed).1 ++ rest))) := by
  induction f with
  | zero =>
    exact ⟨fun _ _ _ _ _ _ _ hf => absurd hf (Nat.not_succ_le_zero _),
      fun _ _ _ _ _ _ _ hf => absurd hf (Nat.not_succ_le_zero _),
      fun _ _ _ _ _ _ _ hf => absurd hf (Nat.not_succ_le_zero _)⟩
  | succ f ih =>
    obtain ⟨rt_ty, rt_fields, rt_tys⟩ := ih
    refine ⟨fun t ed c rest w hc hr hf => ?_, fun fs ed c rest w hc hr hf => ?_,
      fun ts ed c rest w hc hr hf => ?_⟩
    · cases t with
      | prim i =>
        simp only [encTy, singleton_append]; rw [decodeTV_prim f c i rest w]
        exact .pure hc hr ⟨w, Or.inr rfl⟩
      | array x =>
        simp only [encTy, cons_append]; rw [decodeTV_array]
        exact (rt_ty x ed c rest w hc hr (Nat.le_of_succ_le_succ hf)).bind fun c1 i1 r1 _ x1 =>
          .call (lookupArray_spec c1 i1 x x1) r1
      | set x =>
        simp only [encTy, cons_append]; rw [decodeTV_set]
        exact (rt_ty x ed c rest w hc hr (Nat.le_of_succ_le_succ hf)).bind fun c1 i1 r1 _ x1 =>
          .call (lookupSet_spec c1 i1 x x1) r1
      | error x =>
        simp only [encTy, cons_append]; rw [decodeTV_error]
        exact (rt_ty x ed c rest w hc hr (Nat.le_of_succ_le_succ hf)).bind fun c1 i1 r1 _ x1 =>
          .call (lookupError_spec c1 i1 x x1) r1
      | map k v =>
        simp only [encTy, length_cons, length_append] at hf
        simp only [Ty.wf, Bool.and_eq_true] at w
        simp only [encTy, cons_append, append_assoc]; rw [decodeTV_map]
        exact (rt_ty k ed c _ w.1 hc hr (by omega)).bind fun c1 i1 r1 _ x1 =>
          (rt_ty v _ c1 rest w.2 i1 r1 (by omega)).bind fun c2 i2 r2 m2 x2 =>
            .call (lookupMap_spec c2 i2 k v (m2 k x1) x2) r2
      | enum syms =>
        simp only [Ty.wf, Bool.and_eq_true, decide_eq_true_eq] at w
        simp only [encTy, cons_append, append_assoc]; rw [decodeTV_enum]
        refine .parse (decodeLength_uvarint _ _ (syms_length_lt w.2)) ?_
        rw [if_neg (Nat.not_lt.mpr w.2)]
        exact .parse (decodeSyms_encNames syms rest w.1) (.call (lookupEnum_spec c hc syms w.1 w.2) hr)
      | record fs =>
        simp only [encTy, length_cons, length_append] at hf
        simp only [Ty.wf, Bool.and_eq_true, decide_eq_true_eq, Bool.not_eq_true'] at w
        simp only [encTy, cons_append, append_assoc]; rw [decodeTV_record]
        refine .parse (decodeLength_uvarint _ _ (Fields.length_lt w.2)) ?_
        rw [if_neg (Nat.not_lt.mpr w.2)]
        refine (rt_fields fs ed c rest w.1.1 hc hr (by omega)).bind fun c1 i1 r1 _ x1 => ?_
        have sp := lookupRecord_spec c1 i1 fs.toList (fun p hp => ⟨fields_nameOk fs w.1.1 p hp, x1 p hp⟩)
          (by rw [Fields.length_toList]; exact w.2) (by rw [← Fields.names_eq_map]; exact w.1.2)
        rw [Fields.ofList_toList] at sp
        exact .call sp r1
      | union ts =>
        simp only [encTy, length_cons, length_append] at hf
        simp only [Ty.wf, Bool.and_eq_true, decide_eq_true_eq] at w
        have hup := uvarint_length_pos ts.length
        simp only [encTy, cons_append, append_assoc]; rw [decodeTV_union]
        refine .parse (decodeLength_uvarint _ _ (Tys.length_lt w.1.2)) ?_
        rw [if_neg (Nat.not_lt.mpr w.1.2)]
        refine (rt_tys ts ed c rest w.1.1 hc hr (by omega)).bind fun c1 i1 r1 _ x1 => ?_
        have sp := lookupUnion_spec c1 i1 ts.toList x1 (by rw [Tys.length_toList]; exact w.1.2)
        have hs : sortTys ts.toList = ts.toList :=
          insertionSort_of_adjSorted tyLess _ w.2
        rw [hs, Tys.ofList_toList] at sp
        exact .call sp r1
      | named n x =>
        simp only [Ty.wf, Bool.and_eq_true] at w
        have hn := (nameOk_iff n).mp w.1.2
        by_cases hl : ed.lookup n = some x
        · simp only [encTy, hl, if_true] at hf ⊢
          have hd := hr n x hl
          simp only [cons_append]; rw [decodeTV_nameref]
          refine .parse (decodeName_encodeName n rest hn) ?_
          simp only [lookupTypeDef, hd]
          exact .pure hc hr ⟨by simp [Ty.wf, w.1.1, w.1.2, w.2], Or.inl (hc.defs n _ hd).1⟩
        · simp only [encTy, hl, if_false, length_cons, length_append] at hf ⊢
          simp only [cons_append, append_assoc]; rw [decodeTV_namedef]
          refine .parse (decodeName_encodeName n _ hn) ?_
          exact (rt_ty x ed c rest w.2 hc hr (by omega)).bind fun c1 i1 r1 _ x1 =>
            .call (lookupNamed_spec c1 i1 n x w.1.1 w.1.2 x1) (Rel_cons _ _ n x r1)
    · cases fs with
      | nil => exact .pure hc hr (by simp [Fields.toList])
      | cons n x r =>
        simp only [Fields.wf, Bool.and_eq_true] at w
        have hlen : 0 < (encodeName n).length := by
          unfold encodeName; rw [length_append]; have := uvarint_length_pos n.length; omega
        simp only [encFields, length_append] at hf
        simp only [encFields, Fields.length, append_assoc]; rw [decodeFields_succ]
        refine .parse (decodeName_encodeName n _ ((nameOk_iff n).mp w.1.1)) ?_
        exact (rt_ty x ed c _ w.1.2 hc hr (by omega)).bind fun c1 i1 r1 _ x1 =>
          (rt_fields r _ c1 rest w.2 i1 r1 (by omega)).bind fun c2 i2 r2 m2 x2 =>
            .pure i2 r2 fun p hp => by
              rcases mem_cons.mp hp with rfl | hp
              · exact m2 _ x1
              · exact x2 p hp
    · cases ts with
      | nil => exact .pure hc hr (by simp [Tys.toList])
      | cons x r =>
        simp only [Tys.wf, Bool.and_eq_true] at w
        have hpos : 0 < (encTy x ed).1.length := by
          obtain ⟨b, body, e, _⟩ := encTy_head x ed w.1; rw [e]; simp
        simp only [encTys, length_append] at hf
        simp only [encTys, Tys.length, append_assoc]; rw [decodeTys_succ]
        exact (rt_ty x ed c _ w.1 hc hr (by omega)).bind fun c1 i1 r1 _ x1 =>
          (rt_tys r _ c1 rest w.2 i1 r1 (by omega)).bind fun c2 i2 r2 m2 x2 =>
            .pure i2 r2 fun t ht => by
              rcases mem_cons.mp ht with rfl | ht
              · exact m2 _ x1
              · exact x2 t ht
theorem rt_tys : (ts : Tys) → (ed : EncDefs) → (c : Ctx) → (rest : Bytes) → (f : Nat) → ts.wf = true →
    c.Inv → Rel ed c.typedefs → (encTys ts ed).1.length + 2 ≤ f →
    ∃ c', decodeTys f ts.length c ((encTys ts ed).1 ++ rest) = (c', some (ts.toList, rest)) ∧ c'.Inv ∧
      Rel (encTys ts ed).2 c'.typedefs ∧ (∀ u, c.has u → c'.has u) ∧ ∀ t ∈ ts.toList, c'.has t
  | ts, ed, c, rest, f, w, hc, hr, hf => (rt_all f).2.2 ts ed c rest w hc hr hf

end Ctx
end Zed

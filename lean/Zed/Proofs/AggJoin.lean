/-
  The merge join over sorted inputs equals the nested-loop join (C10): Zed/Model/AggJoin.lean.
  Invariant `Inv`: the unread right input still holds every match of every left key still to come,
  except the matches of the cached join key, which the cached join set holds.
-/
import Zed.Model.AggJoin
import Zed.Proofs.BoolOrder
namespace Zed.Proofs.AggJoin
open Zed.Join Zed.Agg
open Zed.BoolOrder (sym_iff sym_comm sym_trans)
variable {K A B : Type}

theorem takeWhile_eq_filter {α : Type} {p : α → Bool} {l : List α}
    (h : l.Pairwise (fun a b => p b = true → p a = true)) : l.takeWhile p = l.filter p := by
  induction h with
  | nil => rfl
  | @cons x xs hx _ ih =>
    cases hp : p x with
    | true => rw [List.takeWhile_cons_of_pos hp, List.filter_cons_of_pos hp, ih]
    | false =>
      have hp := Bool.eq_false_iff.1 hp
      rw [List.takeWhile_cons_of_neg hp, List.filter_cons_of_neg hp]
      exact (List.filter_eq_nil_iff.2 fun y hy hpy => hp (hx y hy hpy)).symm

theorem filter_dropWhile {α : Type} {p q : α → Bool} (l : List α)
    (h : ∀ x, q x = true → p x = false) : (l.dropWhile q).filter p = l.filter p := by
  have hnil : (l.takeWhile q).filter p = [] := List.filter_eq_nil_iff.2 fun x hx =>
    Bool.eq_false_iff.1 (h x (List.all_eq_true.1 List.all_takeWhile x hx))
  conv => rhs; rw [← List.takeWhile_append_dropWhile (p := q) (l := l), List.filter_append, hnil]
  rfl

section
variable {le : K → K → Bool}

theorem seek_cons_skip {k : K} {r : K × B} {rest : List (K × B)} (h : le k r.1 = false) :
    seek le k (r :: rest) = seek le k rest := by
  simp only [seek, eqv, lt, h, Bool.false_and, Bool.false_eq_true, if_false]

theorem seek_cons_stop {k : K} {r : K × B} {rest : List (K × B)}
    (h₁ : le k r.1 = true) (h₂ : le r.1 k = false) : seek le k (r :: rest) = (none, r :: rest) := by
  simp only [seek, eqv, lt, h₁, h₂, Bool.and_false, Bool.false_eq_true, if_false, Bool.not_false,
    Bool.and_true, if_true]

theorem seek_cons_found {k : K} {r : K × B} {rest : List (K × B)}
    (h₁ : le k r.1 = true) (h₂ : le r.1 k = true) :
    seek le k (r :: rest) = (some ((r :: rest).takeWhile fun x => eqv le x.1 k),
      (r :: rest).dropWhile fun x => eqv le x.1 k) := by
  have he : eqv le k r.1 = true := sym_iff.2 ⟨h₁, h₂⟩
  rw [seek, if_pos he]

theorem getJoinSet_seek {st : JState K B} {k : K}
    (hno : ∀ jk, st.joinKey = some jk → eqv le k jk = false) :
    getJoinSet le st k =
      match seek le k st.right with
      | (some js, r) => (some js, { right := r, joinKey := some k, joinSet := js })
      | (none, r) => (none, { st with right := r }) := by
  unfold getJoinSet
  split
  · rename_i jk hjk
    rw [if_neg (Bool.eq_false_iff.1 (hno jk hjk))]
    rfl
  · rfl

/-! From here on `le` is transitive; neither totality nor reflexivity is used. -/

variable (htr : ∀ a b c, le a b = true → le b c = true → le a c = true)
include htr

theorem eqv_false_past {k x y : K} (hx : le x k = false) (hxy : le x y = true) :
    eqv le k y = false :=
  Bool.eq_false_iff.2 fun h => Bool.eq_false_iff.1 hx (htr _ _ _ hxy (sym_iff.1 h).2)

theorem eqv_false_skipped {k k' r : K} (hr : le k r = false) (hk : le k k' = true) :
    eqv le k' r = false :=
  Bool.eq_false_iff.2 fun h => Bool.eq_false_iff.1 hr (htr _ _ _ hk (sym_iff.1 h).1)

theorem filter_eqv_congr (R : List (K × B)) {k jk : K} (h : eqv le k jk = true) :
    R.filter (fun b => eqv le k b.1) = R.filter (fun b => eqv le jk b.1) :=
  List.filter_congr fun _ _ => Bool.eq_iff_iff.2
    ⟨sym_trans htr ((sym_comm le _ _).trans h), sym_trans htr h⟩

theorem run_eq_filter {k : K} {L : List (K × B)}
    (hs : L.Pairwise (fun a b => le a.1 b.1 = true)) (hk : ∀ x ∈ L, le k x.1 = true) :
    L.takeWhile (fun x => eqv le x.1 k) = L.filter (fun b => eqv le k b.1) := by
  rw [show (fun x : K × B => eqv le x.1 k) = fun b => eqv le k b.1 from
    funext fun x => sym_comm le x.1 k]
  exact takeWhile_eq_filter (hs.imp_of_mem fun {x y} hx _ hxy hy =>
    sym_iff.2 ⟨hk x hx, htr _ _ _ hxy (sym_iff.1 hy).2⟩)

/-- the rows `seek` consumes are of no use to a later key `k' ≥ k` (unless `k'` matches `k`, which
    the cached join set serves) -/
theorem seek_spec (k : K) {R : List (K × B)} (hs : R.Pairwise (fun a b => le a.1 b.1 = true)) :
    ∃ R', seek le k R = (if R.filter (fun b => eqv le k b.1) = [] then none
                          else some (R.filter fun b => eqv le k b.1), R') ∧
      R'.Pairwise (fun a b => le a.1 b.1 = true) ∧
      ∀ k', le k k' = true → (R.filter (fun b => eqv le k b.1) = [] ∨ eqv le k' k = false) →
        R'.filter (fun b => eqv le k' b.1) = R.filter (fun b => eqv le k' b.1) := by
  induction R with
  | nil => exact ⟨[], rfl, .nil, fun _ _ _ => rfl⟩
  | cons r rest ih =>
    have ⟨hr, hrest⟩ := List.pairwise_cons.1 hs
    cases h₁ : le k r.1 with
    | false =>
      have hk : ¬eqv le k r.1 = true := fun h => Bool.eq_false_iff.1 h₁ (sym_iff.1 h).1
      obtain ⟨R', h1, h2, h3⟩ := ih hrest
      rw [seek_cons_skip h₁, List.filter_cons_of_neg (a := r) hk]
      refine ⟨R', h1, h2, fun k' hk' hor => ?_⟩
      rw [List.filter_cons_of_neg (a := r) (Bool.eq_false_iff.1 (eqv_false_skipped htr h₁ hk'))]
      exact h3 k' hk' hor
    | true =>
      cases h₂ : le r.1 k with
      | false =>
        have hnil : (r :: rest).filter (fun b => eqv le k b.1) = [] :=
          List.filter_eq_nil_iff.2 <| List.forall_mem_cons.2
            ⟨fun h => Bool.eq_false_iff.1 h₂ (sym_iff.1 h).2,
             fun y hy => Bool.eq_false_iff.1 (eqv_false_past htr h₂ (hr y hy))⟩
        exact ⟨r :: rest, by rw [seek_cons_stop h₁ h₂, if_pos hnil], hs, fun _ _ _ => rfl⟩
      | true =>
        have hk : ∀ y ∈ r :: rest, le k y.1 = true :=
          List.forall_mem_cons.2 ⟨h₁, fun y hy => htr _ _ _ h₁ (hr y hy)⟩
        have hne : (r :: rest).filter (fun b => eqv le k b.1) ≠ [] := fun h =>
          List.filter_eq_nil_iff.1 h r List.mem_cons_self (sym_iff.2 ⟨h₁, h₂⟩)
        refine ⟨_, by rw [seek_cons_found h₁ h₂, if_neg hne, run_eq_filter htr hs hk],
          hs.sublist (List.dropWhile_sublist _), fun k' _ hor => filter_dropWhile _ fun x hx => ?_⟩
        exact Bool.eq_false_iff.2 fun h =>
          Bool.eq_false_iff.1 (hor.resolve_left hne) (sym_trans htr h hx)

end

/-- loop invariant of the merge join: `R` is the full right input, `F` the set of left keys still
    to come -/
structure Inv (le : K → K → Bool) (R : List (K × B)) (st : JState K B) (F : K → Prop) : Prop where
  sorted : st.right.Pairwise (fun a b => le a.1 b.1 = true)
  filt : ∀ k, F k → (∀ jk, st.joinKey = some jk → eqv le k jk = false) →
    st.right.filter (fun b => eqv le k b.1) = R.filter (fun b => eqv le k b.1)
  key : ∀ jk, st.joinKey = some jk → (∀ k, F k → le jk k = true) ∧ st.joinSet ≠ [] ∧
    st.joinSet = R.filter (fun b => eqv le jk b.1)

theorem Inv.mono {le : K → K → Bool} {R : List (K × B)} {st : JState K B} {F F' : K → Prop}
    (h : Inv le R st F) (hF : ∀ k, F' k → F k) : Inv le R st F' :=
  ⟨h.sorted, fun k hk => h.filt k (hF k hk),
   fun jk hjk => ⟨fun k hk => (h.key jk hjk).1 k (hF k hk), (h.key jk hjk).2⟩⟩

theorem mergeJoinAux_cons (le : K → K → Bool) (kind : Kind) (st : JState K B) (a : K × A)
    (rest : List (K × A)) :
    mergeJoinAux le kind st (a :: rest)
      = emit kind a (getJoinSet le st a.1).1 ++ mergeJoinAux le kind (getJoinSet le st a.1).2 rest :=
  rfl

theorem emit_eq (kind : Kind) (a : K × A) (ms : List (K × B)) :
    emit kind a (if ms = [] then none else some ms)
      = (if ms.isEmpty then (if kind = .inner then [] else [.bare a])
         else (if kind = .anti then [] else ms.map fun b => .pair a b)) := by
  cases ms <;> rfl

section
variable {le : K → K → Bool} (htr : ∀ a b c, le a b = true → le b c = true → le a c = true)
include htr

theorem getJoinSet_spec (R : List (K × B)) (st : JState K B) (F F' : K → Prop) (k : K)
    (hinv : Inv le R st F) (hk : F k) (hF : ∀ k', F' k' → F k' ∧ le k k' = true) :
    (getJoinSet le st k).1 = (if R.filter (fun b => eqv le k b.1) = [] then none
                               else some (R.filter (fun b => eqv le k b.1))) ∧
    Inv le R (getJoinSet le st k).2 F' := by
  by_cases hc : ∃ jk, st.joinKey = some jk ∧ eqv le k jk = true
  · obtain ⟨jk, hjk, he⟩ := hc
    obtain ⟨_, hne, hjs⟩ := hinv.key jk hjk
    rw [show getJoinSet le st k = (some st.joinSet, st) by simp only [getJoinSet, hjk, he, if_true],
      filter_eqv_congr htr R he, ← hjs, if_neg hne]
    exact ⟨rfl, hinv.mono fun k' hk' => (hF k' hk').1⟩
  · have hno : ∀ jk, st.joinKey = some jk → eqv le k jk = false := fun jk hjk =>
      Bool.eq_false_iff.2 fun he => hc ⟨jk, hjk, he⟩
    obtain ⟨r, hseek, hsorted, hfilt⟩ := seek_spec htr k hinv.sorted
    rw [hinv.filt k hk hno] at hseek hfilt
    rw [getJoinSet_seek hno, hseek]
    by_cases hms : R.filter (fun b => eqv le k b.1) = []
    · rw [if_pos hms]
      refine ⟨rfl, hsorted, fun k' hk' hno' => ?_, fun jk hjk => ?_⟩
      · exact (hfilt k' (hF k' hk').2 (.inl hms)).trans (hinv.filt k' (hF k' hk').1 hno')
      · exact ⟨fun k' hk' => (hinv.key jk hjk).1 k' (hF k' hk').1, (hinv.key jk hjk).2⟩
    · rw [if_neg hms]
      refine ⟨rfl, hsorted, fun k' hk' hno' => ?_, fun jk hjk => ?_⟩
      · -- the key cached before lies strictly below `k`, so it stands to the later keys as a
        -- skipped row does
        refine (hfilt k' (hF k' hk').2 (.inr (hno' k rfl))).trans
          (hinv.filt k' (hF k' hk').1 fun jk hjk => ?_)
        have hjkk : le jk k = true := (hinv.key jk hjk).1 k hk
        have hkjk : le k jk = false := Bool.eq_false_iff.2 fun h =>
          Bool.eq_false_iff.1 (hno jk hjk) (sym_iff.2 ⟨h, hjkk⟩)
        exact eqv_false_skipped htr hkjk (hF k' hk').2
      · cases hjk
        exact ⟨fun k' hk' => (hF k' hk').2, hms, rfl⟩

theorem mergeJoinAux_eq (kind : Kind) (R : List (K × B)) (l : List (K × A)) (st : JState K B)
    (hl : l.Pairwise (fun a b => le a.1 b.1 = true))
    (hinv : Inv le R st (fun k => ∃ a ∈ l, a.1 = k)) :
    mergeJoinAux le kind st l = nestedLoop le kind l R := by
  induction l generalizing st with
  | nil => rfl
  | cons a rest ih =>
    have hl' := List.pairwise_cons.mp hl
    have hstep := getJoinSet_spec htr R st _ (fun k => ∃ a ∈ rest, a.1 = k) a.1 hinv
      ⟨a, List.mem_cons_self, rfl⟩
      (by
        rintro k' ⟨b, hb, rfl⟩
        exact ⟨⟨b, List.mem_cons_of_mem _ hb, rfl⟩, hl'.1 b hb⟩)
    rw [mergeJoinAux_cons, ih _ hl'.2 hstep.2, hstep.1, emit_eq]
    rfl

/-- for every transitive `le`: totality is not needed -/
theorem mergeJoin_eq_nestedLoop (kind : Kind) (l : List (K × A)) (r : List (K × B))
    (hl : l.Pairwise (fun a b => le a.1 b.1 = true))
    (hr : r.Pairwise (fun a b => le a.1 b.1 = true)) :
    mergeJoin le kind l r = nestedLoop le kind l r :=
  mergeJoinAux_eq htr kind r l _ hl ⟨hr, fun _ _ _ => rfl, fun _ hjk => nomatch hjk⟩

end

/-- merge join over sorted inputs = nested-loop join (as lists, in left order then right order) -/
theorem join_naive (le : K → K → Bool) (hle : TotalPreorder le) (kind : Kind)
    (l : List (K × A)) (r : List (K × B))
    (hl : l.Pairwise (fun a b => le a.1 b.1 = true))
    (hr : r.Pairwise (fun a b => le a.1 b.1 = true)) :
    mergeJoin le kind l r = nestedLoop le kind l r :=
  mergeJoin_eq_nestedLoop hle.trans kind l r hl hr

/-- non-vacuity: a concrete instance with duplicate keys on both sides -/
example :
    let le : Int → Int → Bool := fun a b => decide (a ≤ b)
    let l : List (Int × String) := [(1, "a"), (2, "b"), (2, "c"), (4, "d")]
    let r : List (Int × Nat) := [(0, 0), (2, 10), (2, 11), (3, 12), (4, 13)]
    TotalPreorder le ∧
    l.Pairwise (fun a b => le a.1 b.1 = true) ∧ r.Pairwise (fun a b => le a.1 b.1 = true) ∧
    mergeJoin le .left l r =
      [.bare (1, "a"),
       .pair (2, "b") (2, 10), .pair (2, "b") (2, 11),
       .pair (2, "c") (2, 10), .pair (2, "c") (2, 11),
       .pair (4, "d") (4, 13)] ∧
    mergeJoin le .left l r = nestedLoop le .left l r := by
  intro le l r
  have hl : l.Pairwise (fun a b => le a.1 b.1 = true) := by decide
  have hr : r.Pairwise (fun a b => le a.1 b.1 = true) := by decide
  exact ⟨intLe_totalPreorder, hl, hr, by decide +kernel,
    join_naive _ intLe_totalPreorder _ _ _ hl hr⟩
end Zed.Proofs.AggJoin

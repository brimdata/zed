import Zed.Model.ZsonJson
import Zed.Proofs.ZsonPrim
import Zed.Proofs.ZsonUnique
/-!
  C02 — JSON ⊂ ZSON: `normalizeElems` never fails, objects without repeated keys are read
  alike by both readers, nothing the JSON reader builds has a named type (so `analyzeTop`'s
  `wrapAll` leaves it alone).
-/
namespace Zed.Zson.Json
open Zed.Zson Zed.Generated

/-- `normalizeElems` cannot fail: every non-null element type is a member of the union it
    builds. -/
theorem normalizeElems_ok (tvs : List TV) : ∃ r, normalizeElems tvs = .ok r := by
  match hu : uniqueTypes (tvs.map (·.1)) with
  | [] => exact ⟨_, by unfold normalizeElems; rw [hu]⟩
  | [t] => exact ⟨_, by unfold normalizeElems; rw [hu]⟩
  | a :: b :: rest =>
    have hmem : ∀ tv ∈ tvs, tv.1 = tyNull ∨ ∃ k, (Tys.ofList ((a :: b :: rest).foldr insertDup [])).indexOf tv.1 = some k := by
      intro tv htv
      by_cases hn : tv.1 = tyNull
      · exact .inl hn
      · refine .inr (indexOf_of_mem _ _ ?_)
        rw [Tys.toList_ofList, mem_foldr_insertDup_iff, ← hu]
        unfold uniqueTypes
        exact (mem_foldl_insertUniq_iff _ _ []).mpr
          (.inr (List.mem_filter.mpr ⟨List.mem_map.mpr ⟨tv, htv, rfl⟩, by simpa using hn⟩))
    exact ⟨_, by rw [normalizeElems_many tvs hu rfl, mapM_convertUnion _ tvs hmem]; rfl⟩

theorem lookup_tables :
    lookupPrimitive (ascii "null") = some C02.idNull ∧ lookupPrimitive (ascii "bool") = some idBool ∧
    lookupPrimitive (ascii "int64") = some idInt64 ∧ lookupPrimitive (ascii "float64") = some idFloat64 ∧
    lookupPrimitive (ascii "string") = some idString ∧ idBool ≠ C02.idNull ∧ idInt64 ≠ C02.idNull ∧
    idFloat64 ≠ C02.idNull ∧ idString ≠ C02.idNull := by
  have hb := lookupPrimitive_ascii (p := (23, "bool")) (by decide)
  have hi := lookupPrimitive_ascii (p := (9, "int64")) (by decide)
  have hf := lookupPrimitive_ascii (p := (16, "float64")) (by decide)
  refine ⟨lookup_null, ?_, ?_, ?_, lookupPrimitive_ascii (p := (idString, "string")) (by decide), ?_, ?_, ?_, by decide⟩
  · rw [idBool, hb]; rfl
  · rw [idInt64, hi]; rfl
  · rw [idFloat64, hf]; rfl
  · rw [idBool, hb]; decide
  · rw [idInt64, hi]; decide
  · rw [idFloat64, hf]; decide

theorem lastOf_none (n : Name) : (l : List (Name × TV)) → n ∉ l.map (·.1) → lastOf n l = none
  | [], _ => rfl
  | (m, x) :: r, h => by
    simp only [List.map_cons, List.mem_cons, not_or] at h
    have hmn : m ≠ n := fun e => h.1 e.symm
    simp [lastOf, lastOf_none n r h.2, hmn]

theorem lastOf_mem (n : Name) : (r : List (Name × TV)) → (y : TV) → lastOf n r = some y → ∃ q ∈ r, q.2 = y
  | [], _, h => by simp [lastOf] at h
  | (m, z) :: r, y, h => by
    simp only [lastOf] at h
    cases hl : lastOf n r with
    | some w =>
      simp [hl] at h; subst h
      obtain ⟨q, hq, e⟩ := lastOf_mem n r w hl
      exact ⟨q, List.mem_cons_of_mem _ hq, e⟩
    | none =>
      simp [hl] at h
      exact ⟨(m, z), by simp, h.2⟩

theorem keys_build : (fs : JFields) → (jsonBuildFields fs).map (·.1) = fs.keys
  | .nil => rfl
  | .cons n x r => by simp [jsonBuildFields, JFields.keys, keys_build r]

theorem dedupLast_nodup : (fs : JFields) → (seen : List Name) → fs.keys.Nodup → (∀ k ∈ fs.keys, k ∉ seen) →
    dedupLast (jsonBuildFields fs) seen = jsonBuildFields fs
  | .nil, _, _, _ => rfl
  | .cons n x r, seen, hn, hs => by
    simp only [JFields.keys, List.nodup_cons] at hn
    have h1 : n ∉ seen := hs n (by simp [JFields.keys])
    have h2 : lastOf n (jsonBuildFields r) = none := lastOf_none n _ (by rw [keys_build]; exact hn.1)
    have ih := dedupLast_nodup r (n :: seen) hn.2 (by
      intro k hk
      simp only [List.mem_cons, not_or]
      exact ⟨fun e => hn.1 (e ▸ hk), hs k (by simp [JFields.keys, hk])⟩)
    simp [jsonBuildFields, dedupLast, h1, h2, ih]

theorem mkFields_names : (ns : List Name) → (ts : List Ty) → ns.length = ts.length → (mkFields ns ts).names = ns
  | [], [], _ => rfl
  | n :: ns, t :: ts, h => by
    simp only [List.length_cons, Nat.add_right_cancel_iff] at h
    simp [mkFields, Fields.names, mkFields_names ns ts h]
  | [], _ :: _, h => by simp at h
  | _ :: _, [], h => by simp at h

theorem mkFields_hasDup : (ns : List Name) → (ts : List Ty) → ns.length = ts.length → ns.Nodup →
    (mkFields ns ts).hasDup = false
  | [], [], _, _ => rfl
  | n :: ns, t :: ts, h, hn => by
    simp only [List.length_cons, Nat.add_right_cancel_iff] at h
    simp only [List.nodup_cons] at hn
    simp [mkFields, Fields.hasDup, mkFields_names ns ts h, hn.1, mkFields_hasDup ns ts h hn.2]
  | [], _ :: _, h, _ => by simp at h
  | _ :: _, [], h, _ => by simp at h

theorem build_length (fs : JFields) : (jsonBuildFields fs).length = fs.keys.length := by
  rw [← keys_build, List.length_map]

mutual
theorem json_core : (j : J) → jsonGuard j = true → ∀ st, convertValue st (toAst j) none = .ok (st, jsonBuild j)
  | .null, _, st => by
    rw [toAst, convertValue_prim_none st _ _ _ lookup_tables.1]; rfl
  | .bool b, _, st => by
    rw [toAst, convertValue_prim_none st _ _ _ lookup_tables.2.1, if_neg lookup_tables.2.2.2.2.2.1, jsonBuild]
  | .num src ci cf, h, st => by
    simp only [jsonGuard, bne_iff_ne, ne_eq] at h
    rw [toAst, numAst, jsonBuild]
    cases hc : numClass src with
    | uint64 => exact absurd hc h
    | int64 =>
      exact (convertValue_prim_none st _ _ _ lookup_tables.2.2.1).trans (by rw [if_neg lookup_tables.2.2.2.2.2.2.1])
    | float =>
      exact (convertValue_prim_none st _ _ _ lookup_tables.2.2.2.1).trans (by rw [if_neg lookup_tables.2.2.2.2.2.2.2.1])
  | .str s, _, st => by
    rw [toAst, convertValue_prim_none st _ _ _ lookup_tables.2.2.2.2.1, if_neg lookup_tables.2.2.2.2.2.2.2.2, jsonBuild]
  | .arr xs, h, st => by
    simp only [jsonGuard] at h
    have hl := json_list xs h st
    simp only [toAst, convertValue, viaUnion, convertAny, hl, bind, Except.bind, pure, Except.pure, jsonBuild]
    obtain ⟨⟨vals, inner⟩, hn⟩ := normalizeElems_ok (jsonBuildList xs)
    by_cases he : (jsonBuildList xs).isEmpty = true
    · have : jsonBuildList xs = [] := by simpa using he
      simp [this, normalizeElems, uniqueTypes, Vals.ofList]
    · simp [he, hn]
  | .obj fs, h, st => by
    simp only [jsonGuard, Bool.and_eq_true, decide_eq_true_eq] at h
    obtain ⟨hf, hnames⟩ := json_fields fs h.1 st [] h.2 (by simp)
    have hd := dedupLast_nodup fs [] h.2 (by simp)
    have hdup : (mkFields fs.keys ((jsonBuildFields fs).map (·.2.1))).hasDup = false :=
      mkFields_hasDup _ _ (by simp [build_length]) h.2
    simp only [toAst, convertValue, viaUnion, convertAny, hf, hnames, bind, Except.bind, pure, Except.pure,
      jsonBuild, hd, keys_build, List.map_map, Function.comp_def, hdup]
    simp
theorem json_list : (xs : JList) → jsonGuardList xs = true → ∀ st,
    convertElems st (toAstList xs) none = .ok (st, jsonBuildList xs)
  | .nil, _, st => by simp [toAstList, convertElems, jsonBuildList]
  | .cons x r, h, st => by
    simp only [jsonGuardList, Bool.and_eq_true] at h
    simp [toAstList, convertElems, json_core x h.1 st, json_list r h.2 st, jsonBuildList, bind, Except.bind,
      pure, Except.pure]
theorem json_fields : (fs : JFields) → jsonGuardFields fs = true → ∀ st (seen : List Name),
    fs.keys.Nodup → (∀ k ∈ fs.keys, k ∉ seen) →
    convertFields st (toAstFields fs seen) none = .ok (st, (jsonBuildFields fs).map (·.2)) ∧
    (toAstFields fs seen).names = fs.keys
  | .nil, _, st, _, _, _ => by simp [toAstFields, convertFields, jsonBuildFields, AVFields.names, JFields.keys]
  | .cons n x r, h, st, seen, hn, hs => by
    simp only [jsonGuardFields, Bool.and_eq_true] at h
    simp only [JFields.keys, List.nodup_cons] at hn
    have h1 : n ∉ seen := hs n (by simp [JFields.keys])
    have ih := json_fields r h.2 st (n :: seen) hn.2 (by
      intro k hk
      simp only [List.mem_cons, not_or]
      exact ⟨fun e => hn.1 (e ▸ hk), hs k (by simp [JFields.keys, hk])⟩)
    simp [toAstFields, h1, convertFields, json_core x h.1 st, ih.1, ih.2, jsonBuildFields, AVFields.names,
      JFields.keys, bind, Except.bind, pure, Except.pure]
end

/-! ### no named types in what the JSON reader builds, hence nothing to re-wrap -/

mutual
def noNamedTy : Ty → Bool
  | .prim _ => true
  | .record fs => noNamedFields fs
  | .array t => noNamedTy t
  | .set t => noNamedTy t
  | .map k v => noNamedTy k && noNamedTy v
  | .union ts => noNamedTys ts
  | .enum _ => true
  | .error t => noNamedTy t
  | .named _ _ => false
def noNamedFields : Fields → Bool
  | .nil => true
  | .cons _ t r => noNamedTy t && noNamedFields r
def noNamedTys : Tys → Bool
  | .nil => true
  | .cons t r => noNamedTy t && noNamedTys r
end

theorem mapV_id (f : Val → Val) (h : ∀ v, f v = v) : (vs : Vals) → vs.mapV f = vs
  | .nil => rfl
  | .cons v r => by simp [Vals.mapV, h v, mapV_id f h r]

theorem mapKV_id (f g : Val → Val) (hf : ∀ v, f v = v) (hg : ∀ v, g v = v) : (es : Entries) → es.mapKV f g = es
  | .nil => rfl
  | .cons k v r => by simp [Entries.mapKV, hf k, hg v, mapKV_id f g hf hg r]

mutual
theorem wrapAll_noNamed : (t : Ty) → noNamedTy t = true → ∀ v, wrapAll t v = v
  | .prim _, _, v => by cases v <;> rfl
  | .enum _, _, v => by cases v <;> rfl
  | .named _ _, h, _ => by simp [noNamedTy] at h
  | .record fs, h, v => by
    cases v <;> first | rfl | exact congrArg Val.record (wrapFields_noNamed fs h _)
  | .array t, h, v => by
    cases v <;> first | rfl | exact congrArg Val.array (mapV_id _ (wrapAll_noNamed t h) _)
  | .set t, h, v => by
    cases v <;> first | rfl | exact congrArg Val.set (mapV_id _ (wrapAll_noNamed t h) _)
  | .map k x, h, v => by
    simp only [noNamedTy, Bool.and_eq_true] at h
    cases v <;> first | rfl | exact congrArg Val.map (mapKV_id _ _ (wrapAll_noNamed k h.1) (wrapAll_noNamed x h.2) _)
  | .union ts, h, v => by
    cases v <;> first | rfl | exact congrArg (Val.union _) (wrapMember_noNamed ts h _ _)
  | .error t, h, v => by
    cases v <;> first | rfl | exact congrArg Val.error (wrapAll_noNamed t h _)
theorem wrapFields_noNamed : (fs : Fields) → noNamedFields fs = true → ∀ vs, wrapFields fs vs = vs
  | .nil, _, vs => by cases vs <;> rfl
  | .cons _ t r, h, vs => by
    simp only [noNamedFields, Bool.and_eq_true] at h
    cases vs with
    | nil => rfl
    | cons v vr =>
      show Vals.cons (wrapAll t v) (wrapFields r vr) = _
      rw [wrapAll_noNamed t h.1, wrapFields_noNamed r h.2]
theorem wrapMember_noNamed : (ts : Tys) → noNamedTys ts = true → ∀ n v, wrapMember ts n v = v
  | .nil, _, _, _ => rfl
  | .cons t r, h, n, v => by
    simp only [noNamedTys, Bool.and_eq_true] at h
    cases n with
    | zero => exact wrapAll_noNamed t h.1 v
    | succ n => exact wrapMember_noNamed r h.2 n v
end

theorem noNamedTys_of_mem : (l : List Ty) → (∀ t ∈ l, noNamedTy t = true) → noNamedTys (Tys.ofList l) = true
  | [], _ => rfl
  | t :: r, h => by
    simp [Tys.ofList, noNamedTys, h t (by simp), noNamedTys_of_mem r (fun x hx => h x (by simp [hx]))]

/-- the element type `normalizeElems` computes has no named type if no element type has. -/
theorem normalizeElems_noNamed (tvs : List TV) (h : ∀ tv ∈ tvs, noNamedTy tv.1 = true)
    (vals : List Val) (inner : Ty) (hn : normalizeElems tvs = .ok (vals, inner)) : noNamedTy inner = true := by
  have hu : ∀ t ∈ uniqueTypes (tvs.map (·.1)), noNamedTy t = true := by
    intro t ht
    unfold uniqueTypes at ht
    rcases (mem_foldl_insertUniq_iff t _ []).mp ht with e | e
    · simp at e
    · obtain ⟨tv, htv, rfl⟩ := List.mem_map.mp (List.mem_filter.mp e).1
      exact h tv htv
  match hus : uniqueTypes (tvs.map (·.1)) with
  | [] => unfold normalizeElems at hn; simp [hus] at hn; rw [← hn.2]; rfl
  | [t] => unfold normalizeElems at hn; simp [hus] at hn; rw [← hn.2]; exact hu t (by simp [hus])
  | a :: b :: rest =>
    rw [normalizeElems_many tvs hus rfl] at hn
    cases hmm : tvs.mapM (fun tv => (convertUnion tv _ _).map (·.2)) with
    | error e => rw [hmm] at hn; cases hn
    | ok vs =>
      rw [hmm] at hn
      obtain ⟨_, rfl⟩ := Prod.mk.inj (Except.ok.inj hn)
      exact noNamedTys_of_mem _ fun t ht => hu t (by rw [hus]; exact (mem_foldr_insertDup_iff t _).mp ht)

theorem noNamed_mkFields : (ns : List Name) → (ts : List Ty) → (∀ t ∈ ts, noNamedTy t = true) →
    noNamedFields (mkFields ns ts) = true
  | [], _, _ => by simp [mkFields, noNamedFields]
  | _ :: _, [], _ => by simp [mkFields, noNamedFields]
  | n :: ns, t :: ts, h => by
    simp [mkFields, noNamedFields, h t (by simp), noNamed_mkFields ns ts (fun x hx => h x (by simp [hx]))]

theorem mem_dedupLast : (l : List (Name × TV)) → (seen : List Name) → ∀ p ∈ dedupLast l seen, ∃ q ∈ l, p.2 = q.2
  | [], _, p, h => by simp [dedupLast] at h
  | (n, x) :: r, seen, p, h => by
    unfold dedupLast at h
    by_cases hs : seen.contains n = true
    · simp only [hs, if_true] at h
      obtain ⟨q, hq, e⟩ := mem_dedupLast r seen p h
      exact ⟨q, List.mem_cons_of_mem _ hq, e⟩
    · simp only [hs] at h
      rcases List.mem_cons.mp h with e | e
      · subst e
        cases hl : lastOf n r with
        | none => exact ⟨(n, x), by simp, by simp⟩
        | some y =>
          obtain ⟨q, hq, e⟩ := lastOf_mem n r y hl
          exact ⟨q, List.mem_cons_of_mem _ hq, by simp [e]⟩
      · obtain ⟨q, hq, e2⟩ := mem_dedupLast r (n :: seen) p e
        exact ⟨q, List.mem_cons_of_mem _ hq, e2⟩

mutual
theorem jsonBuild_noNamed : (j : J) → noNamedTy (jsonBuild j).1 = true
  | .null => rfl
  | .bool _ => rfl
  | .num src _ _ => by simp only [jsonBuild]; cases numClass src <;> rfl
  | .str _ => rfl
  | .arr xs => by
    simp only [jsonBuild]
    cases hn : normalizeElems (jsonBuildList xs) with
    | error e => rfl
    | ok r =>
      obtain ⟨vals, inner⟩ := r
      simp only [noNamedTy]
      exact normalizeElems_noNamed _ (jsonBuildList_noNamed xs) vals inner hn
  | .obj fs => by
    simp only [jsonBuild, noNamedTy]
    apply noNamed_mkFields
    intro t ht
    obtain ⟨p, hp, rfl⟩ := List.mem_map.mp ht
    obtain ⟨q, hq, e⟩ := mem_dedupLast _ _ p hp
    rw [e]
    exact jsonBuildFields_noNamed fs q hq
theorem jsonBuildList_noNamed : (xs : JList) → ∀ tv ∈ jsonBuildList xs, noNamedTy tv.1 = true
  | .nil, tv, h => by simp [jsonBuildList] at h
  | .cons x r, tv, h => by
    simp only [jsonBuildList, List.mem_cons] at h
    rcases h with rfl | h
    · exact jsonBuild_noNamed x
    · exact jsonBuildList_noNamed r tv h
theorem jsonBuildFields_noNamed : (fs : JFields) → ∀ q ∈ jsonBuildFields fs, noNamedTy q.2.1 = true
  | .nil, q, h => by simp [jsonBuildFields] at h
  | .cons n x r, q, h => by
    simp only [jsonBuildFields, List.mem_cons] at h
    rcases h with rfl | h
    · exact jsonBuild_noNamed x
    · exact jsonBuildFields_noNamed r q h
end

end Zed.Zson.Json

import Zed.Proofs.ListLift
/-! Counters kept as association lists, and `Counts t xs`: `t` has counted `xs`. -/
namespace Zed.Vec

section Counter
variable {κ : Type} [DecidableEq κ]

def incr : List (κ × Nat) → κ → Nat → List (κ × Nat)
  | [], k, n => [(k, n)]
  | (a, c) :: r, k, n => if a = k then (a, c + n) :: r else (a, c) :: incr r k n

/-- additive in the table, whatever its keys -/
def tot : List (κ × Nat) → κ → Nat
  | [], _ => 0
  | (a, c) :: r, k => (if a = k then c else 0) + tot r k

theorem tot_incr (t : List (κ × Nat)) (k k' : κ) (n : Nat) :
    tot (incr t k n) k' = tot t k' + (if k = k' then n else 0) := by
  fun_induction incr t k n
  case case1 => simp [tot]
  case case2 c r k n => by_cases h2 : k = k' <;> simp [tot, h2]; omega
  case case3 a c r k n h ih => simp only [tot, ih]; omega

theorem keys_incr (t : List (κ × Nat)) (k : κ) (n : Nat) :
    (incr t k n).map (·.1) = if k ∈ t.map (·.1) then t.map (·.1) else t.map (·.1) ++ [k] := by
  fun_induction incr t k n
  case case1 => rfl
  case case2 c r k n => simp
  case case3 a c r k n h ih =>
    simp only [List.map_cons, ih, List.mem_cons, Ne.symm h, false_or]
    split <;> rfl

theorem nodup_incr (t : List (κ × Nat)) (k : κ) (n : Nat) (h : (t.map (·.1)).Nodup) :
    ((incr t k n).map (·.1)).Nodup := by
  rw [keys_incr]
  split
  · exact h
  · rename_i hk
    exact List.nodup_append.mpr ⟨h, List.pairwise_singleton _ k, fun a ha b hb e =>
      hk (List.mem_singleton.mp hb ▸ e ▸ ha)⟩

theorem pos_incr (t : List (κ × Nat)) (k : κ) (n : Nat) (hn : n > 0) (h : ∀ e ∈ t, e.2 > 0) :
    ∀ e ∈ incr t k n, e.2 > 0 := by
  fun_induction incr t k n
  case case1 => intro e he; cases List.mem_singleton.mp he; exact hn
  case case2 c r k n =>
    intro e he
    rcases List.mem_cons.mp he with rfl | he
    · exact Nat.add_pos_left (h (k, c) List.mem_cons_self) n
    · exact h e (List.mem_cons_of_mem _ he)
  case case3 a c r k n _ ih =>
    intro e he
    rcases List.mem_cons.mp he with rfl | he
    · exact h _ List.mem_cons_self
    · exact ih hn (fun e he => h e (List.mem_cons_of_mem _ he)) e he

theorem tot_eq_zero_of_not_mem (t : List (κ × Nat)) (k : κ) (h : k ∉ t.map (·.1)) : tot t k = 0 := by
  induction t with
  | nil => rfl
  | cons e r ih =>
    obtain ⟨a, c⟩ := e
    simp only [List.map_cons, List.mem_cons, not_or] at h
    simp [tot, Ne.symm h.1, ih h.2]

/-- the counter after counting every element of `xs` once. -/
structure Counts (t : List (κ × Nat)) (xs : List κ) : Prop where
  look : ∀ k, tot t k = xs.count k
  nodup : (t.map (·.1)).Nodup
  pos : ∀ e ∈ t, e.2 > 0

theorem Counts.nil : Counts ([] : List (κ × Nat)) [] := ⟨fun _ => rfl, List.nodup_nil, nofun⟩

theorem Counts.add {t : List (κ × Nat)} {xs : List κ} (h : Counts t xs) (x : κ) {n : Nat} (hn : n > 0) :
    Counts (incr t x n) (xs ++ List.replicate n x) :=
  ⟨fun k => by
      rw [tot_incr, h.look, List.count_append, List.count_replicate]
      by_cases e : x = k <;> simp [e],
    nodup_incr t x n h.nodup, pos_incr t x n hn h.pos⟩

theorem Counts.ofList (xs : List κ) : Counts (xs.foldl (fun t x => incr t x 1) []) xs :=
  Zed.Proofs.ListLift.foldl_invariant (I := fun t pre _ => Counts t pre) (ys := [])
    (fun _ _ x _ h => h.add x Nat.one_pos) xs Counts.nil

theorem Counts.mem_keys {t : List (κ × Nat)} {xs : List κ} (h : Counts t xs) {b : κ} (hb : b ∈ xs) :
    b ∈ t.map (·.1) := by
  refine Decidable.by_contra fun hn => ?_
  have := h.look b
  rw [tot_eq_zero_of_not_mem t b hn] at this
  exact absurd (List.count_pos_iff.mpr hb) (by omega)

theorem Counts.eq_replicate {v : κ} {c : Nat} {xs : List κ} (h : Counts [(v, c)] xs) :
    xs = List.replicate xs.length v :=
  List.eq_replicate_iff.mpr ⟨rfl, fun b hb => by simpa using h.mem_keys hb⟩

end Counter

section
variable {κ κ' : Type} [DecidableEq κ] [DecidableEq κ']

theorem tot_map_inj (f : κ → κ') (hf : ∀ a b, f a = f b → a = b) (t : List (κ × Nat)) (k : κ) :
    tot (t.map fun e => (f e.1, e.2)) (f k) = tot t k := by
  induction t with
  | nil => rfl
  | cons e r ih =>
    obtain ⟨a, c⟩ := e
    by_cases h : a = k
    · subst h; simp [tot, ih]
    · have : ¬ f a = f k := fun e => h (hf _ _ e)
      simp [tot, h, this, ih]

theorem count_map_inj (f : κ → κ') (hf : ∀ a b, f a = f b → a = b) (xs : List κ) (k : κ) :
    (xs.map f).count (f k) = xs.count k := by
  induction xs with
  | nil => rfl
  | cons x xs ih =>
    by_cases h : x = k
    · subst h; simp [ih]
    · have : ¬ f x = f k := fun e => h (hf _ _ e)
      simp [h, this, ih]

theorem Counts.map_inj (f : κ → κ') (hf : ∀ a b, f a = f b → a = b) {t : List (κ × Nat)} {xs : List κ}
    (h : Counts t xs) : Counts (t.map fun e => (f e.1, e.2)) (xs.map f) := by
  have hkeys : (t.map fun e => (f e.1, e.2)).map (·.1) = (t.map (·.1)).map f := by
    simp [List.map_map, Function.comp_def]
  refine ⟨fun k' => ?_, ?_, fun e he => ?_⟩
  · by_cases hk : ∃ k, f k = k'
    · obtain ⟨k, rfl⟩ := hk
      rw [tot_map_inj f hf, count_map_inj f hf, h.look]
    · have hout : ∀ l : List κ, k' ∉ l.map f := fun l hm =>
        let ⟨k, _, hk'⟩ := List.mem_map.mp hm; hk ⟨k, hk'⟩
      rw [tot_eq_zero_of_not_mem _ _ (hkeys ▸ hout _), List.count_eq_zero_of_not_mem (hout _)]
  · rw [hkeys]
    exact List.Pairwise.map f (fun a b hab e => hab (hf a b e)) h.nodup
  · obtain ⟨e0, he0, rfl⟩ := List.mem_map.mp he
    exact h.pos e0 he0
end

end Zed.Vec

import Zed.Model.VngPrimitive
import Zed.Proofs.Counter
/-! The primitive-column encoder (C03, C09): while its count map survives it is `hist xs`; the round trip
    and what the vector operators see are read off `primEncode_spec`. -/
namespace Zed.Vng
open Zed.Generated.C03 Zed.Vec
open Zed.Proofs.ListLift (foldl_invariant)

def dkeys (d : List (Bytes × Nat)) : List Bytes := d.map (·.1)

theorem dictIndex_spec (d : List (Bytes × Nat)) (b : Bytes) (hb : b ∈ dkeys d) :
    dictIndex d b < d.length ∧ ∃ e, d[dictIndex d b]? = some e ∧ e.1 = b := by
  fun_induction dictIndex d b
  case case1 => cases hb
  case case2 c r b => exact ⟨Nat.zero_lt_succ _, _, rfl, rfl⟩
  case case3 k c r b h ih =>
    obtain ⟨h1, e, h2, h3⟩ := ih ((List.mem_cons.mp hb).resolve_left fun e => h e.symm)
    exact ⟨Nat.succ_lt_succ h1, e, by rw [List.getElem?_cons_succ, h2], h3⟩

/-- The selector width is wide enough for every dictionary that survives the overflow test:
    an obligation on the regenerated constants (`maxDictSize`, the overflow operator, the
    selector type).  This is where the 256 / 257 boundary is decided. -/
theorem dictOverflow_bound (n : Nat) (h : dictOverflow n = false) : n ≤ 2 ^ selectorBits := by
  simp [dictOverflow, dictOverflowOp, maxDictSize] at h
  simp [selectorBits]
  omega

theorem dictIncr_eq_incr (t : List (Bytes × Nat)) (k : Bytes) : dictIncr t k = incr t k 1 := by
  fun_induction dictIncr t k <;> simp [incr, *]

/-- `p.dict` while it survives -/
def hist (xs : List Bytes) : List (Bytes × Nat) := xs.foldl dictIncr []

theorem hist_counts (xs : List Bytes) : Counts (hist xs) xs := by
  rw [hist, show dictIncr = fun t x => incr t x 1 from funext fun t => funext (dictIncr_eq_incr t)]
  exact Counts.ofList xs

/-- Invariant of the encoder state after the bodies `xs` were written. -/
structure PrimInv (s : PrimEnc) (xs : List Bytes) : Prop where
  vals : s.vals = xs
  count : s.count = xs.length
  dict : ∀ d, s.dict = some d → d = hist xs
  small : ∀ d, s.dict = some d → d.length ≤ 2 ^ selectorBits

theorem PrimInv.new (id : Nat) (useDict : Bool) : PrimInv (PrimEnc.new id useDict) [] := by
  have h : ∀ d, (PrimEnc.new id useDict).dict = some d → d = [] := fun d hd => by
    simp only [PrimEnc.new] at hd
    split at hd <;> cases hd
    rfl
  exact ⟨rfl, rfl, h, fun d hd => by rw [h d hd]; exact Nat.zero_le _⟩

theorem PrimEnc.write_dict {s : PrimEnc} {b : Bytes} {d : List (Bytes × Nat)}
    (hd : (s.write b).dict = some d) :
    ∃ d0, s.dict = some d0 ∧ d = dictIncr d0 b ∧ dictOverflow d.length = false := by
  simp only [PrimEnc.write] at hd
  cases hs : s.dict with
  | none => simp [hs] at hd
  | some d0 =>
    simp only [hs] at hd
    by_cases ho : dictOverflow (dictIncr d0 b).length = true
    · simp [ho] at hd
    · simp only [ho] at hd
      cases hd
      exact ⟨d0, rfl, rfl, by simpa using ho⟩

theorem PrimInv.write {s : PrimEnc} {xs : List Bytes} (h : PrimInv s xs) (b : Bytes) :
    PrimInv (s.write b) (xs ++ [b]) := by
  refine ⟨by simp [PrimEnc.write, h.vals], by simp [PrimEnc.write, h.count], ?_, ?_⟩
  · intro d hd
    obtain ⟨d0, hs, rfl, -⟩ := PrimEnc.write_dict hd
    rw [h.dict d0 hs]
    simp only [hist, List.foldl_append, List.foldl_cons, List.foldl_nil]
  · intro d hd
    obtain ⟨d0, hs, rfl, ho⟩ := PrimEnc.write_dict hd
    exact dictOverflow_bound _ ho

theorem dictBuild_spec (d : List (Bytes × Nat)) (hsmall : d.length ≤ 2 ^ selectorBits)
    (xs : List Bytes) (hk : ∀ b ∈ xs, b ∈ dkeys d) :
    dictBuild d (xs.map fun b => selectorOf (dictIndex d b)) = some xs := by
  induction xs with
  | nil => rfl
  | cons x xs ih =>
    obtain ⟨h1, e, h2, h3⟩ := dictIndex_spec d x (hk x (by simp))
    have hsel : selectorOf (dictIndex d x) = dictIndex d x := by
      unfold selectorOf
      exact Nat.mod_eq_of_lt (by omega)
    simp only [List.map_cons, dictBuild, hsel, h2]
    rw [ih (fun b hb => hk b (List.mem_cons_of_mem _ hb))]
    simp [h3]

theorem primEncode_spec (id : Nat) (useDict : Bool) (xs : List Bytes) :
    primEncode id useDict xs = .plain xs xs.length ∨
    (∃ v c, hist xs = [(v, c)] ∧ primEncode id useDict xs = .const v xs.length) ∨
    ((hist xs).length ≤ 2 ^ selectorBits ∧ primEncode id useDict xs =
      .dict (hist xs) (xs.map fun b => selectorOf (dictIndex (hist xs) b)) xs.length) := by
  have h : PrimInv (xs.foldl PrimEnc.write (PrimEnc.new id useDict)) xs :=
    foldl_invariant (I := fun s pre _ => PrimInv s pre) (ys := []) (fun _ _ x _ h => h.write x) xs
      (PrimInv.new id useDict)
  unfold primEncode PrimEnc.finish
  generalize xs.foldl PrimEnc.write (PrimEnc.new id useDict) = st at h
  rw [h.vals, h.count]
  cases hs : st.dict with
  | none => exact .inl rfl
  | some d =>
    have hsm := h.small d hs
    obtain rfl := h.dict d hs
    -- the arms reduce `d.length = constAtDictSize` by computation: the constant is 1
    match hd : hist xs, hsm with
    | [], _ => exact .inl rfl
    | [(v, c)], _ => exact .inr (.inl ⟨v, c, rfl, rfl⟩)
    | _ :: _ :: _, hsm => exact .inr (.inr ⟨hsm, rfl⟩)

theorem primEncode_build (id : Nat) (useDict : Bool) (xs : List Bytes) :
    (primEncode id useDict xs).build = some xs := by
  rcases primEncode_spec id useDict xs with h | ⟨v, c, hv, h⟩ | ⟨hsm, h⟩ <;> rw [h]
  · rfl
  · -- one key: every body is that key
    exact congrArg some (hv ▸ hist_counts xs).eq_replicate.symm
  · exact dictBuild_spec _ hsm xs fun b hb => (hist_counts xs).mem_keys hb

theorem primEncode_len (id : Nat) (useDict : Bool) (xs : List Bytes) :
    (primEncode id useDict xs).len = xs.length := by
  rcases primEncode_spec id useDict xs with h | ⟨v, c, -, h⟩ | ⟨-, h⟩ <;> rw [h] <;> rfl

end Zed.Vng

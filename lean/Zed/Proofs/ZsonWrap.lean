import Zed.Proofs.ZsonFormat
/-!
  C02 — `wrapAll t (strip v) = v`: putting the `named` wrappers back according to the type
  recovers a well-formed value (any type, named types included).
-/
namespace Zed.Zson

theorem wrapMember_get : (ts : Tys) → (tag : Nat) → (m : Ty) → (x : Val) → ts.get? tag = some m →
    wrapMember ts tag x = wrapAll m x
  | .cons t r, 0, m, x, h => by simp [Tys.get?] at h; subst h; simp [wrapMember]
  | .cons t r, n + 1, m, x, h => by
    simp only [Tys.get?] at h
    simp [wrapMember, wrapMember_get r n m x h]
  | .nil, _, _, _, h => by simp [Tys.get?] at h

theorem strip_ne_null : (v : Val) → (t : Ty) → wfVal t v = true → v ≠ .null → strip v ≠ .null
  | .null, _, _, h => absurd rfl h
  | .named v', _, hw, _ => by
    cases shaped_of_wf hw rfl with
    | named n u _ =>
      simp only [wfVal, Bool.and_eq_true, bne_iff_ne, ne_eq] at hw
      exact strip_ne_null v' u hw.2 hw.1
  | .prim _, _, _, _ | .record _, _, _, _ | .array _, _, _, _ | .set _, _, _, _ | .map _, _, _, _
  | .union _ _, _, _, _ | .enum _, _, _, _ | .typeval _, _, _, _ | .error _, _, _, _ => nofun

theorem wrapAll_named (n : Name) (u : Ty) (x : Val) (h : x ≠ .null) :
    wrapAll (.named n u) x = .named (wrapAll u x) := by
  cases x <;> first | rfl | exact absurd rfl h

mutual
theorem wrapAll_strip : (v : Val) → (t : Ty) → wfVal t v = true → wrapAll t (strip v) = v
  | .null, t, _ => by cases t <;> rfl
  | .named v', _, hw => by
    cases shaped_of_wf hw rfl with
    | named n u _ =>
      simp only [wfVal, Bool.and_eq_true, bne_iff_ne, ne_eq] at hw
      simp only [strip]
      rw [wrapAll_named n u _ (strip_ne_null v' u hw.2 hw.1), wrapAll_strip v' u hw.2]
  | .prim text, _, hw => by cases shaped_of_wf hw rfl with | prim id _ => rfl
  | .typeval ty, _, hw => by cases shaped_of_wf hw rfl with | typeval id _ => rfl
  | .enum sel, _, hw => by cases shaped_of_wf hw rfl with | enum syms _ => rfl
  | .record vs, _, hw => by
    cases shaped_of_wf hw rfl with
    | record fs _ => exact congrArg Val.record (wrapFields_strip vs fs hw)
  | .array vs, _, hw => by
    cases shaped_of_wf hw rfl with
    | array et _ => exact congrArg Val.array (mapV_strip vs et hw)
  | .set vs, _, hw => by
    cases shaped_of_wf hw rfl with
    | set et _ => exact congrArg Val.set (mapV_strip vs et hw)
  | .map es, _, hw => by
    cases shaped_of_wf hw rfl with
    | map kt vt _ => exact congrArg Val.map (mapKV_strip es kt vt hw)
  | .union tag inner, _, hw => by
    cases shaped_of_wf hw rfl with
    | union ts _ _ =>
      simp only [wfVal, Bool.and_eq_true, bne_iff_ne, ne_eq] at hw
      cases hg : ts.get? tag with
      | none => simp [hg] at hw
      | some m =>
        simp only [hg] at hw
        show Val.union tag (wrapMember ts tag (strip inner)) = _
        rw [wrapMember_get ts tag m _ hg, wrapAll_strip inner m hw.2]
  | .error v', _, hw => by
    cases shaped_of_wf hw rfl with
    | error u _ =>
      simp only [wfVal, Bool.and_eq_true] at hw
      exact congrArg Val.error (wrapAll_strip v' u hw.2)
theorem wrapFields_strip : (vs : Vals) → (fs : Fields) → wfVals fs vs = true → wrapFields fs (stripVals vs) = vs
  | .nil, fs, h => by cases fs <;> simp_all [wfVals, stripVals, wrapFields]
  | .cons v r, fs, h => by
    cases fs with
    | nil => simp [wfVals] at h
    | cons n t fr =>
      simp only [wfVals, Bool.and_eq_true] at h
      simp [stripVals, wrapFields, wrapAll_strip v t h.1, wrapFields_strip r fr h.2]
theorem mapV_strip : (vs : Vals) → (et : Ty) → wfElems et vs = true → (stripVals vs).mapV (wrapAll et) = vs
  | .nil, _, _ => by simp [stripVals, Vals.mapV]
  | .cons v r, et, h => by
    simp only [wfElems, Bool.and_eq_true] at h
    simp [stripVals, Vals.mapV, wrapAll_strip v et h.1, mapV_strip r et h.2]
theorem mapKV_strip : (es : Entries) → (kt vt : Ty) → wfEntries kt vt es = true →
    (stripEntries es).mapKV (wrapAll kt) (wrapAll vt) = es
  | .nil, _, _, _ => by simp [stripEntries, Entries.mapKV]
  | .cons k v r, kt, vt, h => by
    simp only [wfEntries, Bool.and_eq_true] at h
    simp [stripEntries, Entries.mapKV, wrapAll_strip k kt h.1.1, wrapAll_strip v vt h.1.2, mapKV_strip r kt vt h.2]
end

theorem wrapAll_named_strip (n : Name) (u : Ty) (v' : Val) (hv : wfVal u v' = true) (hn : v'.isNull = false) :
    wrapAll (.named n u) (strip v') = .named v' := by
  have hne : v' ≠ .null := fun h => by rw [h] at hn; cases hn
  exact wrapAll_strip (.named v') (.named n u) (by simp [wfVal, hv, hne])

end Zed.Zson

import Zed.Model.ZsonGuard
import Zed.Proofs.ZsonPrim
/-!
  C02 — type-level lemmas for the plain fragment: the formatter's type printers produce
  `tyAst t` without touching their typedef tables, and the analyzer reads `tyAst t` back as
  `t` without touching its name table.
-/
namespace Zed.Zson
open Generated

mutual
def tyAst : Ty → ATy
  | .prim id => .prim (primName id)
  | .record fs => .record (fieldsAst fs)
  | .array t => .array (tyAst t)
  | .set t => .set (tyAst t)
  | .map k v => .map (tyAst k) (tyAst v)
  | .union ts => .union (tysAst ts)
  | .enum syms => .enum syms
  | .error t => .error (tyAst t)
  | .named n t => .def_ n (tyAst t)
def fieldsAst : Fields → AFields
  | .nil => .nil
  | .cons n t r => .cons n (tyAst t) (fieldsAst r)
def tysAst : Tys → ATys
  | .nil => .nil
  | .cons t r => .cons (tyAst t) (tysAst r)
end

mutual
theorem canonType_plain (d : List (Name × Ty)) : (t : Ty) → plainTy t = true → canonType d t = (d, tyAst t)
  | .prim id, _ => by simp [canonType, tyAst]
  | .record fs, h => by
    simp only [plainTy] at h
    simp [canonType, tyAst, canonFields_plain d fs h]
  | .array t, h | .set t, h | .error t, h => by
    simp only [plainTy] at h
    simp [canonType, tyAst, canonType_plain d t h]
  | .map k v, h => by
    simp only [plainTy, Bool.and_eq_true] at h
    simp [canonType, tyAst, canonType_plain d k h.1, canonType_plain d v h.2]
  | .union ts, h => by
    simp only [plainTy] at h
    simp [canonType, tyAst, canonTys_plain d ts h]
  | .enum syms, _ => by simp [canonType, tyAst]
  | .named n t, h => by simp [plainTy] at h
theorem canonFields_plain (d : List (Name × Ty)) : (fs : Fields) → plainFields fs = true → canonFields d fs = (d, fieldsAst fs)
  | .nil, _ => by simp [canonFields, fieldsAst]
  | .cons n t r, h => by
    simp only [plainFields, Bool.and_eq_true] at h
    simp [canonFields, fieldsAst, canonType_plain d t h.1.1, canonFields_plain d r h.2]
theorem canonTys_plain (d : List (Name × Ty)) : (ts : Tys) → plainTys ts = true → canonTys d ts = (d, tysAst ts)
  | .nil, _ => by simp [canonTys, tysAst]
  | .cons t r, h => by
    simp only [plainTys, Bool.and_eq_true] at h
    simp [canonTys, tysAst, canonType_plain d t h.1, canonTys_plain d r h.2]
end

mutual
theorem fmtType_plain (st : FState) : (t : Ty) → plainTy t = true → fmtType st t = (st, tyAst t)
  | .prim id, _ => by simp [fmtType, tyAst]
  | .record fs, h => by
    simp only [plainTy] at h
    simp [fmtType, tyAst, fmtTypeFields_plain st fs h]
  | .array t, h | .set t, h => by
    simp only [plainTy] at h
    simp [fmtType, tyAst, fmtType_plain st t h]
  | .map k v, h => by
    simp only [plainTy, Bool.and_eq_true] at h
    simp [fmtType, tyAst, fmtType_plain st k h.1, fmtType_plain st v h.2]
  | .union ts, h => by
    simp only [plainTy] at h
    simp [fmtType, tyAst, fmtTypeTys_plain st ts h]
  | .enum syms, _ => by simp [fmtType, tyAst]
  | .error t, h => by
    simp only [plainTy] at h
    simp [fmtType, tyAst, canonType_plain [] t h]
  | .named n t, h => by simp [plainTy] at h
theorem fmtTypeFields_plain (st : FState) : (fs : Fields) → plainFields fs = true → fmtTypeFields st fs = (st, fieldsAst fs)
  | .nil, _ => by simp [fmtTypeFields, fieldsAst]
  | .cons n t r, h => by
    simp only [plainFields, Bool.and_eq_true] at h
    simp [fmtTypeFields, fieldsAst, fmtType_plain st t h.1.1, fmtTypeFields_plain st r h.2]
theorem fmtTypeTys_plain (st : FState) : (ts : Tys) → plainTys ts = true → fmtTypeTys st ts = (st, tysAst ts)
  | .nil, _ => by simp [fmtTypeTys, tysAst]
  | .cons t r, h => by
    simp only [plainTys, Bool.and_eq_true] at h
    simp [fmtTypeTys, tysAst, fmtType_plain st t h.1, fmtTypeTys_plain st r h.2]
end

theorem lookup_primName (id : Nat) (h : validPrim id = true) : lookupPrimitive (primName id) = some id := by
  simp only [validPrim, List.any_eq_true, beq_iff_eq] at h
  obtain ⟨p, hp, rfl⟩ := h
  rw [primName_of_mem hp, lookupPrimitive_ascii hp]

theorem insertDup_chainFrom (x : Ty) : (r : List Ty) → chainFrom x r = true → insertDup x r = x :: r
  | [], _ => rfl
  | y :: r, h => by
    simp only [chainFrom, Bool.and_eq_true, beq_iff_eq] at h
    simp [insertDup, h.1.1.1]

theorem foldr_insertDup_chain : (l : List Ty) → chain l = true → l.foldr insertDup [] = l
  | [], _ => rfl
  | x :: r, h => by
    simp only [chain, Bool.and_eq_true] at h
    simp [List.foldr, foldr_insertDup_chain r h.2, insertDup_chainFrom x r h.1]

theorem lookupUnion_chain (ts : Tys) (h : chain ts.toList = true) : lookupUnion ts.toList = .union ts := by
  simp [lookupUnion, foldr_insertDup_chain _ h, Tys.ofList_toList]

mutual
theorem convertType_plain (a : AState) : (t : Ty) → plainTy t = true → wfTy t = true →
    convertType a (tyAst t) = .ok (a, t)
  | .prim id, _, w => by
    simp only [wfTy] at w
    simp [convertType, tyAst, lookup_primName id w]
  | .record fs, h, w => by
    simp only [plainTy] at h
    simp only [wfTy, Bool.and_eq_true, Bool.not_eq_true'] at w
    simp [convertType, tyAst, convertTypeFields_plain a fs h w.1, w.2, bind, Except.bind, pure, Except.pure]
  | .array t, h, w | .set t, h, w | .error t, h, w => by
    simp only [plainTy] at h
    simp only [wfTy] at w
    simp [convertType, tyAst, convertType_plain a t h w, bind, Except.bind, pure, Except.pure]
  | .map k v, h, w => by
    simp only [plainTy, Bool.and_eq_true] at h
    simp only [wfTy, Bool.and_eq_true] at w
    simp [convertType, tyAst, convertType_plain a k h.1 w.1, convertType_plain a v h.2 w.2, bind, Except.bind, pure, Except.pure]
  | .union ts, h, w => by
    simp only [plainTy] at h
    simp only [wfTy, Bool.and_eq_true] at w
    simp [convertType, tyAst, convertTypeTys_plain a ts h w.1.1, lookupUnion_chain ts w.2, bind, Except.bind, pure, Except.pure]
  | .enum syms, _, w => by
    simp only [wfTy, Bool.and_eq_true, Bool.not_eq_true'] at w
    simp [convertType, tyAst, w.1]
  | .named n t, h, _ => by simp [plainTy] at h
theorem convertTypeFields_plain (a : AState) : (fs : Fields) → plainFields fs = true → wfFields fs = true →
    convertTypeFields a (fieldsAst fs) = .ok (a, fs)
  | .nil, _, _ => by simp [convertTypeFields, fieldsAst]
  | .cons n t r, h, w => by
    simp only [plainFields, Bool.and_eq_true] at h
    simp only [wfFields, Bool.and_eq_true] at w
    simp [convertTypeFields, fieldsAst, convertType_plain a t h.1.1 w.1, convertTypeFields_plain a r h.2 w.2, bind, Except.bind, pure, Except.pure]
theorem convertTypeTys_plain (a : AState) : (ts : Tys) → plainTys ts = true → wfTys ts = true →
    convertTypeTys a (tysAst ts) = .ok (a, ts.toList)
  | .nil, _, _ => by simp [convertTypeTys, tysAst, Tys.toList]
  | .cons t r, h, w => by
    simp only [plainTys, Bool.and_eq_true] at h
    simp only [wfTys, Bool.and_eq_true] at w
    simp [convertTypeTys, tysAst, Tys.toList, convertType_plain a t h.1 w.1, convertTypeTys_plain a r h.2 w.2, bind, Except.bind, pure, Except.pure]
end
end Zed.Zson

import Zed.Model.TyContext
namespace Zed
open Zcode List

theorem byte_toNat (n : Nat) (h : n < 256) : (UInt8.ofNat n).toNat = n := by
  simp [Nat.mod_eq_of_lt h]

theorem shift_split (n sh : Nat) : n % 128 * 2 ^ sh + n / 128 * 2 ^ (sh + 7) = n * 2 ^ sh := by
  rw [Nat.pow_add, show (2 : Nat) ^ 7 = 128 from rfl, Nat.mul_comm (2 ^ sh) 128, ← Nat.mul_assoc,
    ← Nat.add_mul, Nat.add_comm, Nat.mul_comm (n / 128) 128, Nat.div_add_mod]

theorem readUvarintAux_uvarintF : (k : Nat) → (f : Nat) → (n i acc sh : Nat) → (rest : Bytes) →
    n < 128 ^ (k + 1) → k + 1 ≤ f → i + k ≤ 8 →
    readUvarintAux i acc sh (uvarintF f n ++ rest) = some (acc + n * 2 ^ sh, rest)
  | _, 0, _, _, _, _, _, _, hf, _ => by omega
  | k, f+1, n, i, acc, sh, rest, hn, hf, hi => by
    have h10 : i ≠ 10 := by omega
    by_cases h : n < 128
    · have h9 : ¬ (i = 9 ∧ n > 1) := by omega
      simp only [uvarintF, h, if_true, singleton_append, readUvarintAux, byte_toNat n (by omega), h10, h9,
        if_false]
    · cases k with
      | zero => exact absurd hn h
      | succ k =>
        have hb := byte_toNat (n % 128 + 128) (by omega)
        have h3 : ¬ n % 128 + 128 < 128 := by omega
        have hn' : n / 128 < 128 ^ (k + 1) := by
          rw [Nat.div_lt_iff_lt_mul (by decide), ← Nat.pow_succ]; exact hn
        simp only [uvarintF, h, if_false, cons_append, readUvarintAux, hb, h10, h3]
        rw [readUvarintAux_uvarintF k f (n / 128) (i + 1) _ (sh + 7) rest hn' (by omega) (by omega),
          Nat.add_assoc, Nat.add_mod_right, Nat.mod_mod, shift_split]

theorem readUvarint_uvarint (n : Nat) (rest : Bytes) (h : n < 2 ^ 63) :
    readUvarint (uvarint n ++ rest) = some (n, rest) := by
  unfold readUvarint uvarint
  have := readUvarintAux_uvarintF 8 20 n 0 0 0 rest (by simpa using h) (by decide) (by decide)
  simpa using this

theorem decodeLength_uvarint (n : Nat) (rest : Bytes) (h : n < 2 ^ 63) :
    decodeLength (uvarint n ++ rest) = some (n, rest) := by
  unfold decodeLength
  rw [readUvarint_uvarint n rest h]
  simp [h]

theorem decodeName_encodeName (nm : Name) (rest : Bytes) (h : nm.length < 2 ^ 63) :
    decodeName (encodeName nm ++ rest) = some (nm, rest) := by
  unfold decodeName encodeName
  rw [append_assoc, decodeLength_uvarint _ _ h]
  simp

theorem uvarint_length_pos (n : Nat) : 0 < (uvarint n).length := by
  show 0 < (uvarintF (19 + 1) n).length
  rw [uvarintF]; split <;> simp

end Zed

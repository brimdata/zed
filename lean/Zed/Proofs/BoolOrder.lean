/-! The strict part `le a b && !le b a` and the symmetric part `le a b && le b a` of a Boolean order
    `le`.  `Agg.ltOf le`, `Join.lt le`, `Par.lt le` and `Lake.klt cfg` (at `le := cfg.kle`) unfold to the
    first, `Agg.eqv le` and `Join.eqv le` to the second, by `rfl`, so the lemmas apply to them as they
    stand. -/
namespace Zed.BoolOrder
variable {α : Type} {le : α → α → Bool}

theorem strict_iff {a b : α} : (le a b && !le b a) = true ↔ le a b = true ∧ le b a = false := by
  rw [Bool.and_eq_true, Bool.not_eq_true']

theorem strict_irrefl (a : α) : (le a a && !le a a) = false := Bool.and_not_self _

theorem strict_not_le {a b : α} (h1 : (le a b && !le b a) = true) (h2 : le b a = true) : False :=
  Bool.false_ne_true ((strict_iff.1 h1).2.symm.trans h2)

/-- `a ≤ b < c ≤ d → a < d`; with `b = a` or `d = c` (reflexivity) the mixed transitivities. -/
theorem le_strict_le (trans : ∀ a b c, le a b = true → le b c = true → le a c = true) {a b c d : α}
    (h1 : le a b = true) (h2 : (le b c && !le c b) = true) (h3 : le c d = true) :
    (le a d && !le d a) = true := by
  rw [strict_iff] at h2 ⊢
  -- `d ≤ a` would give `c ≤ d ≤ a ≤ b`
  refine ⟨trans _ _ _ (trans _ _ _ h1 h2.1) h3, Bool.eq_false_iff.2 fun hda => ?_⟩
  exact Bool.false_ne_true (h2.2.symm.trans (trans _ _ _ (trans _ _ _ h3 hda) h1))

theorem le_of_not_strict (total : ∀ a b, (le a b || le b a) = true) {a b : α}
    (h : (le a b && !le b a) = false) : le b a = true := by
  have := total a b
  revert h this; cases le a b <;> cases le b a <;> decide

theorem sym_iff {a b : α} : (le a b && le b a) = true ↔ le a b = true ∧ le b a = true :=
  Bool.and_eq_true_iff

theorem sym_comm (le : α → α → Bool) (a b : α) : (le a b && le b a) = (le b a && le a b) :=
  Bool.and_comm _ _

theorem sym_trans (trans : ∀ a b c, le a b = true → le b c = true → le a c = true) {a b c : α}
    (h₁ : (le a b && le b a) = true) (h₂ : (le b c && le c b) = true) : (le a c && le c a) = true :=
  have ⟨ab, ba⟩ := sym_iff.1 h₁
  have ⟨bc, cb⟩ := sym_iff.1 h₂
  sym_iff.2 ⟨trans _ _ _ ab bc, trans _ _ _ cb ba⟩

/-! ### the lexicographic order on pairs, for a strict order `lt` given as a Boolean test -/

section lex
variable {A : Type} (lt : A → A → Bool)

/-- neither is before the other -/
def neither (a b : A) : Bool := !lt a b && !lt b a
def lex (a b : A × A) : Bool := lt a.1 b.1 || (neither lt a.1 b.1 && lt a.2 b.2)

theorem lex_negtrans (nt : ∀ a b c, lt a b = false → lt b c = false → lt a c = false)
    (a b c : A × A) (h1 : lex lt a b = false) (h2 : lex lt b c = false) : lex lt a c = false := by
  unfold lex at *
  simp only [Bool.or_eq_false_iff, Bool.and_eq_false_iff] at h1 h2 ⊢
  obtain ⟨h1a, h1b⟩ := h1
  obtain ⟨h2a, h2b⟩ := h2
  refine ⟨nt _ _ _ h1a h2a, ?_⟩
  cases he : neither lt a.1 c.1 with
  | false => exact Or.inl rfl
  | true =>
    right
    unfold neither at he h1b h2b
    simp only [Bool.and_eq_true, Bool.not_eq_true', Bool.and_eq_false_iff, Bool.not_eq_false'] at he h1b h2b
    have hba : lt b.1 a.1 = false := nt _ _ _ h2a he.2
    have hcb : lt c.1 b.1 = false := nt _ _ _ he.2 h1a
    have e1 : lt a.2 b.2 = false := by
      rcases h1b with (h | h) | h
      · rw [h1a] at h; cases h
      · rw [hba] at h; cases h
      · exact h
    have e2 : lt b.2 c.2 = false := by
      rcases h2b with (h | h) | h
      · rw [h2a] at h; cases h
      · rw [hcb] at h; cases h
      · exact h
    exact nt _ _ _ e1 e2

theorem lex_asymm (irr : ∀ a, lt a a = false) (tr : ∀ a b c, lt a b = true → lt b c = true → lt a c = true)
    (a b : A × A) (h1 : lex lt a b = true) : lex lt b a = false := by
  unfold lex at *
  simp only [Bool.or_eq_true, Bool.and_eq_true, Bool.or_eq_false_iff, Bool.and_eq_false_iff] at h1 ⊢
  unfold neither at *
  rcases h1 with h | ⟨he, h⟩
  · refine ⟨?_, ?_⟩
    · cases hb : lt b.1 a.1 with
      | false => rfl
      | true => have := tr _ _ _ h hb; rw [irr] at this; cases this
    · left; simp [h]
  · simp only [Bool.and_eq_true, Bool.not_eq_true'] at he
    refine ⟨he.2, ?_⟩
    right
    cases hb : lt b.2 a.2 with
    | false => rfl
    | true => have := tr _ _ _ h hb; rw [irr] at this; cases this
end lex

end Zed.BoolOrder

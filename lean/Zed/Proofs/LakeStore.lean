/-
  The commit store is append-only: `Store.Snapshot` and `Store.Path` of an existing commit never change,
  and both unfold one commit at a time along the parent chain.
-/
import Zed.Model.LakeOps
namespace Zed.Lake
variable {K V : Type}

theorem foldl_snoc {α β : Type} (g : List β → α → β) (l : List α) (acc : List β) :
    ∃ ext, l.foldl (fun acc a => acc ++ [g acc a]) acc = acc ++ ext ∧ ext.length = l.length := by
  induction l generalizing acc with
  | nil => exact ⟨[], by simp, rfl⟩
  | cons a as ih =>
    obtain ⟨ext, h, hl⟩ := ih (acc ++ [g acc a])
    exact ⟨g acc a :: ext, by rw [List.foldl_cons, h, List.append_assoc]; rfl, by simp [hl]⟩

theorem foldl_snoc_entries {α β : Type} (g : List β → α → β) (a b : List α) :
    (a.foldl (fun acc x => acc ++ [g acc x]) []).length = a.length ∧
    (∀ i, i < a.length → ((a ++ b).foldl (fun acc x => acc ++ [g acc x]) [])[i]? =
      (a.foldl (fun acc x => acc ++ [g acc x]) [])[i]?) ∧
    ∀ c, ((a ++ [c]).foldl (fun acc x => acc ++ [g acc x]) [])[a.length]? =
      some (g (a.foldl (fun acc x => acc ++ [g acc x]) []) c) := by
  obtain ⟨e0, h0, hl0⟩ := foldl_snoc g a []
  have hlen : (a.foldl (fun acc x => acc ++ [g acc x]) []).length = a.length := by
    rw [h0]; exact hl0
  refine ⟨hlen, fun i hi => ?_, fun c => ?_⟩
  · obtain ⟨ext, h, _⟩ := foldl_snoc g b (a.foldl (fun acc x => acc ++ [g acc x]) [])
    rw [List.foldl_append, h, List.getElem?_append_left (hlen ▸ hi)]
  · rw [List.foldl_append, List.foldl_cons, List.foldl_nil,
      List.getElem?_append_right (Nat.le_of_eq hlen), hlen, Nat.sub_self]
    rfl

theorem foldl_snoc_at {α β : Type} (g : List β → α → β) (l : List α) (n : Nat) (x : α) (h : l[n]? = some x) :
    (l.foldl (fun acc a => acc ++ [g acc a]) [])[n]? =
      some (g ((l.take n).foldl (fun acc a => acc ++ [g acc a]) []) x) := by
  obtain ⟨hlt, hx⟩ := List.getElem?_eq_some_iff.1 h
  have hn : (l.take n).length = n := List.length_take_of_le (Nat.le_of_lt hlt)
  have hl : l = (l.take n ++ [x]) ++ l.drop (n + 1) := by
    rw [← hx, List.append_assoc, List.singleton_append, List.getElem_cons_drop, List.take_append_drop]
  conv => lhs; rw [hl]
  rw [(foldl_snoc_entries g (l.take n ++ [x]) (l.drop (n + 1))).2.1 n (by simp [hn])]
  have := (foldl_snoc_entries g (l.take n) []).2.2 x
  rwa [hn] at this

theorem snapsOf_entries (a b : List (Commit K)) :
    (snapsOf a).length = a.length ∧
    (∀ i, i < a.length → (snapsOf (a ++ b))[i]? = (snapsOf a)[i]?) ∧
    ∀ c, (snapsOf (a ++ [c]))[a.length]? = some (commitSnap (snapsOf a) c) :=
  foldl_snoc_entries commitSnap a b

theorem pathsOf_entries (a b : List (Commit K)) :
    (pathsOf a).length = a.length ∧
    (∀ i, i < a.length → (pathsOf (a ++ b))[i]? = (pathsOf a)[i]?) ∧
    ∀ c, (pathsOf (a ++ [c]))[a.length]? =
      some (((pathsOf a).length + 1) :: parentPath (pathsOf a) c.parent) :=
  foldl_snoc_entries (fun acc (c : Commit K) => (acc.length + 1) :: parentPath acc c.parent) a b

theorem snapsOf_length (cs : List (Commit K)) : (snapsOf cs).length = cs.length := (snapsOf_entries cs []).1

theorem pathsOf_length (cs : List (Commit K)) : (pathsOf cs).length = cs.length := (pathsOf_entries cs []).1

theorem snapsOf_at {cs : List (Commit K)} {n : Nat} {co : Commit K} (h : cs[n]? = some co) :
    (snapsOf cs)[n]? = some (commitSnap (snapsOf (cs.take n)) co) := foldl_snoc_at commitSnap cs n co h

theorem pathsOf_at {cs : List (Commit K)} {n : Nat} {co : Commit K} (h : cs[n]? = some co) :
    (pathsOf cs)[n]? = some (((pathsOf (cs.take n)).length + 1) :: parentPath (pathsOf (cs.take n)) co.parent) :=
  foldl_snoc_at (fun acc (c : Commit K) => (acc.length + 1) :: parentPath acc c.parent) cs n co h

theorem parentSnap_prefix (a b : List (Commit K)) (p : Nat) (h : p ≤ a.length) :
    parentSnap (snapsOf (a ++ b)) p = parentSnap (snapsOf a) p := by
  unfold parentSnap
  by_cases hp : p = 0
  · rw [if_pos hp, if_pos hp]
  · rw [if_neg hp, if_neg hp, (snapsOf_entries a b).2.1 _ (Nat.sub_one_lt_of_le (Nat.pos_of_ne_zero hp) h)]

theorem parentPath_prefix (a b : List (Commit K)) (p : Nat) (h : p ≤ a.length) :
    parentPath (pathsOf (a ++ b)) p = parentPath (pathsOf a) p := by
  unfold parentPath
  by_cases hp : p = 0
  · rw [if_pos hp, if_pos hp]
  · rw [if_neg hp, if_neg hp, (pathsOf_entries a b).2.1 _ (Nat.sub_one_lt_of_le (Nat.pos_of_ne_zero hp) h)]

theorem snapAt_append (cs : List (Commit K)) (c : Commit K) (k : Nat) (h : k ≤ cs.length) :
    snapAt (cs ++ [c]) k = snapAt cs k := parentSnap_prefix cs [c] k h

theorem pathAt_append (cs : List (Commit K)) (c : Commit K) (k : Nat) (h : k ≤ cs.length) :
    pathAt (cs ++ [c]) k = pathAt cs k := parentPath_prefix cs [c] k h

theorem commitSnap_eq (cs : List (Commit K)) (c : Commit K) :
    commitSnap (snapsOf cs) c = match snapAt cs c.parent with
      | .ok s => play s c.acts
      | .error e => .error e := rfl

theorem snapAt_new (cs : List (Commit K)) (c : Commit K) :
    snapAt (cs ++ [c]) (cs.length + 1) = commitSnap (snapsOf cs) c := by
  unfold snapAt parentSnap
  rw [if_neg (Nat.succ_ne_zero _), Nat.add_sub_cancel, (snapsOf_entries cs []).2.2 c]

theorem pathAt_new (cs : List (Commit K)) (c : Commit K) :
    pathAt (cs ++ [c]) (cs.length + 1) = (cs.length + 1) :: parentPath (pathsOf cs) c.parent := by
  rw [pathAt, parentPath, if_neg (Nat.succ_ne_zero _), Nat.add_sub_cancel, (pathsOf_entries cs []).2.2 c,
    pathsOf_length]
  rfl

theorem getCommit_some {cs : List (Commit K)} {c : Nat} {co : Commit K} (h : getCommit cs c = some co) :
    c ≠ 0 ∧ cs[c - 1]? = some co := by
  revert h
  fun_cases getCommit cs c <;> intro h
  · cases h
  · exact ⟨‹_›, h⟩

theorem take_pred_length {cs : List (Commit K)} {c : Nat} {co : Commit K} (h : cs[c - 1]? = some co) :
    (cs.take (c - 1)).length = c - 1 :=
  List.length_take_of_le (Nat.le_of_lt (List.getElem?_eq_some_iff.1 h).1)

theorem parentSnap_out (acc : List (Except Err (Snap K))) (p : Nat) (h : acc.length < p) :
    parentSnap acc p = .error .badParent := by
  unfold parentSnap
  rw [if_neg (Nat.ne_of_gt (Nat.zero_lt_of_lt h)), List.getElem?_eq_none_iff.mpr (Nat.le_sub_one_of_lt h)]

theorem parentPath_out (acc : List (List Nat)) (p : Nat) (h : acc.length < p) : parentPath acc p = [] := by
  unfold parentPath
  rw [if_neg (Nat.ne_of_gt (Nat.zero_lt_of_lt h)), List.getElem?_eq_none_iff.mpr (Nat.le_sub_one_of_lt h)]
  rfl

/-- **unfolding `Store.Snapshot`**: the snapshot of commit `c` is its parent's snapshot with its
    actions played; the parent must be an older commit -/
theorem snapAt_unfold (cs : List (Commit K)) (c : Nat) (co : Commit K) (h : getCommit cs c = some co) :
    snapAt cs c = if co.parent < c then
        (match snapAt cs co.parent with
         | .ok s => play s co.acts
         | .error e => .error e)
      else .error .badParent := by
  obtain ⟨hc, hco⟩ := getCommit_some h
  have hlen := take_pred_length hco
  rw [snapAt, parentSnap, if_neg hc, snapsOf_at hco]
  show commitSnap (snapsOf (cs.take (c - 1))) co = _
  rw [commitSnap]
  by_cases hp : co.parent < c
  · -- an older parent is looked up among the commits before `c`
    have := parentSnap_prefix (cs.take (c - 1)) (cs.drop (c - 1)) co.parent (by rw [hlen]; exact Nat.le_sub_one_of_lt hp)
    rw [List.take_append_drop] at this
    rw [if_pos hp, snapAt, this]
    cases parentSnap (snapsOf (cs.take (c - 1))) co.parent <;> rfl
  · rw [if_neg hp, parentSnap_out _ _ (by rw [snapsOf_length, hlen]; exact Nat.lt_of_lt_of_le (Nat.sub_one_lt hc) (Nat.le_of_not_lt hp))]

theorem getCommit_mem (cs : List (Commit K)) (c : Nat) (co : Commit K) (h : getCommit cs c = some co) : co ∈ cs :=
  List.mem_of_getElem? (getCommit_some h).2

theorem snapAt_none (cs : List (Commit K)) (c : Nat) (h0 : c ≠ 0) (h : getCommit cs c = none) :
    snapAt cs c = .error .badParent := by
  unfold getCommit at h
  rw [if_neg h0, List.getElem?_eq_none_iff] at h
  exact parentSnap_out _ _ (by rw [snapsOf_length]; exact Nat.lt_of_le_of_lt h (Nat.sub_one_lt h0))

theorem play_preserves (P : Snap K → Prop) (as : List (Action K))
    (hstep : ∀ a ∈ as, ∀ s s', playAction s a = .ok s' → P s → P s') (s s' : Snap K)
    (h : play s as = .ok s') (hs : P s) : P s' := by
  induction as generalizing s with
  | nil => simp only [play, Except.ok.injEq] at h; exact h ▸ hs
  | cons a as ih =>
    simp only [play] at h
    cases ha : playAction s a with
    | error e => simp [ha] at h
    | ok s1 =>
      simp only [ha] at h
      exact ih (fun a' ha' => hstep a' (List.mem_cons_of_mem _ ha')) s1 h
        (hstep a (List.mem_cons_self ..) s s1 ha hs)

theorem play_append (s : Snap K) (as bs : List (Action K)) :
    play s (as ++ bs) = match play s as with
      | .ok s' => play s' bs
      | .error e => .error e := by
  induction as generalizing s with
  | nil => simp [play]
  | cons a as ih =>
    simp only [List.cons_append, play]
    cases playAction s a with
    | error e => rfl
    | ok s1 => exact ih s1

/-- **induction along `Store.Snapshot`**: a property of snapshots that holds of the empty
    snapshot and is preserved by playing the actions of every commit of the store holds of every
    snapshot of the store -/
theorem snapAt_all (P : Snap K → Prop) (h0 : P Snap.empty) (cs : List (Commit K))
    (hplay : ∀ c ∈ cs, ∀ s s', play s c.acts = .ok s' → P s → P s')
    (c : Nat) (snap : Snap K) (h : snapAt cs c = .ok snap) : P snap := by
  induction c using Nat.strongRecOn generalizing snap with
  | ind c ih =>
    by_cases hc : c = 0
    · subst hc
      simp only [snapAt, parentSnap, if_true, Except.ok.injEq] at h
      exact h ▸ h0
    · cases hg : getCommit cs c with
      | none => rw [snapAt_none cs c hc hg] at h; cases h
      | some co =>
        rw [snapAt_unfold cs c co hg] at h
        split at h
        · rename_i hp
          cases hps : snapAt cs co.parent with
          | error e => simp [hps] at h
          | ok s =>
            simp only [hps] at h
            exact hplay co (getCommit_mem cs c co hg) s snap h (ih co.parent hp s hps)
        · cases h

theorem snapAt_all' (P : Snap K → Prop) (h0 : P Snap.empty) (cs : List (Commit K))
    (hact : ∀ c ∈ cs, ∀ a ∈ c.acts, ∀ s s', playAction s a = .ok s' → P s → P s')
    (c : Nat) (snap : Snap K) (h : snapAt cs c = .ok snap) : P snap :=
  snapAt_all P h0 cs (fun co hco => play_preserves P co.acts (hact co hco)) c snap h

theorem snapAt_le (cs : List (Commit K)) (t : Nat) (snap : Snap K) (h : snapAt cs t = .ok snap) :
    t ≤ cs.length := by
  refine Nat.le_of_not_lt fun hlt => ?_
  rw [snapAt, parentSnap_out _ _ (by rw [snapsOf_length]; exact hlt)] at h
  cases h

/-- where `Store.Snapshot` fails with `badParent` (a parent that is not older), the path just ends -/
theorem pathAt_unfold (cs : List (Commit K)) (c : Nat) (co : Commit K) (h : getCommit cs c = some co) :
    pathAt cs c = c :: (if co.parent < c then pathAt cs co.parent else []) := by
  obtain ⟨hc, hco⟩ := getCommit_some h
  have hlen := take_pred_length hco
  rw [pathAt, parentPath, if_neg hc, pathsOf_at hco, pathsOf_length, hlen, Nat.sub_add_cancel (Nat.pos_of_ne_zero hc)]
  show c :: parentPath (pathsOf (cs.take (c - 1))) co.parent = _
  congr 1
  by_cases hp : co.parent < c
  · have := parentPath_prefix (cs.take (c - 1)) (cs.drop (c - 1)) co.parent (by rw [hlen]; exact Nat.le_sub_one_of_lt hp)
    rw [List.take_append_drop] at this
    rw [if_pos hp, pathAt, this]
  · rw [if_neg hp, parentPath_out _ _ (by rw [pathsOf_length, hlen]; exact Nat.lt_of_lt_of_le (Nat.sub_one_lt hc) (Nat.le_of_not_lt hp))]

theorem pathAt_none (cs : List (Commit K)) (c : Nat) (h : getCommit cs c = none) : pathAt cs c = [] := by
  by_cases h0 : c = 0
  · rw [h0]; rfl
  · unfold getCommit at h
    rw [if_neg h0, List.getElem?_eq_none_iff] at h
    exact parentPath_out _ _ (by rw [pathsOf_length]; exact Nat.lt_of_le_of_lt h (Nat.sub_one_lt h0))

theorem mem_pathAt_le (cs : List (Commit K)) (t c : Nat) (h : c ∈ pathAt cs t) : t ≤ cs.length := by
  refine Nat.le_of_not_lt fun hlt => ?_
  rw [pathAt, parentPath_out _ _ (by rw [pathsOf_length]; exact hlt)] at h
  cases h

theorem pathActions_cons (cs : List (Commit K)) (c : Nat) (l : List Nat) (co : Commit K)
    (h : getCommit cs c = some co) : pathActions cs (c :: l) = pathActions cs l ++ co.acts := by
  unfold pathActions
  simp [List.reverse_cons, List.flatMap_append, h]

/-- **path replay**: the snapshot of a commit is the snapshot of any commit on its parent chain
    with the actions of the commits in between played on it, oldest first -/
theorem snapAt_replay (cs : List (Commit K)) (c : Nat) :
    ∀ anc, anc ∈ pathAt cs c → ∀ S, snapAt cs c = .ok S →
      ∃ B, snapAt cs anc = .ok B ∧
        play B (pathActions cs ((pathAt cs c).takeWhile (· != anc))) = .ok S := by
  induction c using Nat.strongRecOn with
  | ind c ih =>
    intro anc hanc S hS
    cases hg : getCommit cs c with
    | none => rw [pathAt_none cs c hg] at hanc; cases hanc
    | some co =>
      rw [pathAt_unfold cs c co hg] at hanc ⊢
      by_cases hca : c = anc
      · subst hca
        refine ⟨S, hS, ?_⟩
        simp [pathActions, play]
      · have hne : (c != anc) = true := by simpa using hca
        simp only [List.takeWhile_cons, hne, if_true]
        simp only [List.mem_cons] at hanc
        rcases hanc with h1 | h1
        · exact absurd h1.symm hca
        · rw [snapAt_unfold cs c co hg] at hS
          by_cases hp : co.parent < c
          · simp only [hp, if_true] at hS h1 ⊢
            cases hps : snapAt cs co.parent with
            | error e => simp [hps] at hS
            | ok S' =>
              simp only [hps] at hS
              obtain ⟨B, hB, hplay⟩ := ih co.parent hp anc h1 S' hps
              refine ⟨B, hB, ?_⟩
              rw [pathActions_cons cs c _ co hg, play_append, hplay]
              exact hS
          · simp only [hp, if_false] at h1
            cases h1

/-- the commits `PatchOfPath(base, baseID, commit)` plays: those on `commit`'s path before `baseID` -/
theorem pathRange_dropLast (cs : List (Commit K)) (c anc : Nat) (h : anc ∈ pathAt cs c) :
    (pathRange cs c anc).dropLast = (pathAt cs c).takeWhile (· != anc) := by
  unfold pathRange
  simp only []
  cases hf : (pathAt cs c).findIdx? (· == anc) with
  | none =>
    exfalso
    rw [List.findIdx?_eq_none_iff] at hf
    have := hf anc h
    simp at this
  | some i =>
    simp only []
    have hlt : i < (pathAt cs c).length := by
      have := List.findIdx?_eq_some_iff_getElem.mp hf
      exact this.1
    rw [List.take_succ_eq_append_getElem hlt, List.dropLast_concat, List.takeWhile_eq_take_findIdx_not,
      ← (List.findIdx?_eq_some_iff_findIdx_eq.mp hf).2]
    simp only [bne, Bool.not_not]

theorem commonAncestor_mem (a b : List Nat) (h : commonAncestor a b ≠ 0) :
    commonAncestor a b ∈ a ∧ commonAncestor a b ∈ b := by
  unfold commonAncestor at h ⊢
  cases hf : b.find? (a.contains ·) with
  | none => rw [hf] at h; exact absurd rfl h
  | some id =>
    simp only []
    have h1 := List.find?_some hf
    have h2 := List.mem_of_find?_eq_some hf
    exact ⟨by simpa using h1, h2⟩

/-- `Store.Snapshot(leaf)` with its caches (the in-memory LRU and the persisted `.snap.zng`
    files, both keyed by commit id): a hit is returned as is; otherwise the walk toward the
    root stops at the first ancestor with a cache entry, whose snapshot is COPIED and the
    later commits are replayed on the copy.  (`fuel` bounds the walk; ids decrease.) -/
def snapCached (cache : List (Nat × Snap K)) (cs : List (Commit K)) : Nat → Nat → Except Err (Snap K)
  | _, 0 => .ok Snap.empty
  | 0, _ + 1 => .error .badParent
  | fuel + 1, c + 1 =>
    match cache.find? (·.1 == c + 1) with
    | some (_, s) => .ok s
    | none =>
      match getCommit cs (c + 1) with
      | none => .error .badParent
      | some co =>
        if co.parent < c + 1 then
          match snapCached cache cs fuel co.parent with
          | .ok s => play s co.acts
          | .error e => .error e
        else .error .badParent

/-- **cache_correct**: if every cache entry is the fold of the commit chain it is keyed by,
    `Store.Snapshot` with the cache returns exactly the fold — for every commit, whatever
    subset of commits has entries -/
theorem snapCached_correct (cache : List (Nat × Snap K)) (cs : List (Commit K))
    (hc : ∀ e ∈ cache, snapAt cs e.1 = .ok e.2) (fuel c : Nat) (hf : c ≤ fuel) :
    snapCached cache cs fuel c = snapAt cs c := by
  fun_induction snapCached cache cs fuel c
  case case1 => rfl
  case case2 => cases hf
  case case3 fuel c k s hfind =>
    have hk : k = c + 1 := by simpa using List.find?_some hfind
    subst hk
    exact (hc _ (List.mem_of_find?_eq_some hfind)).symm
  case case4 fuel c _ hg => exact (snapAt_none cs (c + 1) (Nat.succ_ne_zero c) hg).symm
  case case5 fuel c _ co hg hp _ hs ih | case6 fuel c _ co hg hp _ hs ih =>
    rw [snapAt_unfold cs (c + 1) co hg, if_pos hp,
      ← ih (Nat.le_trans (Nat.le_of_lt_succ hp) (Nat.le_of_succ_le_succ hf)), hs]
  case case7 fuel c _ co hg hp => rw [snapAt_unfold cs (c + 1) co hg, if_neg hp]

end Zed.Lake

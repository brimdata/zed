import Zed.Model.VecExpr
/-! Agreement of the vector expression evaluators with the sequential semantics on null-free
    operands (C09). -/
namespace Zed.VExpr

/-- every column has the batch length. -/
def Batch.WF (b : Batch) : Prop := ∀ p ∈ b.cols, p.2.len = b.n

def Col.nullFree : Col → Bool
  | .int xs => xs.all Option.isSome
  | .str xs => xs.all Option.isSome
  | .bool xs => xs.all Option.isSome
  | .other _ => true

/-- every column the expression reads is null-free. -/
def NullFree (b : Batch) : Expr → Bool
  | .field name => match b.col name with | some c => c.nullFree | none => true
  | .litInt _ => true
  | .litStr _ => true
  | .arith _ x y => NullFree b x && NullFree b y
  | .cmp _ x y => NullFree b x && NullFree b y
  | .and x y => NullFree b x && NullFree b y
  | .or x y => NullFree b x && NullFree b y
  | .not x => NullFree b x

def XV.isVal : XV → Bool
  | .int _ _ _ => true
  | .str _ _ _ => true
  | .bool _ _ _ => true
  | _ => false

def XV.nulls : XV → List Bool
  | .int _ _ n => n
  | .str _ _ n => n
  | .bool _ _ n => n
  | _ => []

/-- `v` is a value vector whose slot `k` stores `s` (whatever the null bit says). -/
def XV.reads : XV → Nat → SV → Prop
  | .int _ vals _, k, s => ∃ a, vals[k]? = some a ∧ s = .int a
  | .str _ vals _, k, s => ∃ a, vals[k]? = some a ∧ s = .str a
  | .bool _ vals _, k, s => ∃ a, vals[k]? = some a ∧ s = .bool a
  | _, _, _ => False

theorem at_int (f : Form) (vals : List Int) (nulls : List Bool) (k : Nat)
    (hn : nulls.getD k false = false) (hk : k < vals.length) :
    (XV.int f vals nulls).at k = .int vals[k] := by
  simp only [XV.at, hn, List.getElem?_eq_getElem hk]; rfl

theorem at_str (f : Form) (vals : List Bytes) (nulls : List Bool) (k : Nat)
    (hn : nulls.getD k false = false) (hk : k < vals.length) :
    (XV.str f vals nulls).at k = .str vals[k] := by
  simp only [XV.at, hn, List.getElem?_eq_getElem hk]; rfl

theorem at_bool (f : Form) (vals : List Bool) (nulls : List Bool) (k : Nat)
    (hn : nulls.getD k false = false) (hk : k < vals.length) :
    (XV.bool f vals nulls).at k = .bool vals[k] := by
  simp only [XV.at, hn, List.getElem?_eq_getElem hk]; rfl

/-- `v` agrees with the sequential evaluator on `e`: one slot and one null bit per row, no null
    bit set, every slot stores the sequential value. -/
structure Good (b : Batch) (e : Expr) (v : XV) : Prop where
  len : v.len = b.n
  nlen : v.nulls.length = b.n
  clear : ∀ k, v.nulls.getD k false = false
  reads : ∀ k, k < b.n → v.reads k (evalS b k e)

theorem Good.at_eq {b : Batch} {e : Expr} {v : XV} (g : Good b e v) (k : Nat) (hk : k < b.n) :
    v.at k = evalS b k e := by
  have hc := g.clear k
  have h := g.reads k hk
  cases v with
  | int f vals nulls =>
    obtain ⟨a, ha, ea⟩ := h
    obtain ⟨hk', rfl⟩ := List.getElem?_eq_some_iff.mp ha
    exact ea ▸ at_int f vals nulls k hc hk'
  | str f vals nulls =>
    obtain ⟨a, ha, ea⟩ := h
    obtain ⟨hk', rfl⟩ := List.getElem?_eq_some_iff.mp ha
    exact ea ▸ at_str f vals nulls k hc hk'
  | bool f vals nulls =>
    obtain ⟨a, ha, ea⟩ := h
    obtain ⟨hk', rfl⟩ := List.getElem?_eq_some_iff.mp ha
    exact ea ▸ at_bool f vals nulls k hc hk'
  | err _ _ | other _ => cases h

theorem noNulls_getD (n k : Nat) : (noNulls n).getD k false = false := by
  simp only [noNulls, List.getD_eq_getElem?_getD, List.getElem?_replicate]
  split <;> rfl

theorem Batch.col_mem {b : Batch} {name : Bytes} {c : Col} (h : b.col name = some c) :
    ∃ p ∈ b.cols, p.2 = c := by
  unfold Batch.col at h
  cases hf : b.cols.find? (·.1 == name) with
  | none => simp [hf] at h
  | some p =>
    simp only [hf, Option.map_some, Option.some.injEq] at h
    exact ⟨p, List.mem_of_find?_eq_some hf, h⟩

theorem exists_map_some {α : Type} (xs : List (Option α)) (h : xs.all Option.isSome = true) :
    ∃ ys : List α, xs = ys.map some := by
  induction xs with
  | nil => exact ⟨[], rfl⟩
  | cons o xs ih =>
    simp only [List.all_cons, Bool.and_eq_true] at h
    obtain ⟨a, rfl⟩ := Option.isSome_iff_exists.mp h.1
    obtain ⟨ys, rfl⟩ := ih h.2
    exact ⟨a :: ys, rfl⟩

theorem formOf_const {α : Type} [BEq α] {nn : List α} (h : formOf nn = .const) :
    allSame nn = true := by
  revert h
  -- only the second leaf of `formOf` answers `.const`; it tested `allSame`
  fun_cases formOf nn <;> intro h <;> cases h
  case case2 _ hs => exact hs

theorem map_head_of_allSame {α : Type} [BEq α] [LawfulBEq α] {ys : List α} (h : allSame ys = true)
    (d : α) : ys.map (fun _ => ys.headD d) = ys := by
  cases ys with
  | nil => rfl
  | cons y ys =>
    simp only [allSame, List.all_eq_true, beq_iff_eq] at h
    simp only [List.headD_cons, List.map_cons, List.cons.injEq, true_and]
    exact List.map_congr_left (fun x hx => (h x hx).symm) |>.trans (List.map_id' ys)

/-- the left side is spelt as `loadCol` unfolds on `.int (ys.map some)` / `.str (ys.map some)`: it applies by `exact` -/
theorem loadCol_arms {α : Type} [BEq α] [LawfulBEq α] (ys : List α) (d m : α) (mk : Form → List α → XV) :
    (match formOf ys with
      | .flat => mk .flat ((ys.map some).map (·.getD d))
      | .dict => mk .dict ((ys.map some).map (·.getD m))
      | .const => mk .const ((ys.map some).map fun _ => ys.headD d)) = mk (formOf ys) ys := by
  simp only [List.map_map, Function.comp_def, Option.getD_some, List.map_id']
  cases h : formOf ys <;> simp only []
  rw [map_head_of_allSame (formOf_const h)]

theorem filterMap_id_map_some {α : Type} (ys : List α) : (ys.map some).filterMap id = ys := by
  simp only [List.filterMap_map, Function.comp_def, id, List.filterMap_some]

theorem map_isNone_map_some {α : Type} (ys : List α) :
    (ys.map some).map Option.isNone = noNulls ys.length := by
  simp only [List.map_map, Function.comp_def, Option.isNone_some, List.map_const', noNulls]

theorem loadCol_int (ys : List Int) :
    loadCol (.int (ys.map some)) = .int (formOf ys) ys (noNulls ys.length) := by
  simp only [loadCol, filterMap_id_map_some, map_isNone_map_some]
  exact loadCol_arms ys 0 (minInt ys) fun f v => .int f v (noNulls ys.length)

theorem loadCol_str (ys : List Bytes) :
    loadCol (.str (ys.map some)) = .str (formOf ys) ys (noNulls ys.length) := by
  simp only [loadCol, filterMap_id_map_some, map_isNone_map_some]
  exact loadCol_arms ys [] (minBytes ys) fun f v => .str f v (noNulls ys.length)

theorem loadCol_bool (ys : List Bool) :
    loadCol (.bool (ys.map some)) = .bool .flat ys (noNulls ys.length) := by
  simp only [loadCol, List.map_map, Function.comp_def, Option.isNone_some, Option.getD_some,
    List.map_id', List.map_const', noNulls]

/-- a null-free column loads to a vector whose slots read the column's values, whatever
    encoding (plain / dictionary / const) the statistics selected. -/
theorem loadCol_good (b : Batch) (name : Bytes) (c : Col) (hc : b.col name = some c)
    (hwf : b.WF) (hnf : c.nullFree = true) (hv : (loadCol c).isVal = true) :
    Good b (.field name) (loadCol c) := by
  have hlen : c.len = b.n := by
    obtain ⟨p, hp, rfl⟩ := Batch.col_mem hc
    exact hwf p hp
  have hS : ∀ k, evalS b k (.field name) = c.at k := fun k => by simp only [evalS, hc]
  cases c with
  | other n => cases hv
  | int xs | str xs | bool xs =>
    obtain ⟨ys, rfl⟩ := exists_map_some xs hnf
    simp only [loadCol_int, loadCol_str, loadCol_bool]
    simp only [Col.len, List.length_map] at hlen
    refine ⟨hlen, List.length_replicate.trans hlen, noNulls_getD _, fun k hk => ?_⟩
    obtain ⟨a, ha⟩ : ∃ a, ys[k]? = some a := ⟨_, List.getElem?_eq_getElem (hlen ▸ hk)⟩
    exact ⟨a, ha, by simp only [hS, Col.at, List.getElem?_map, ha, Option.map_some]⟩

/-- an expression that reads no field has the same value at compile time and on every row. -/
theorem evalS_closed (b : Batch) (k : Nat) (e : Expr) (h : e.usesField = false) :
    evalS b k e = evalS emptyBatch 0 e := by
  induction e with
  | field _ => cases h
  | litInt _ => rfl
  | litStr _ => rfl
  | not x ih => rw [evalS, ih h, ← evalS]
  | arith _ x y ihx ihy | cmp _ x y ihx ihy | and x y ihx ihy | or x y ihx ihy =>
    have h := Bool.or_eq_false_iff.mp h
    rw [evalS, ihx h.1, ihy h.2, ← evalS]

section
variable {b : Batch} {k : Nat} {x y : Expr}

theorem evalS_arith_int {op : ArOp} {i j : Int} (hx : evalS b k x = .int i) (hy : evalS b k y = .int j)
    (hz : ((op == .div || op == .mod) && j == 0) = false) :
    evalS b k (.arith op x y) = .int (arInt op i j) := by
  simp [evalS, hx, hy, toIntS, hz]

theorem evalS_add_str {s t : Bytes} (hx : evalS b k x = .str s) (hy : evalS b k y = .str t) :
    evalS b k (.arith .add x y) = .str (s ++ t) := by
  simp [evalS, hx, hy, toIntS, toStrS]

/-- both compilations of a comparison (constant right operand, or general) agree on two
    integers and on two strings. -/
theorem evalS_cmp {op : CmpOp} :
    (∀ i j, evalS b k x = .int i → evalS b k y = .int j →
      evalS b k (.cmp op x y) = .bool (cmpInt op i j)) ∧
    (∀ s t, evalS b k x = .str s → evalS b k y = .str t →
      evalS b k (.cmp op x y) = .bool (cmpBytes op s t)) := by
  cases huf : y.usesField with
  | true => constructor <;> intro _ _ hx hy <;> simp [evalS, huf, hx, hy, SV.isNull]
  | false =>
    constructor <;> intro _ _ hx hy <;>
      simp [evalS, huf, ← evalS_closed b k y huf, hx, hy, SV.isNull]

theorem evalS_and_bool {p q : Bool} (hx : evalS b k x = .bool p) (hy : evalS b k y = .bool q) :
    evalS b k (.and x y) = .bool (p && q) := by
  cases p <;> simp [evalS, hx, hy, boolS]

theorem evalS_or_bool {p q : Bool} (hx : evalS b k x = .bool p) (hy : evalS b k y = .bool q) :
    evalS b k (.or x y) = .bool (p || q) := by
  cases p <;> simp [evalS, hx, hy, boolS]

theorem evalS_not_bool {p : Bool} (hx : evalS b k x = .bool p) : evalS b k (.not x) = .bool (!p) := by
  simp [evalS, hx, boolS]

end

theorem ok_bind {α β : Type} {x : Except String α} {f : α → Except String β} {v : β}
    (h : (x >>= f) = .ok v) : ∃ a, x = .ok a ∧ f a = .ok v := by
  cases x with
  | error e => cases h
  | ok a => exact ⟨a, rfl, h⟩

theorem length_zipWith_of {α β γ : Type} {f : α → β → γ} {l : List α} {r : List β} {n : Nat}
    (hl : l.length = n) (hr : r.length = n) : (List.zipWith f l r).length = n := by
  rw [List.length_zipWith, hl, hr, Nat.min_self]

theorem zip_reads {α β γ : Type} {f : α → β → γ} {lv : List α} {rv : List β} {k : Nat}
    {A : α → Prop} {C : β → Prop} {P : γ → Prop}
    (hl : ∃ a, lv[k]? = some a ∧ A a) (hr : ∃ c, rv[k]? = some c ∧ C c)
    (h : ∀ a c, lv[k]? = some a → rv[k]? = some c → A a → C c → P (f a c)) :
    ∃ g, (List.zipWith f lv rv)[k]? = some g ∧ P g := by
  obtain ⟨a, ha, ea⟩ := hl
  obtain ⟨c, hc, ec⟩ := hr
  exact ⟨_, by rw [List.getElem?_zipWith, ha, hc], h a c ha hc ea ec⟩

theorem evalArith_good (b : Batch) (op : ArOp) (x y : Expr) (l r v : XV)
    (hl : l.isVal = true → Good b x l) (hr : r.isVal = true → Good b y r)
    (h : evalArith op l r = .ok v) (hv : v.isVal = true) : Good b (.arith op x y) v := by
  revert h
  -- leaves: int·int panics, int·int, str·str with `+`, str·str otherwise, anything else
  fun_cases evalArith op l r <;> intro h <;> cases h
  case case2 f lv _ g rv _ hz =>
    have gl := hl rfl
    have gr := hr rfl
    refine ⟨length_zipWith_of gl.len gr.len, List.length_replicate.trans gl.len, noNulls_getD _, fun k hk =>
      zip_reads (gl.reads k hk) (gr.reads k hk) fun i j _ hj ei ej => evalS_arith_int ei ej ?_⟩
    -- no divisor is zero, or the evaluator would have panicked
    cases hop : (op == .div || op == .mod) with
    | false => rfl
    | true =>
      cases hj0 : j == 0 with
      | false => rfl
      | true =>
        have hany : rv.any (· == 0) = true := List.any_eq_true.mpr ⟨j, List.mem_of_getElem? hj, hj0⟩
        have hlv : lv.length = b.n := gl.len
        exact absurd (by rw [hop, hany, hlv]; exact decide_eq_true (Nat.zero_lt_of_lt hk)) hz
  case case3 f lv _ g rv _ hadd =>
    have gl := hl rfl
    have gr := hr rfl
    cases (beq_iff_eq.mp hadd : op = .add)
    exact ⟨length_zipWith_of gl.len gr.len, List.length_replicate.trans gl.len, noNulls_getD _, fun k hk =>
      zip_reads (gl.reads k hk) (gr.reads k hk) fun _ _ _ _ es et => evalS_add_str es et⟩
  case case4 => cases hv
  case case5 => cases hv

theorem evalCmp_good (b : Batch) (op : CmpOp) (x y : Expr) (l r v : XV)
    (hl : l.isVal = true → Good b x l) (hr : r.isVal = true → Good b y r)
    (h : evalCmp op l r = .ok v) (hv : v.isVal = true) : Good b (.cmp op x y) v := by
  revert h
  fun_cases evalCmp op l r <;> intro h <;> cases h
  case case1 =>
    have gl := hl rfl
    have gr := hr rfl
    exact ⟨length_zipWith_of gl.len gr.len, List.length_replicate.trans gl.len, noNulls_getD _, fun k hk =>
      zip_reads (gl.reads k hk) (gr.reads k hk) fun _ _ _ _ ei ej => evalS_cmp.1 _ _ ei ej⟩
  case case2 =>
    have gl := hl rfl
    have gr := hr rfl
    exact ⟨length_zipWith_of gl.len gr.len, List.length_replicate.trans gl.len, noNulls_getD _, fun k hk =>
      zip_reads (gl.reads k hk) (gr.reads k hk) fun _ _ _ _ es et => evalS_cmp.2 _ _ es et⟩
  case case3 => cases hv

theorem asBool_ok {n : Nat} {l : XV} {v nulls : List Bool} (h : asBool n l = .ok (v, nulls)) :
    l = .bool .flat v nulls := by
  revert h
  fun_cases asBool n l <;> intro h <;> cases h
  rfl

theorem asBool_match {n : Nat} {l v : XV} {F : List Bool → List Bool → Except String XV}
    (h : (match asBool n l with
      | .error e => pure e
      | .ok (a, nulls) => F a nulls) = .ok v) (hv : v.isVal = true) :
    ∃ a nulls, l = .bool .flat a nulls ∧ F a nulls = .ok v := by
  cases hab : asBool n l with
  | error e =>
    rw [hab] at h; cases h
    revert hab
    fun_cases asBool n l <;> intro hab <;> cases hab
    cases hv
  | ok p => rw [hab] at h; exact ⟨p.1, p.2, asBool_ok hab, h⟩

theorem logic_good {b : Batch} {x y e : Expr} {f : Bool → Bool → Bool} {lv ln rv rn : List Bool}
    (gl : Good b x (.bool .flat lv ln)) (gr : Good b y (.bool .flat rv rn))
    (hS : ∀ k p q, evalS b k x = .bool p → evalS b k y = .bool q → evalS b k e = .bool (f p q)) :
    Good b e (.bool .flat (List.zipWith f lv rv) ln) :=
  ⟨length_zipWith_of gl.len gr.len, gl.nlen, gl.clear, fun k hk =>
    zip_reads (gl.reads k hk) (gr.reads k hk) fun p q _ _ hx hy => hS k p q hx hy⟩

/-- **Agreement of the two expression evaluators** on null-free columns, for every vector form
    (flat, dict, const) the column statistics select. -/
theorem evalX_good (b : Batch) (hwf : b.WF) (e : Expr) (v : XV) (hnf : NullFree b e = true)
    (h : evalX b e = .ok v) (hv : v.isVal = true) : Good b e v := by
  induction e generalizing v with
  | field name =>
    simp only [evalX] at h
    cases hc : b.col name with
    | none => rw [hc] at h; cases h; cases hv
    | some c =>
      simp only [hc] at h
      cases h
      simp only [NullFree, hc] at hnf
      exact loadCol_good b name c hc hwf hnf hv
  | litInt i =>
    cases h
    exact ⟨List.length_replicate, List.length_replicate, noNulls_getD _, fun k hk => ⟨i, by simp [hk], rfl⟩⟩
  | litStr s =>
    cases h
    exact ⟨List.length_replicate, List.length_replicate, noNulls_getD _, fun k hk => ⟨s, by simp [hk], rfl⟩⟩
  | arith op x y ihx ihy =>
    simp only [NullFree, Bool.and_eq_true] at hnf
    simp only [evalX] at h
    obtain ⟨l, hl, h⟩ := ok_bind h
    obtain ⟨r, hr, h⟩ := ok_bind h
    exact evalArith_good b op x y l r v (ihx l hnf.1 hl) (ihy r hnf.2 hr) h hv
  | cmp op x y ihx ihy =>
    simp only [NullFree, Bool.and_eq_true] at hnf
    simp only [evalX] at h
    obtain ⟨l, hl, h⟩ := ok_bind h
    obtain ⟨r, hr, h⟩ := ok_bind h
    exact evalCmp_good b op x y l r v (ihx l hnf.1 hl) (ihy r hnf.2 hr) h hv
  | and x y ihx ihy =>
    simp only [NullFree, Bool.and_eq_true] at hnf
    simp only [evalX] at h
    obtain ⟨l, hl, h⟩ := ok_bind h
    obtain ⟨lv, ln, rfl, h⟩ := asBool_match h hv
    obtain ⟨r, hr, h⟩ := ok_bind h
    obtain ⟨rv, rn, rfl, h⟩ := asBool_match h hv
    cases h
    exact logic_good (ihx _ hnf.1 hl rfl) (ihy _ hnf.2 hr rfl) fun _ _ _ => evalS_and_bool
  | or x y ihx ihy =>
    simp only [NullFree, Bool.and_eq_true] at hnf
    simp only [evalX] at h
    obtain ⟨l, hl, h⟩ := ok_bind h
    obtain ⟨lv, ln, rfl, h⟩ := asBool_match h hv
    obtain ⟨r, hr, h⟩ := ok_bind h
    obtain ⟨rv, rn, rfl, h⟩ := asBool_match h hv
    cases h
    exact logic_good (ihx _ hnf.1 hl rfl) (ihy _ hnf.2 hr rfl) fun _ _ _ => evalS_or_bool
  | not x ihx =>
    simp only [NullFree] at hnf
    simp only [evalX] at h
    obtain ⟨l, hl, h⟩ := ok_bind h
    obtain ⟨lv, ln, rfl, h⟩ := asBool_match h hv
    cases h
    have gl := ihx _ hnf hl rfl
    refine ⟨by simpa [XV.len] using gl.len, gl.nlen, gl.clear, fun k hk => ?_⟩
    obtain ⟨p, hp, ep⟩ := gl.reads k hk
    exact ⟨_, by rw [List.getElem?_map, hp]; rfl, evalS_not_bool ep⟩

def Op.plain : Op → Bool
  | .head _ => true
  | .tail _ => true
  | _ => false

/-- head and tail only move the view: whatever the state, the vector pipeline emits exactly the
    rows the sequential one does. -/
theorem runV_plain (rest : List Op) (s : VState) (h : rest.all Op.plain = true) :
    runV rest s = .ok (runS s.batch rest s.slots) := by
  induction rest generalizing s with
  | nil => rfl
  | cons op rest ih =>
    have h := Bool.and_eq_true_iff.mp (List.all_cons ▸ h)
    cases op with
    | filter _ => cases h.1
    | yieldE _ => cases h.1
    | head n =>
      rw [runV, runS, ih _ h.2]
      congr 2
      show (if n ≤ s.slots.length then some (s.slots.take n) else s.view).getD _ = s.slots.take n
      by_cases hn : n ≤ s.slots.length
      · rw [if_pos hn]; rfl
      · rw [if_neg hn]
        exact (List.take_of_length_le (Nat.le_of_not_le hn)).symm
    | tail n =>
      rw [runV, runS, ih _ h.2]
      congr 2
      show (if n < s.slots.length then some (s.slots.drop (s.slots.length - n)) else s.view).getD _
        = s.slots.drop (s.slots.length - n)
      by_cases hn : n < s.slots.length
      · rw [if_pos hn]; rfl
      · rw [if_neg hn, Nat.sub_eq_zero_of_le (Nat.le_of_not_lt hn)]; rfl

theorem runS_nil (b : Batch) (rest : List Op) : runS b rest [] = [] := by
  induction rest with
  | nil => rfl
  | cons op rest ih => cases op <;> simp [runS, ih]

/-- the filter mask reads true exactly where the sequential predicate is `true`. -/
theorem mask_agree (b : Batch) (e : Expr) (v : XV) (g : Good b e v) (k : Nat) (hk : k < b.n) :
    maskAt v k = (evalS b k e == .bool true) := by
  have hr := g.reads k hk
  cases v with
  | int _ _ _ | str _ _ _ => obtain ⟨a, -, ea⟩ := hr; rw [ea]; rfl
  | bool _ vals _ =>
    obtain ⟨a, ha, ea⟩ := hr
    rw [ea, maskAt, List.getD_eq_getElem?_getD, ha]
    cases a <;> rfl
  | err _ _ | other _ => cases hr

end Zed.VExpr

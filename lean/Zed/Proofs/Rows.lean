import Zed.Proofs.CompareValTrans
import Zed.Proofs.CompareValSwap
import Zed.Proofs.FastPath
import Zed.Proofs.SortOn
import Zed.Model.MergeOp
namespace Zed
open Zed.Ord List

theorem pairOK_of_mixGuard (m : Bool) (a b : Val) (ha : mixGuard m a = true) (hb : mixGuard m b = true) :
    PairOK a b := by
  unfold PairOK
  unfold mixGuard at ha hb
  cases hx : a.num? <;> cases hy : b.num? <;> simp only [hx, hy] at ha hb ⊢ <;> try trivial
  intro hf
  cases m
  · simp at ha hb; rcases hf with h | h <;> simp_all
  · simp at ha hb; exact ⟨ha, hb⟩

theorem cmpKeys_cons (nm : Bool) (d : Bool) (ds : List Bool) (x y : Val) (xs ys : List Val) :
    cmpKeys nm (d :: ds) (x :: xs) (y :: ys) =
      (if d then cmpVal nm y x else cmpVal nm x y).then (cmpKeys nm ds xs ys) := by
  simp only [cmpKeys]
  cases (if d = true then cmpVal nm y x else cmpVal nm x y) <;> simp [Ordering.then]

theorem cmpKeys_swap (nm : Bool) : (dirs : List Bool) → (xs ys : List Val) →
    cmpKeys nm dirs ys xs = (cmpKeys nm dirs xs ys).swap
  | [], _, _ => by simp [cmpKeys]
  | _ :: _, [], _ => by simp [cmpKeys]
  | _ :: _, _ :: _, [] => by simp [cmpKeys]
  | d :: ds, x :: xs, y :: ys => by
    rw [cmpKeys_cons, cmpKeys_cons, Ordering.swap_then, cmpKeys_swap nm ds xs ys]
    cases d
    · simp only [Bool.false_eq_true, if_false]; rw [cmpVal_swap nm x y]
    · simp only [if_true]; rw [cmpVal_swap nm y x]

theorem cmpKeys_refl (nm : Bool) : (dirs : List Bool) → (xs : List Val) → cmpKeys nm dirs xs xs = .eq :=
  fun dirs xs => eq_of_eq_swap (cmpKeys_swap nm dirs xs xs)

theorem compat_mixGuard (m : Bool) : Compat fun v => v.ok = true ∧ mixGuard m v = true :=
  fun a ha => ⟨ha.1, fun b hb => pairOK_of_mixGuard m a b ha.2 hb.2⟩

theorem keysPre (nm : Bool) {S : Val → Prop} (hS : Compat S) : (dirs : List Bool) →
    Pre (fun l : List Val => l.length = dirs.length ∧ ∀ k ∈ l, S k) (cmpKeys nm dirs)
  | [] => Pre.const.congr fun _ _ _ _ => by simp [cmpKeys]
  | d :: ds => by
    have hv : Pre S fun x y => if d then cmpVal nm y x else cmpVal nm x y := by
      cases d
      · exact valPre nm hS
      · exact (valPre nm hS).flip
    exact (hv.prod (keysPre nm hS ds)).image (fun p => p.1 :: p.2)
      (fun l hl => match l, hl with | x :: xs, _ => ⟨(x, xs), rfl⟩)
      (fun p hp => ⟨hp.2 p.1 (.head _), Nat.succ.inj hp.1, fun k hk => hp.2 k (.tail _ hk)⟩)
      fun p q _ _ => cmpKeys_cons nm d ds p.1 q.1 p.2 q.2

/-- `le` of the stable sort: `¬ less b a` -/
def leRow (nm : Bool) (dirs : List Bool) (a b : Row) : Bool := !lessSlow nm dirs b a

theorem leRow_iff (nm : Bool) (dirs : List Bool) (a b : Row) : leRow nm dirs a b = true ↔ cmpRow nm dirs a b ≠ .gt :=
  not_lt_iff_of_swap (cmpKeys_swap nm dirs a.keys b.keys)

/-- the merge's `Compare(a, b) <= 0` is the sort's `¬ less b a` -/
theorem leRowM_eq_leRow (nm : Bool) (dirs : List Bool) : leRowM nm dirs = leRow nm dirs := by
  funext a b
  rw [Bool.eq_iff_iff, leRow_iff, leRowM]
  exact bne_iff_ne

theorem leRow_total (nm : Bool) (dirs : List Bool) (a b : Row) : (leRow nm dirs a b || leRow nm dirs b a) = true := by
  rw [Bool.or_eq_true, leRow_iff, leRow_iff]
  exact le_total_of_swap (cmpKeys_swap nm dirs a.keys b.keys)

theorem leRow_refl (nm : Bool) (dirs : List Bool) (a : Row) : leRow nm dirs a a = true := by
  simpa using leRow_total nm dirs a a

theorem leRow_trans (nm : Bool) (dirs : List Bool) (m : Bool) (a b c : Row)
    (ha : a.okFor dirs m) (hb : b.okFor dirs m) (hc : c.okFor dirs m) :
    leRow nm dirs a b = true → leRow nm dirs b c = true → leRow nm dirs a c = true := by
  rw [leRow_iff, leRow_iff, leRow_iff]
  exact ((keysPre nm (compat_mixGuard m) dirs).tr _ _ _ ha hb hc).le

def batchRows (batches : List (List (Row × Nat))) : List Row := (batches.map (map (·.1))).flatten

theorem formRuns_flatten (limit : Nat) : (batches : List (List (Row × Nat))) → (out : List Row) → (nb : Nat) →
    (runs : List (List Row)) →
    (formRuns limit batches out nb runs).1.flatten ++ (formRuns limit batches out nb runs).2 =
      runs.flatten ++ out ++ batchRows batches
  | [], out, nb, runs => by simp [formRuns, batchRows]
  | b :: rest, out, nb, runs => by
    simp only [formRuns]
    split
    · rw [formRuns_flatten limit rest]; simp [batchRows, append_assoc]
    · rw [formRuns_flatten limit rest]; simp [batchRows, append_assoc]

theorem sortRows_ok_eq (nm : Bool) (dirs : List Bool) (m : Bool) (rows : List Row)
    (h : ∀ r ∈ rows, r.okFor dirs m) : sortRows nm dirs rows = mergeSort rows (leRow nm dirs) :=
  -- `sortRowsRef` is `mergeSort` by `¬ lessSlow b a`, which is `leRow` by definition
  (sortRows_eq_ref nm dirs rows (fun r hr k hk => (((h r hr).2) k hk).1)).trans rfl

theorem sortSpill_eq (nm : Bool) (dirs : List Bool) (m : Bool) (chunks : List (List Row))
    (h : ∀ c ∈ chunks, ∀ r ∈ c, r.okFor dirs m) :
    sortSpill nm dirs chunks = sortRows nm dirs chunks.flatten := by
  have hall : ∀ r ∈ chunks.flatten, r.okFor dirs m := by
    intro r hr; obtain ⟨c, hc, hrc⟩ := mem_flatten.mp hr; exact h c hc r hrc
  rw [sortRows_ok_eq nm dirs m _ hall]
  unfold sortSpill
  have e : chunks.map (sortRows nm dirs) = chunks.map (fun c => mergeSort c (leRow nm dirs)) :=
    map_congr_left (fun c hc => sortRows_ok_eq nm dirs m c (h c hc))
  rw [e]
  exact spill_on (fun r => r.okFor dirs m) (leRow nm dirs)
    (fun a b c ha hb hc => leRow_trans nm dirs m a b c ha hb hc)
    (fun a b _ _ => leRow_total nm dirs a b) chunks h

theorem sortOp_eq (nf rev : Bool) (dirs : List Bool) (m : Bool) (limit : Nat) (batches : List (List (Row × Nat)))
    (h : ∀ r ∈ batchRows batches, r.okFor (sortConfig nf rev dirs).2 m) :
    sortOp nf rev dirs limit batches = sortRows (sortConfig nf rev dirs).1 (sortConfig nf rev dirs).2 (batchRows batches) := by
  unfold sortOp
  generalize sortConfig nf rev dirs = cfg at *
  obtain ⟨nm, ds⟩ := cfg
  simp only
  have hf := formRuns_flatten limit batches [] 0 []
  simp only [flatten_nil, nil_append] at hf
  generalize formRuns limit batches [] 0 [] = r at *
  obtain ⟨runs, out⟩ := r
  simp only at hf ⊢
  cases runs with
  | nil => simp only [flatten_nil, nil_append] at hf; rw [hf]
  | cons r0 rs =>
    simp only
    split
    · rename_i he
      have : out = [] := by simpa using he
      subst this
      rw [append_nil] at hf
      rw [← hf]
      exact sortSpill_eq nm ds m _ (fun c hc r hr => h r (by rw [← hf]; exact mem_flatten.mpr ⟨c, hc, hr⟩))
    · have hf' : ((r0 :: rs) ++ [out]).flatten = batchRows batches := by
        rw [flatten_append]; simpa using hf
      rw [← hf']
      exact sortSpill_eq nm ds m _ (fun c hc r hr => h r (by rw [← hf']; exact mem_flatten.mpr ⟨c, hc, hr⟩))

end Zed

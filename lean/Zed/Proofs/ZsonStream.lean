import Zed.Proofs.ZsonNamedTop
/-!
  C02 — streams: the coupling invariant (what the formatter has bound, the analyzer binds alike) carried over
  a sequence of values, for per-value and per-stream typedef scope and any `persist` predicate.
-/
namespace Zed.Zson
open Generated

/-- the formatter binds `n` to `t` (in the typedefs of the current scope, or permanently). -/
def Bound (fst : FState) (n : Name) (t : Ty) : Prop :=
  assoc n fst.typedefs = some t ∨ ∃ p, fst.permanent = some p ∧ assoc n p = some t

/-- the coupling invariant, for a discipline `Q` of which type a name may be bound to: whatever the
    formatter has bound obeys `Q`, and the analyzer's table binds it to the same type. -/
def CoupledQ (Q : Name → Ty → Prop) (fst : FState) (a : AState) : Prop :=
  ∀ n t, Bound fst n t → Q n t ∧ alookup n a.names = some t

theorem coupledQ_reset {Q : Name → Ty → Prop} {fst : FState} {a : AState} (h : CoupledQ Q fst a) :
    CoupledQ Q fst.resetTypedefs a := by
  intro n t hb
  apply h n t
  rcases hb with hb | hb
  · simp [FState.resetTypedefs, assoc] at hb
  · exact Or.inr hb

theorem coupledQ_init (Q : Name → Ty → Prop) (persist : Name → Bool) (perm : Bool) (a : AState) :
    CoupledQ Q { typedefs := [], permanent := if perm then some [] else none, persist := persist } a := by
  intro n t hb
  rcases hb with h | ⟨p, hp, h⟩
  · simp [assoc] at h
  · cases perm <;> simp at hp
    subst hp; simp [assoc] at h

theorem bound_saveType {fst : FState} {n m : Name} {t t'' : Ty} (h : Bound (fst.saveType n t) m t'') :
    (m = n ∧ t'' = t) ∨ Bound fst m t'' := by
  have hcons {l : List (Name × Ty)} (h : assoc m ((n, t) :: l) = some t'') :
      (m = n ∧ t'' = t) ∨ assoc m l = some t'' := by
    by_cases hmn : n = m
    · exact .inl ⟨hmn.symm, by simpa [assoc, hmn] using h.symm⟩
    · exact .inr (by simpa [assoc, hmn] using h)
  rcases h with h | ⟨p, hp, h⟩
  · exact (hcons h).imp_right .inl
  · simp only [FState.saveType] at hp
    cases hperm : fst.permanent with
    | none => simp [hperm] at hp
    | some p0 =>
      cases hps : fst.persist n <;>
        simp only [hperm, hps, Bool.false_eq_true, if_false, if_true, Option.some.injEq] at hp <;> subst hp
      · exact .inr (.inr ⟨p0, hperm, h⟩)
      · exact (hcons h).imp_right fun h' => .inr ⟨p0, hperm, h'⟩

theorem coupledQ_save {Q : Name → Ty → Prop} {fst : FState} {a : AState} {n : Name} {t : Ty}
    (h : CoupledQ Q fst a) (hnew : ∀ t', ¬ Bound fst n t') (hQ : Q n t) :
    CoupledQ Q (fst.saveType n t) (aPush a n t) := by
  intro m t'' hb
  rcases bound_saveType hb with ⟨rfl, rfl⟩ | hb'
  · exact ⟨hQ, by simp [aPush, alookup]⟩
  · have hmn : n ≠ m := fun e => hnew t'' (e ▸ hb')
    obtain ⟨hx, hy⟩ := h m t'' hb'
    exact ⟨hx, by simp [aPush, alookup, hmn, hy]⟩

theorem assoc_cons_ne (n m : Name) (t : Ty) (l : List (Name × Ty)) (h : m ≠ n) :
    assoc n ((m, t) :: l) = assoc n l := by simp [assoc, h]

theorem alookup_cons_ne (n m : Name) (t : Ty) (l : List (Name × Ty)) (h : m ≠ n) :
    alookup n ((m, t) :: l) = alookup n l := by simp [alookup, h]

theorem hasName_iff_bound (fst : FState) (n : Name) (u : Ty) :
    fst.hasName (.named n u) = true ↔ ∃ t, Bound fst n t := by
  simp only [FState.hasName, Bool.or_eq_true, Option.isSome_iff_exists, Bound]
  constructor
  · rintro (⟨t, h⟩ | h)
    · exact ⟨t, Or.inl h⟩
    · cases hp : fst.permanent with
      | none => simp [hp] at h
      | some p =>
        simp only [hp, Option.isSome_iff_exists] at h
        obtain ⟨t, ht⟩ := h
        exact ⟨t, Or.inr ⟨p, rfl, ht⟩⟩
  · rintro ⟨t, h | ⟨p, hp, h⟩⟩
    · exact Or.inl ⟨t, h⟩
    · right; simp [hp, h]

theorem nameOf_of_bound (fst : FState) (n : Name) (u : Ty) (hn : n ≠ []) {t' : Ty} (hb : Bound fst n t')
    (hall : ∀ t, Bound fst n t → t = .named n u) : fst.nameOf (.named n u) = some n := by
  refine (nameOf_bound fst n u hn ?_).1
  cases htd : assoc n fst.typedefs with
  | some t1 => exact .inl (by rw [hall t1 (.inl htd)])
  | none =>
    rcases hb with h | ⟨p, hp, h⟩
    · rw [htd] at h; cases h
    · exact .inr ⟨rfl, p, hp, by rw [← hall t' (.inr ⟨p, hp, h⟩)]; exact h⟩

/-- `Q` allows `n` the type `n = u` only, so a bound name is bound to this type. -/
theorem named_occurrence (Q : Name → Ty → Prop) (fst : FState) (a : AState) (n : Name) (u : Ty) (v' : Val)
    (hinv : CoupledQ Q fst a) (hQ : Q n (.named n u)) (huniq : ∀ t, Q n t → t = .named n u)
    (hg : namedTopGuard (.named n u) (.named v') = true) (hku : noUnionElems u = true) :
    ∃ fst1 a1, (fmtTop fst (.named n u) (.named v')).1 = fst1 ∧
      analyzeTop a (fmtTop fst (.named n u) (.named v')).2 = .ok (a1, (.named n u, .named v')) ∧
      CoupledQ Q fst1 a1 := by
  simp only [namedTopGuard, Bool.and_eq_true, Bool.not_eq_true', Option.isNone_iff_eq_none] at hg
  obtain ⟨⟨⟨⟨⟨⟨⟨⟨hok', hp⟩, hw⟩, hv⟩, hnn⟩, hb⟩, hod⟩, hen⟩, herr⟩ := hg
  by_cases hh : fst.hasName (.named n u) = true
  · obtain ⟨t', hb'⟩ := (hasName_iff_bound fst n u).mp hh
    have hbind : ∀ t'', Bound fst n t'' → t'' = .named n u := fun t'' hb'' => huniq t'' (hinv n t'' hb'').1
    have hnne : n ≠ [] := by
      simp only [nameOK, Bool.and_eq_true, bne_iff_ne, ne_eq] at hok'
      exact hok'.1.1
    have hname := nameOf_of_bound fst n u hnne hb' hbind
    have ha : alookup n a.names = some (.named n u) := by
      have := (hinv n t' hb').2
      rwa [hbind t' hb'] at this
    obtain ⟨h1, h2⟩ := named_later fst a n u v' hp hw hku hen hv hnn herr hname hh ha
    exact ⟨fst, a, h1, h2, hinv⟩
  · have hh' : fst.hasName (.named n u) = false := by simpa using hh
    obtain ⟨h1, h2⟩ := named_top fst a n u v' hok' hp hw hv hnn hb hod hen herr hh'
    exact ⟨fst.saveType n (.named n u), aPush a n (.named n u), h1, h2,
      coupledQ_save hinv (fun t' hb' => hh ((hasName_iff_bound fst n u).mpr ⟨t', hb'⟩)) hQ⟩

/-- the one place where the typedef scope (`reset`) is handled. -/
theorem stream_of_step (reset : Bool) (Inv : FState → AState → Prop) (P : Ty × Val → Prop)
    (hreset : ∀ fst a, Inv fst a → Inv fst.resetTypedefs a)
    (step : ∀ fst a t v, Inv fst a → P (t, v) → ∃ fst1 a1, (fmtTop fst t v).1 = fst1 ∧
      analyzeTop a (fmtTop fst t v).2 = .ok (a1, (t, v)) ∧ Inv fst1 a1) :
    (items : List (Ty × Val)) → (∀ x ∈ items, P x) → ∀ (fst : FState) (a : AState), Inv fst a →
      analyzeStream a (fmtStream reset fst items) = .ok items
  | [], _, _, _, _ => rfl
  | (t, v) :: rest, hok, fst, a, hinv => by
    have hinv0 : Inv (if reset then fst.resetTypedefs else fst) a := by
      cases reset
      · exact hinv
      · exact hreset fst a hinv
    obtain ⟨fst1, a1, hf1, han, hinv1⟩ := step _ a t v hinv0 (hok (t, v) (by simp))
    have ih := stream_of_step reset Inv P hreset step rest (fun x hx => hok x (by simp [hx])) fst1 a1 hinv1
    simp only [fmtStream]
    rw [hf1]
    simp only [analyzeStream, han, ih]

/-- a name is bound to one of the stream's named types, under its own name. -/
def Coupled (items : List (Ty × Val)) : FState → AState → Prop :=
  CoupledQ fun n t => ∃ u v, t = .named n u ∧ (t, v) ∈ items

theorem consistent_named (items : List (Ty × Val)) (hc : namesConsistent items = true)
    (n : Name) (u w : Ty) (v1 v2 : Val) (h1 : (Ty.named n u, v1) ∈ items) (h2 : (Ty.named n w, v2) ∈ items) :
    u = w := by
  simp only [namesConsistent, List.all_eq_true] at hc
  have := hc _ h1 _ h2
  simpa using this

/-- **the stream theorem**: every value of a stream of plain values and values of named types
    (one name, one type) is read back as itself, whatever the typedef scope (per value / per
    stream) and the `persist` predicate; the invariant is that the analyzer's name table agrees
    with the formatter's typedefs on everything the formatter has bound. -/
theorem stream_roundtrip (reset : Bool) (all : List (Ty × Val)) (hcons : namesConsistent all = true) :
    (items : List (Ty × Val)) → (∀ x ∈ items, x ∈ all) → (∀ x ∈ items, itemOK x = true) →
    ∀ (fst : FState) (a : AState), Coupled all fst a →
      analyzeStream a (fmtStream reset fst items) = .ok items := fun items hsub hok => by
  refine stream_of_step reset (Coupled all) (fun x => x ∈ all ∧ itemOK x = true) (fun _ _ => coupledQ_reset)
    (fun fst a t v hinv ⟨hmem, hitem⟩ => ?_) items (fun x hx => ⟨hsub x hx, hok x hx⟩)
  simp only [itemOK, Bool.or_eq_true, Bool.and_eq_true, Bool.not_eq_true'] at hitem
  rcases hitem with ⟨⟨⟨⟨hp, hw⟩, hv⟩, hb⟩, he⟩ | ⟨hg, hk⟩
  · obtain ⟨h1, h2⟩ := roundtrip_plain fst a t v hp hw hv hb he
    exact ⟨fst, a, h1, h2, hinv⟩
  · cases t with
    | named n u =>
      cases v with
      | named v' =>
        refine named_occurrence _ fst a n u v' hinv ⟨u, .named v', rfl, hmem⟩ ?_ hg (by simpa [noUnionElems] using hk)
        rintro t ⟨u'', v'', rfl, hm''⟩
        rw [consistent_named all hcons n u'' u v'' (.named v') hm'' hmem]
      | _ => simp [namedTopGuard] at hg
    | _ => simp [namedTopGuard] at hg

end Zed.Zson

/-
  Writers: `chunk` only cuts, `sortVals` only permutes, `writeObjs` stores every part under a
  fresh id without touching existing files (`Written`).  For C14.
-/
import Zed.Proofs.LakeScan
namespace Zed.Lake
variable {K V : Type}

theorem chunkGo_flatten (cfg : Cfg K V) (vs cur : List V) (n : Nat) :
    (chunkGo cfg vs cur n).flatten = cur ++ vs := by
  induction vs generalizing cur n with
  | nil =>
    unfold chunkGo
    split
    · rename_i h; have : cur = [] := by simpa using h
      simp [this]
    · simp
  | cons v vs ih =>
    unfold chunkGo
    simp only []
    split
    · simp [ih]
    · rw [ih]; simp

/-- `lake.Writer` only cuts its input into consecutive buffers -/
theorem chunk_flatten (cfg : Cfg K V) (vals : List V) : (chunk cfg vals).flatten = vals := by
  simp [chunk, chunkGo_flatten]

theorem sortVals_perm (cfg : Cfg K V) (l : List V) : (sortVals cfg l).Perm l := List.mergeSort_perm _ _

theorem flatten_map_sort_perm (cfg : Cfg K V) (ls : List (List V)) :
    ((ls.map (sortVals cfg)).flatten).Perm ls.flatten := by
  induction ls with
  | nil => simp
  | cons l ls ih => simp only [List.map_cons, List.flatten_cons]; exact (sortVals_perm cfg l).append ih

theorem mkObj_none (cfg : Cfg K V) (id : Nat) (p : List V) (h : mkObj cfg id p = none) : p = [] := by
  cases p with
  | nil => rfl
  | cons a as =>
    unfold mkObj at h
    have h2 : (a :: as).getLast? = some ((a :: as).getLast (by simp)) := List.getLast?_eq_some_getLast (by simp)
    simp only [List.head?_cons, h2] at h
    cases h

theorem mkObj_id (cfg : Cfg K V) (id : Nat) (p : List V) (o : Obj K) (h : mkObj cfg id p = some o) : o.id = id := by
  unfold mkObj at h
  split at h
  · simp only [Option.some.injEq] at h
    subst h
    split <;> rfl
  · cases h

theorem mkObj_count (cfg : Cfg K V) (id : Nat) (p : List V) (o : Obj K) (h : mkObj cfg id p = some o) :
    o.count = p.length := by
  unfold mkObj at h
  split at h
  · simp only [Option.some.injEq] at h
    subst h
    split <;> rfl
  · cases h

structure Written (cfg : Cfg K V) (s s1 : State K V) (objs : List (Obj K)) (parts : List (List V)) : Prop where
  next : s.nextObj ≤ s1.nextObj
  ids : ∀ o ∈ objs, s.nextObj ≤ o.id ∧ o.id < s1.nextObj
  nodup : (objs.map (·.id)).Nodup
  ext : ∃ e, s1.files = s.files ++ e ∧ ∀ f ∈ e, s.nextObj ≤ f.1 ∧ f.1 < s1.nextObj
  payload : objs.flatMap (pay s1.files) = parts.flatten
  counts : ∀ o ∈ objs, ∀ p, fileOf s1.files o.id = some p → o.count = p.length
  present : ∀ o ∈ objs, (fileOf s1.files o.id).isSome = true

theorem writeObjs_spec (cfg : Cfg K V) (s : State K V) (parts : List (List V))
    (hf : ∀ f ∈ s.files, f.1 < s.nextObj) :
    Written cfg s (writeObjs cfg s parts).1 (writeObjs cfg s parts).2 parts := by
  induction parts generalizing s with
  | nil =>
    exact { next := Nat.le_refl _, ids := by simp [writeObjs], nodup := by simp [writeObjs],
            ext := ⟨[], by simp [writeObjs]⟩, payload := by simp [writeObjs], counts := by simp [writeObjs], present := by simp [writeObjs] }
  | cons p ps ih =>
    unfold writeObjs
    split
    · rename_i hn
      have hp := mkObj_none cfg _ p hn
      have w := ih s hf
      exact { next := w.next, ids := w.ids, nodup := w.nodup, ext := w.ext,
              payload := by rw [w.payload, hp]; simp, counts := w.counts, present := w.present }
    · rename_i o ho
      have hoid := mkObj_id cfg _ p o ho
      -- `s0`: the state after writing `p`; `(s2, os)`: what writing the rest makes of it
      obtain ⟨s0, hs0⟩ : ∃ s0 : State K V,
        s0 = { s with files := s.files ++ [(s.nextObj, p)], nextObj := s.nextObj + 1 } := ⟨_, rfl⟩
      have hn0 : s0.nextObj = s.nextObj + 1 := by rw [hs0]
      have hf0 : s0.files = s.files ++ [(s.nextObj, p)] := by rw [hs0]
      rw [← hs0]
      have hlt0 : s.nextObj < s0.nextObj := hn0 ▸ Nat.lt_succ_self _
      have w := ih s0 (by
        intro f hfm
        rw [hf0] at hfm
        rcases List.mem_append.mp hfm with h | h
        · exact Nat.lt_trans (hf f h) hlt0
        · rw [List.mem_singleton.mp h]; exact hlt0)
      cases hw : writeObjs cfg s0 ps with
      | mk s2 os =>
        rw [hw] at w
        simp only [] at w
        simp only [hw]
        obtain ⟨e, he, hee⟩ := w.ext
        have hlt : s.nextObj < s2.nextObj := Nat.lt_of_lt_of_le hlt0 w.next
        have hnew : fileOf s2.files o.id = some p := by
          rw [he, hf0, hoid]
          apply fileOf_append
          unfold fileOf
          rw [List.find?_append]
          have : fileOf s.files s.nextObj = none := fileOf_fresh s.files s.nextObj hf _ (Nat.le_refl _)
          unfold fileOf at this
          split at this
          · cases this
          · rename_i hnone; rw [hnone]; simp
        exact {
          next := Nat.le_of_lt hlt
          ids := by
            intro o' ho'
            rcases List.mem_cons.mp ho' with h | h
            · rw [h, hoid]; exact ⟨Nat.le_refl _, hlt⟩
            · exact ⟨Nat.le_trans (Nat.le_of_lt hlt0) (w.ids o' h).1, (w.ids o' h).2⟩
          nodup := by
            rw [List.map_cons, List.nodup_cons]
            refine ⟨fun hm => ?_, w.nodup⟩
            obtain ⟨o', ho', hoid'⟩ := List.mem_map.mp hm
            have := (w.ids o' ho').1
            rw [hoid', hoid] at this
            exact Nat.lt_irrefl _ (Nat.lt_of_lt_of_le hlt0 this)
          ext := ⟨(s.nextObj, p) :: e, by rw [he, hf0]; simp, by
            intro f hfm
            rcases List.mem_cons.mp hfm with h | h
            · rw [h]; exact ⟨Nat.le_refl _, hlt⟩
            · exact ⟨Nat.le_trans (Nat.le_of_lt hlt0) (hee f h).1, (hee f h).2⟩⟩
          payload := by
            simp only [List.flatMap_cons, List.flatten_cons, w.payload]
            congr 1
            unfold pay
            rw [hnew]; rfl
          counts := by
            intro o' ho' q hq
            rcases List.mem_cons.mp ho' with h | h
            · rw [h, hnew] at hq
              cases hq
              exact h ▸ mkObj_count cfg _ _ _ ho
            · exact w.counts o' h q hq
          present := by
            intro o' ho'
            rcases List.mem_cons.mp ho' with h | h
            · rw [h, hnew]; rfl
            · exact w.present o' h }

theorem written (cfg : Cfg K V) {s s1 : State K V} {parts : List (List V)} {objs : List (Obj K)}
    (hw : writeObjs cfg s parts = (s1, objs)) (hf : ∀ f ∈ s.files, f.1 < s.nextObj) :
    Written cfg s s1 objs parts := by
  have := writeObjs_spec cfg s parts hf
  rw [hw] at this
  exact this

theorem Written.pay_old {cfg : Cfg K V} {s s1 : State K V} {objs : List (Obj K)} {parts : List (List V)}
    (w : Written cfg s s1 objs parts) (o : Obj K) (h : o.id < s.nextObj) :
    pay s1.files o = pay s.files o := by
  obtain ⟨e, he, hee⟩ := w.ext
  unfold pay
  rw [he, fileOf_append_none]
  exact fun f hf e => Nat.lt_irrefl _ (Nat.lt_of_lt_of_le h (e ▸ (hee f hf).1))

end Zed.Lake

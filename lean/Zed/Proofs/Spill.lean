import Zed.Model.Compare
/-! Stable sorting of runs and merging them is the same as stable sorting everything
    (`spill_invariant`), for any total and transitive `le`. -/
namespace Zed
open List

section
variable {α : Type} {le : α → α → Bool}

attribute [local instance] boolRelToRel

theorem zipIdx_antisymm (l : List α) (i : Nat) (x y : α × Nat) (hx : x ∈ l.zipIdx i) (hy : y ∈ l.zipIdx i)
    (h1 : zipIdxLE le x y) (h2 : zipIdxLE le y x) : x = y := by
  have hidx : x.2 = y.2 := by
    by_cases p : le x.1 y.1 = true <;> by_cases q : le y.1 x.1 = true <;>
      simp [zipIdxLE, p, q] at h1 h2
    omega
  have e1 := (mem_zipIdx_iff_le_and_getElem?_sub.mp hx).2
  have e2 := (mem_zipIdx_iff_le_and_getElem?_sub.mp hy).2
  rw [hidx, e2] at e1
  exact Prod.ext (by simpa using e1.symm) hidx

theorem mergeSort_zipIdx_off (i : Nat) (l : List α) :
    (mergeSort (l.zipIdx i) (zipIdxLE le)).map (·.1) = mergeSort l le := by
  rw [zipIdx_eq_map_add (i := i)]
  rw [← map_mergeSort (r := zipIdxLE le) (s := zipIdxLE le) (f := fun (p : α × Nat) => (p.1, i + p.2))]
  · rw [map_map]
    have : ((fun (x : α × Nat) => x.1) ∘ fun (p : α × Nat) => (p.1, i + p.2)) = (fun x => x.1) := by
      funext p; rfl
    rw [this]; exact mergeSort_zipIdx
  · intro a _ b _
    simp only [zipIdxLE]
    simp

/-- The stable sort is unique: tagged with their positions the elements are ordered antisymmetrically
    (`zipIdxLE`), so two sorted permutations of them are equal (`Perm.eq_of_pairwise`); then the tags are dropped. -/
theorem eq_mergeSort_of_tagged
    (trans : ∀ (a b c : α), le a b → le b c → le a c) (total : ∀ (a b : α), le a b || le b a)
    (l : List α) (σ : List (α × Nat)) (hp : σ.Perm (l.zipIdx 0))
    (hs : σ.Pairwise (fun x y => zipIdxLE le x y = true)) : σ.map (·.1) = mergeSort l le := by
  rw [← mergeSort_zipIdx_off (le := le) 0 l]
  congr 1
  refine (Perm.eq_of_pairwise (le := fun x y => zipIdxLE le x y = true) ?_
    (pairwise_mergeSort (zipIdxLE_trans trans) (zipIdxLE_total total) _) hs ((mergeSort_perm _ _).trans hp.symm)).symm
  intro x y hx hy h1 h2
  exact zipIdx_antisymm (le := le) l 0 x y (mem_mergeSort.mp hx) (hp.mem_iff.mp hy) h1 h2

/-- the tags of the first list are below those of the second, so the merge commutes with dropping them (`merge_stable`) -/
theorem merge_mergeSort_append
    (trans : ∀ (a b c : α), le a b → le b c → le a c) (total : ∀ (a b : α), le a b || le b a)
    (a b : List α) : merge (mergeSort a le) (mergeSort b le) le = mergeSort (a ++ b) le := by
  have ht := zipIdxLE_trans (le := le) trans
  have htt := zipIdxLE_total (le := le) total
  let A := mergeSort (a.zipIdx 0) (zipIdxLE le)
  let B := mergeSort (b.zipIdx a.length) (zipIdxLE le)
  have hst := merge_stable (le := le) A B fun x y hx hy => by
    have hx' := mem_zipIdx (mem_mergeSort.mp hx)
    have hy' := mem_zipIdx (mem_mergeSort.mp hy)
    omega
  rw [show A.map (·.1) = mergeSort a le from mergeSort_zipIdx_off 0 a,
    show B.map (·.1) = mergeSort b le from mergeSort_zipIdx_off a.length b] at hst
  rw [← hst]
  refine eq_mergeSort_of_tagged trans total (a ++ b) _ ?_
    (pairwise_merge ht htt A B (pairwise_mergeSort ht htt _) (pairwise_mergeSort ht htt _))
  rw [zipIdx_append]
  exact (merge_perm_append (zipIdxLE le)).trans
    ((mergeSort_perm _ _).append (by simpa using mergeSort_perm (b.zipIdx a.length) (zipIdxLE le)))
end
section
variable {α : Type} (le : α → α → Bool)

def totalLen (runs : List (List α)) : Nat := (runs.map List.length).sum

theorem kmergeF_none (rs : List (List α)) (h : minRun le rs = none) : (f : Nat) → kmergeF le f rs = []
  | 0 => rfl
  | f+1 => by simp [kmergeF, h]

theorem total_popRun : (rs : List (List α)) → (i : Nat) → (y : α) → minRun le rs = some (i, y) →
    totalLen (popRun i rs) + 1 = totalLen rs
  | [], _, _, h => by simp [minRun] at h
  | [] :: rs, i, y, h => by
    simp only [minRun, Option.map_eq_some_iff] at h
    obtain ⟨⟨j, z⟩, hj, he⟩ := h
    simp only [Prod.mk.injEq] at he
    obtain ⟨rfl, rfl⟩ := he
    have := total_popRun rs j z hj
    simp only [popRun, totalLen, map_cons, length_nil, sum_cons, Nat.zero_add] at this ⊢
    exact this
  | (x :: r) :: rs, i, y, h => by
    simp only [minRun] at h
    cases hm : minRun le rs with
    | none =>
      simp only [hm, Option.some.injEq, Prod.mk.injEq] at h
      obtain ⟨rfl, rfl⟩ := h
      simp [popRun, totalLen]; omega
    | some p =>
      obtain ⟨j, z⟩ := p
      simp only [hm] at h
      split at h
      · simp only [Option.some.injEq, Prod.mk.injEq] at h
        obtain ⟨rfl, rfl⟩ := h
        simp [popRun, totalLen]; omega
      · simp only [Option.some.injEq, Prod.mk.injEq] at h
        obtain ⟨rfl, rfl⟩ := h
        have := total_popRun rs j z hm
        simp only [popRun, totalLen, map_cons, length_cons, sum_cons] at this ⊢
        omega

theorem merge_nil_right' (l : List α) : merge l [] le = l := by
  cases l <;> simp

/-- the k-way selection without its fuel -/
theorem kmerge_eq (rs : List (List α)) :
    kmerge le rs = match minRun le rs with
      | none => []
      | some (i, x) => x :: kmerge le (popRun i rs) := by
  cases hm : minRun le rs with
  | none => exact kmergeF_none le rs hm _
  | some p =>
    obtain ⟨i, x⟩ := p
    show kmergeF le (rs.map List.length).sum rs = x :: kmergeF le (totalLen (popRun i rs)) (popRun i rs)
    rw [show (rs.map List.length).sum = totalLen (popRun i rs) + 1 from (total_popRun le rs i x hm).symm, kmergeF]
    simp only [hm]

/-- the k-way selection is the nested two-way merge; `n` bounds the number of elements -/
theorem kmerge_cons_le : (n : Nat) → (r : List α) → (rs : List (List α)) → r.length + totalLen rs ≤ n →
    kmerge le (r :: rs) = merge r (kmerge le rs) le
  | n, [], rs, h => by
    rw [kmerge_eq le ([] :: rs), kmerge_eq le rs, minRun]
    cases hm : minRun le rs with
    | none => simp
    | some p =>
      obtain ⟨i, x⟩ := p
      have ht := total_popRun le rs i x hm
      match n with
      | 0 => simp at h; omega
      | n+1 =>
        simp only [Option.map_some, popRun, nil_merge]
        rw [kmerge_cons_le n [] (popRun i rs) (by simp at h ⊢; omega), nil_merge]
  | 0, x :: r', rs, h => by simp at h
  | n+1, x :: r', rs, h => by
    simp only [length_cons] at h
    rw [kmerge_eq le ((x :: r') :: rs), kmerge_eq le rs, minRun]
    cases hm : minRun le rs with
    | none =>
      simp only [popRun, tail_cons, merge_right]
      rw [kmerge_cons_le n r' rs (by omega), kmerge_eq le rs, hm, merge_right]
    | some p =>
      obtain ⟨i, y⟩ := p
      have ht := total_popRun le rs i y hm
      simp only
      by_cases hxy : le x y = true
      · simp only [hxy, if_true, popRun, tail_cons]
        rw [kmerge_cons_le n r' rs (by omega), kmerge_eq le rs, hm, cons_merge_cons, if_pos hxy]
      · have hxy' : le x y = false := by simpa using hxy
        simp only [hxy', Bool.false_eq_true, if_false, popRun]
        rw [kmerge_cons_le n (x :: r') (popRun i rs) (by simp; omega), cons_merge_cons, if_neg hxy]

theorem kmerge_cons (r : List α) (rs : List (List α)) :
    kmerge le (r :: rs) = merge r (kmerge le rs) le :=
  kmerge_cons_le le _ r rs (Nat.le_refl _)

theorem kmerge_sorted_chunks
    (trans : ∀ (a b c : α), le a b → le b c → le a c) (total : ∀ (a b : α), le a b || le b a) :
    (chunks : List (List α)) → kmerge le (chunks.map fun c => mergeSort c le) = mergeSort chunks.flatten le
  | [] => by simp [kmerge, kmergeF]
  | c :: cs => by
    rw [map_cons, kmerge_cons, kmerge_sorted_chunks trans total cs, flatten_cons]
    exact merge_mergeSort_append trans total c cs.flatten

end
end Zed

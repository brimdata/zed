import Zed.Proofs.ZngFrames
import Zed.Proofs.ZngTypes
import Zed.Proofs.ZngZcode
/-!
  The ZNG round trip: what `zngio.Writer` writes, `zngio.Reader` reads back.
-/
namespace Zed.Zng
open Zed.Generated.C01

section delivers
variable (o : ROpts) (decomp : Bytes → Nat → Option Bytes)

/-- Started in context `D`, the reader consumes `b`, delivers `vs`, and goes on in context `D'`
    with whatever follows. -/
def Delivers (D : Ctx) (b : Bytes) (vs : List RVal) (D' : Ctx) : Prop :=
  ∀ rest, (readStream o decomp D (b ++ rest)).vals = vs ++ (readStream o decomp D' rest).vals ∧
          (readStream o decomp D (b ++ rest)).out = (readStream o decomp D' rest).out

variable {o decomp}

theorem Delivers.nil (D : Ctx) : Delivers o decomp D [] [] D := fun _ => ⟨rfl, rfl⟩

theorem Delivers.trans {D D1 D2 : Ctx} {a b : Bytes} {vs ws : List RVal}
    (h1 : Delivers o decomp D a vs D1) (h2 : Delivers o decomp D1 b ws D2) :
    Delivers o decomp D (a ++ b) (vs ++ ws) D2 := by
  intro rest
  have h1 := h1 (b ++ rest)
  have h2 := h2 rest
  rw [List.append_assoc]
  exact ⟨by rw [h1.1, h2.1, List.append_assoc], by rw [h1.2, h2.2]⟩

theorem Delivers.of_step {D D' : Ctx} {b : Bytes} {vs : List RVal}
    (h : ∀ rest, ∃ c tl al, b ++ rest = c :: tl ∧ step o decomp D c tl = .cont D' vs al rest) :
    Delivers o decomp D b vs D' := by
  intro rest
  obtain ⟨c, tl, al, h1, h2⟩ := h rest
  rw [h1, readStream_cont h2]
  exact ⟨rfl, rfl⟩

theorem delivers_eos (D : Ctx) : Delivers o decomp D [UInt8.ofNat eos] [] [] := by
  refine .of_step fun rest => ?_
  have h : step o decomp D (UInt8.ofNat eos) rest = .cont [] [] [] rest := by
    simp only [step, UInt8.toNat_ofNat_of_lt' (n := eos) (by decide), if_true]
  exact ⟨_, rest, [], rfl, h⟩

end delivers

section blocks
variable (wo : WOpts) (o : ROpts) (comp : Bytes → Option Bytes) (decomp : Bytes → Nat → Option Bytes)

def BlockFits (b : Bytes) : Prop :=
  b.isEmpty = false → blockSmall wo comp b = true ∧ blockMax wo comp b ≤ o.maxSize

variable (hlz : ∀ b z, comp b = some z → decomp z b.length = some b)
include hlz

theorem Delivers.of_block {kind : Nat} (hk : kind < 3) {b : Bytes} (hne : b.isEmpty = false)
    (hf : BlockFits wo o comp b) {D D' : Ctx} {vs : List RVal}
    (hstep : ∀ (c : UInt8) tl al rest, CodeOf kind c → readFrame o decomp c.toNat tl = .ok b rest al →
      ∃ al', step o decomp D c tl = .cont D' vs al' rest) :
    Delivers o decomp D (blockBytes wo comp kind b) vs D' :=
  .of_step fun rest =>
    let ⟨c, tl, al, h1, hc, h5⟩ :=
      readFrame_block wo o comp decomp hlz kind hk b rest hne (hf hne).1 (hf hne).2
    let ⟨al', h⟩ := hstep c tl al rest hc h5
    ⟨c, tl, al', h1, h⟩

theorem delivers_types {D D' : Ctx} {b : Bytes} (hf : BlockFits wo o comp b) (hd : decTypedefs D b = .ok D') :
    Delivers o decomp D (blockBytes wo comp typesFrame b) [] D' := by
  cases hb : b.isEmpty with
  | true =>
    rw [List.isEmpty_iff.mp hb, decTypedefs_nil] at hd
    cases hd
    rw [blockBytes, if_pos hb]
    exact Delivers.nil D
  | false =>
    refine .of_block wo o comp decomp hlz (by decide) hb hf fun c tl al rest hc h5 => ⟨al, ?_⟩
    simp only [step, hc.notEos, if_false, hc.version, ne_eq, not_true_eq_false, hc.kind, if_true, h5, hd]

theorem delivers_values {D : Ctx} {b : Bytes} {vs : List RVal} (hf : BlockFits wo o comp b)
    (hd : decodeVals o D b = .ok vs) : Delivers o decomp D (blockBytes wo comp valuesFrame b) vs D := by
  cases hb : b.isEmpty with
  | true =>
    rw [decodeVals_nil hb] at hd
    cases hd
    rw [blockBytes, if_pos hb]
    exact Delivers.nil D
  | false =>
    refine .of_block wo o comp decomp hlz (by decide) hb hf fun c tl al rest hc h5 =>
      ⟨if c.toNat &&& compressedMask ≠ 0 then al else al ++ [b.length], ?_⟩
    have hk1 : ¬ (valuesFrame = typesFrame) := by decide
    simp only [step, hc.notEos, if_false, hc.version, ne_eq, not_true_eq_false, hc.kind, hk1, if_true, h5, hd]

theorem delivers_control {D : Ctx} {b : Bytes} (hne : b.isEmpty = false) (hf : BlockFits wo o comp b) :
    Delivers o decomp D (blockBytes wo comp controlFrame b) [] D := by
  refine .of_block wo o comp decomp hlz (by decide) hne hf fun c tl al rest hc h5 => ⟨al, ?_⟩
  have hk1 : ¬ (controlFrame = typesFrame) := by decide
  have hk2 : ¬ (controlFrame = valuesFrame) := by decide
  simp only [step, hc.notEos, if_false, hc.version, ne_eq, not_true_eq_false, hc.kind, hk1, hk2, if_true, h5, hne,
    Bool.false_eq_true]

end blocks

/-- one value record as the writer appends it: (type id, type, body) -/
abbrev Rec := Nat × ZTy × Option Bytes

def recBytes (r : Rec) : Bytes := uvarint r.1 ++ zappend r.2.2
def recsBytes (rs : List Rec) : Bytes := rs.flatMap recBytes
def Rec.toRVal (r : Rec) : RVal := ⟨r.2.1, r.2.2⟩

def RecOk (o : ROpts) (ctx : Ctx) (r : Rec) : Prop :=
  ctx.typeOfId (r.1 : Int) = some r.2.1 ∧ r.1 < two63 ∧ BodyFits r.2.2 ∧
    (o.validate = true → validate r.2.1 r.2.2 = true)

/-- `decodeVal` decodes the tag and slices the body itself instead of calling `Iter.Next`; where
    `Iter.Next` succeeds it finds the same body and the same rest. -/
theorem readBody_of_znext {bs r : Bytes} {v : Option Bytes} (h : znext bs = .ok (v, r)) :
    ∃ tag r2, readUvarint bs = .ok (tag, r2) ∧
      readBody (if tag = tagNull then -1 else asInt (tagLength tag)) r2 = some (v, r) := by
  obtain ⟨tag, r2, heq, ⟨h1, hv, hr⟩ | ⟨h1, h2, h3, hv, hr⟩⟩ := znext_ok h
  · exact ⟨tag, r2, heq, by rw [if_pos h1, hv, hr]; rfl⟩
  · refine ⟨tag, r2, heq, ?_⟩
    rw [if_neg h1, readBody, hv, hr]
    by_cases h0 : asInt (tagLength tag) = 0
    · rw [h0]; rfl
    · rw [if_neg h0, if_neg h2, if_pos h3]

theorem decodeVal_rec (o : ROpts) (ctx : Ctx) (r : Rec) (rest : Bytes) (h : RecOk o ctx r) :
    decodeVal o ctx (recBytes r ++ rest) = .ok r.toRVal rest := by
  obtain ⟨id, ty, body⟩ := r
  obtain ⟨hty, hid, hfit, hval⟩ := h
  obtain ⟨tag, r2, htag, hbody⟩ := readBody_of_znext (znext_zappend body rest hfit)
  have hidn : ¬ ((id : Int) < 0) := by omega
  have hvd : (o.validate && !validate ty body) = false := by
    cases hv : o.validate with
    | false => rfl
    | true => rw [hval hv]; rfl
  unfold decodeVal recBytes
  rw [List.append_assoc, readUvarintAsInt_uvarint id _ hid]
  simp only [htag, hbody, hidn, if_false, hty, hvd, Bool.false_eq_true]
  rfl

theorem decodeVals_recs (o : ROpts) (ctx : Ctx) (rs : List Rec) (h : ∀ r ∈ rs, RecOk o ctx r) :
    decodeVals o ctx (recsBytes rs) = .ok (rs.map Rec.toRVal) := by
  induction rs with
  | nil => exact decodeVals_nil rfl
  | cons r rs ih =>
    rw [recsBytes, List.flatMap_cons, ← recsBytes,
      decodeVals_of_ok (decodeVal_rec o ctx r _ (h r List.mem_cons_self)),
      ih fun x hx => h x (List.mem_cons_of_mem _ hx)]
    rfl

theorem RecOk.append {o : ROpts} {ctx : Ctx} {r : Rec} (e : Ctx) (h : RecOk o ctx r) : RecOk o (ctx ++ e) r :=
  ⟨typeOfId_append e h.1, h.2.1, h.2.2.1, h.2.2.2⟩

section writer
variable (wo : WOpts) (o : ROpts) (comp : Bytes → Option Bytes) (decomp : Bytes → Nat → Option Bytes)

def Fits (w : WSt) : Prop := w.small = true ∧ w.enc.small = true ∧ w.maxFrame ≤ o.maxSize

theorem writeBlock_enc (w : WSt) (kind : Nat) (b : Bytes) : (w.writeBlock wo comp kind b).enc = w.enc := by
  unfold WSt.writeBlock; split <;> rfl

theorem writeBlock_values (w : WSt) (kind : Nat) (b : Bytes) : (w.writeBlock wo comp kind b).values = w.values := by
  unfold WSt.writeBlock; split <;> rfl

theorem writeBlock_out (w : WSt) (kind : Nat) (b : Bytes) :
    (w.writeBlock wo comp kind b).out = w.out ++ blockBytes wo comp kind b := by
  rw [WSt.writeBlock, blockBytes]
  cases b.isEmpty with
  | true => exact (List.append_nil _).symm
  | false => rfl

theorem writeBlock_dirty (w : WSt) (kind : Nat) (b : Bytes)
    (h : (w.writeBlock wo comp kind b).dirty = false) : w.dirty = false ∧ b.isEmpty = true := by
  unfold WSt.writeBlock at h
  split at h
  · exact ⟨h, by assumption⟩
  · cases h

theorem writeBlock_fits (w : WSt) (kind : Nat) (b : Bytes) (h : Fits o (w.writeBlock wo comp kind b)) :
    Fits o w ∧ BlockFits wo o comp b := by
  unfold WSt.writeBlock at h
  split at h
  · rename_i hb; exact ⟨h, fun hne => by rw [hb] at hne; cases hne⟩
  · obtain ⟨h1, h2, h3⟩ := h
    have h1 := Bool.and_eq_true_iff.mp h1
    exact ⟨⟨h1.1, h2, Nat.le_trans (Nat.le_max_left _ _) h3⟩,
      fun _ => ⟨h1.2, Nat.le_trans (Nat.le_max_right _ _) h3⟩⟩

theorem flush_enc (w : WSt) : (w.flush wo comp).enc = { w.enc with bytes := [] } := by
  simp only [WSt.flush, writeBlock_enc]

theorem flush_out (w : WSt) : (w.flush wo comp).out =
    w.out ++ blockBytes wo comp typesFrame w.enc.bytes ++ blockBytes wo comp valuesFrame w.values := by
  simp only [WSt.flush, writeBlock_out]

theorem flush_dirty (w : WSt) (h : (w.flush wo comp).dirty = false) :
    w.dirty = false ∧ w.enc.bytes = [] := by
  have h1 := (writeBlock_dirty wo comp _ _ _ h).1
  have h2 := writeBlock_dirty wo comp _ _ _ h1
  exact ⟨h2.1, List.isEmpty_iff.mp h2.2⟩

theorem flush_fits (w : WSt) (h : Fits o (w.flush wo comp)) :
    Fits o w ∧ BlockFits wo o comp w.enc.bytes ∧ BlockFits wo o comp w.values := by
  have h2 := writeBlock_fits wo o comp _ valuesFrame w.values h
  have h1 := writeBlock_fits wo o comp w typesFrame w.enc.bytes h2.1
  exact ⟨h1.1, h1.2, h2.2⟩

/-- `Write` up to the threshold test -/
def wrote (w : WSt) (v : WVal) : WSt :=
  w.addValue (encTy v.cid v.ty w.enc).1 (encTy v.cid v.ty w.enc).2 v.body

theorem step_write (w : WSt) (v : WVal) : WSt.step wo comp w (.write v) =
    if flushCond (wrote w v).values.length (wrote w v).enc.bytes.length wo.thresh
    then (wrote w v).flush wo comp else wrote w v := rfl

theorem step_endStream (w : WSt) : WSt.step wo comp w .endStream =
    { w.flush wo comp with
      out := (w.flush wo comp).out ++ (if (w.flush wo comp).dirty then [UInt8.ofNat eos] else []),
      dirty := false,
      enc := { (w.flush wo comp).enc with ctx := [], cache := [], bytes := [] } } := by
  rw [WSt.step]
  generalize w.flush wo comp = w1
  obtain ⟨enc, values, out, dirty, small, maxFrame⟩ := w1
  cases dirty with
  | true => rfl
  | false => simp only [Bool.false_eq_true, if_false, List.append_nil]

theorem bodyFits_of_small : ∀ {v : Option Bytes}, bodySmall v = true → BodyFits v
  | none, _ => trivial
  | some _, h => of_decide_eq_true h

theorem wrote_fits (w : WSt) (v : WVal) (h : Fits o (wrote w v)) :
    Fits o w ∧ (encTy v.cid v.ty w.enc).2 < two63 ∧ BodyFits v.body := by
  obtain ⟨h1, h2, h3⟩ := h
  simp only [wrote, WSt.addValue, Bool.and_eq_true, decide_eq_true_eq] at h1
  exact ⟨⟨h1.1.1, encTy_small v.cid v.ty w.enc h2, h3⟩, h1.1.2, bodyFits_of_small h1.2⟩

theorem writeStep_fits (w : WSt) (op : WOp) (hg : Fits o (WSt.step wo comp w op)) : Fits o w := by
  cases op with
  | write v =>
    rw [step_write] at hg
    refine (wrote_fits o w v ?_).1
    split at hg
    · exact (flush_fits wo o comp _ hg).1
    · exact hg
  | endStream =>
    rw [step_endStream] at hg
    exact (flush_fits wo o comp w hg).1
  | control f b =>
    exact (flush_fits wo o comp w (writeBlock_fits wo o comp _ _ _ hg).1).1

theorem writeRun_fits : ∀ (ops : List WOp) (w : WSt), Fits o (WSt.run wo comp w ops) → Fits o w
  | [], _, h => h
  | op :: ops, w, h => writeStep_fits wo o comp w op (writeRun_fits ops _ h)

theorem opsValues_cons (op : WOp) (ops : List WOp) : opsValues (op :: ops) = opsValues [op] ++ opsValues ops := by
  cases op <;> rfl

/-- The reader, having consumed `w.out`, has delivered `flushed` and is in context `D`; the pending
    typedefs take `D` to the encoder's context, in which the pending value records `recs` decode.
    `clean`: nothing written since the last EOS, so omitting the marker is harmless. -/
structure WInvAt (D : Ctx) (flushed : List RVal) (recs : List Rec) (w : WSt) : Prop where
  delivered : Delivers o decomp [] w.out flushed D
  typedefs : Defines D w.enc.bytes w.enc.ctx
  values : w.values = recsBytes recs
  recsOk : ∀ r ∈ recs, RecOk o w.enc.ctx r
  cache : CacheOk w.enc
  clean : w.dirty = false → D = []

/-- Writer invariant: `vs` are the values written so far. -/
def WInv (w : WSt) (vs : List RVal) : Prop :=
  ∃ D flushed recs, WInvAt o decomp D flushed recs w ∧ vs = flushed ++ recs.map Rec.toRVal

theorem wrote_inv (w : WSt) (vs : List RVal) (v : WVal) (hi : WInv o decomp w vs)
    (hv : v.ty.valid = true) (hval : o.validate = true → validate v.ty v.body = true)
    (hg : Fits o (wrote w v)) : WInv o decomp (wrote w v) (vs ++ [⟨v.ty, v.body⟩]) := by
  obtain ⟨D, flushed, recs, hi, hvs⟩ := hi
  obtain ⟨_, hid, hfit⟩ := wrote_fits o w v hg
  obtain ⟨hok, hty⟩ := encTy_spec v.cid v.ty w.enc hv hi.cache hg.2.1
  obtain ⟨e, he⟩ := hok.ext
  obtain ⟨d, hd, hdec⟩ := hok.dec
  refine ⟨D, flushed, recs ++ [((encTy v.cid v.ty w.enc).2, v.ty, v.body)],
    ⟨hi.delivered, ?_, ?_, ?_, hok.cache, hi.clean⟩, ?_⟩
  · show Defines D (encTy v.cid v.ty w.enc).1.bytes _
    rw [hd]; exact hi.typedefs.trans hdec
  · show w.values ++ _ ++ _ = _
    rw [hi.values, recsBytes, recsBytes, List.flatMap_append, List.flatMap_singleton, recBytes, List.append_assoc]
  · intro r hr
    show RecOk o (encTy v.cid v.ty w.enc).1.ctx r
    rcases List.mem_append.mp hr with hr | hr
    · rw [he]; exact (hi.recsOk r hr).append e
    · rw [List.mem_singleton.mp hr]; exact ⟨hty, hid, hfit, hval⟩
  · rw [hvs, List.map_append, List.append_assoc]; rfl

variable (hlz : ∀ b z, comp b = some z → decomp z b.length = some b)
include hlz

theorem flush_inv (w : WSt) (vs : List RVal) (hi : WInv o decomp w vs) (hg : Fits o (w.flush wo comp)) :
    WInvAt o decomp w.enc.ctx vs [] (w.flush wo comp) := by
  obtain ⟨D, flushed, recs, hi, hvs⟩ := hi
  obtain ⟨_, hft, hfv⟩ := flush_fits wo o comp w hg
  have hctx : decTypedefs D w.enc.bytes = .ok w.enc.ctx := hi.typedefs.ok
  have hdv : decodeVals o w.enc.ctx w.values = .ok (recs.map Rec.toRVal) :=
    hi.values ▸ decodeVals_recs o w.enc.ctx recs hi.recsOk
  refine ⟨?_, ?_, rfl, nofun, ?_, ?_⟩
  · rw [flush_out, hvs]
    have := (hi.delivered.trans (delivers_types wo o comp decomp hlz hft hctx)).trans
      (delivers_values wo o comp decomp hlz hfv hdv)
    rwa [List.append_nil] at this
  · rw [flush_enc]; exact .nil _
  · rw [flush_enc]; exact hi.cache
  · intro hd
    obtain ⟨hd0, hb⟩ := flush_dirty wo comp w hd
    rw [hb, decTypedefs_nil] at hctx
    cases hctx
    exact hi.clean hd0

theorem endStream_delivers (w : WSt) (vs : List RVal) (hi : WInv o decomp w vs)
    (hg : Fits o (WSt.step wo comp w .endStream)) :
    Delivers o decomp [] (WSt.step wo comp w .endStream).out vs [] := by
  rw [step_endStream] at hg ⊢
  have hf := flush_inv wo o comp decomp hlz w vs hi hg
  show Delivers o decomp [] ((w.flush wo comp).out ++ _) vs []
  cases hdy : (w.flush wo comp).dirty with
  | true =>
    have := hf.delivered.trans (delivers_eos w.enc.ctx)
    rwa [List.append_nil] at this
  | false =>
    have hd := hf.delivered
    rw [hf.clean hdy] at hd
    rw [if_neg Bool.false_ne_true, List.append_nil]; exact hd

theorem step_inv (w : WSt) (vs : List RVal) (op : WOp) (hi : WInv o decomp w vs)
    (hv : ∀ v, op = .write v → v.ty.valid = true ∧ (o.validate = true → validate v.ty v.body = true))
    (hg : Fits o (WSt.step wo comp w op)) :
    WInv o decomp (WSt.step wo comp w op) (vs ++ (opsValues [op]).map fun v => ⟨v.ty, v.body⟩) := by
  cases op with
  | write v =>
    obtain ⟨hvalid, hvalidate⟩ := hv v rfl
    rw [step_write] at hg ⊢
    split
    · rename_i hfl
      rw [if_pos hfl] at hg
      have hw := wrote_inv o decomp w vs v hi hvalid hvalidate (flush_fits wo o comp _ hg).1
      have hinv := flush_inv wo o comp decomp hlz _ _ hw hg
      exact ⟨_, _, [], hinv, (List.append_nil _).symm⟩
    · rename_i hfl
      rw [if_neg hfl] at hg
      exact wrote_inv o decomp w vs v hi hvalid hvalidate hg
  | endStream =>
    have hd := endStream_delivers wo o comp decomp hlz w vs hi hg
    rw [step_endStream] at hd ⊢
    exact ⟨[], vs, [], ⟨hd, fun _ => rfl, rfl, nofun, nofun, fun _ => rfl⟩, rfl⟩
  | control f b =>
    obtain ⟨hgf, hfc⟩ := writeBlock_fits wo o comp _ controlFrame (UInt8.ofNat f :: b) hg
    have hf := flush_inv wo o comp decomp hlz w vs hi hgf
    refine ⟨w.enc.ctx, vs, [], ⟨?_, ?_, ?_, nofun, ?_, ?_⟩, rfl⟩
    · show Delivers o decomp [] (WSt.writeBlock _ wo comp _ _).out vs _
      rw [writeBlock_out]
      have := hf.delivered.trans (delivers_control wo o comp decomp hlz (D := w.enc.ctx) rfl hfc)
      rwa [List.append_nil] at this
    · show Defines _ (WSt.writeBlock _ wo comp _ _).enc.bytes _
      rw [writeBlock_enc]; exact hf.typedefs
    · show (WSt.writeBlock _ wo comp _ _).values = _
      rw [writeBlock_values]; exact hf.values
    · show CacheOk (WSt.writeBlock _ wo comp _ _).enc
      rw [writeBlock_enc]; exact hf.cache
    · intro hd; cases (writeBlock_dirty wo comp _ _ _ hd).2

theorem run_inv : ∀ (ops : List WOp) (w : WSt) (vs : List RVal), WInv o decomp w vs →
    (∀ v ∈ opsValues ops, v.ty.valid = true ∧ (o.validate = true → validate v.ty v.body = true)) →
    Fits o (WSt.run wo comp w ops) →
    WInv o decomp (WSt.run wo comp w ops) (vs ++ (opsValues ops).map fun v => ⟨v.ty, v.body⟩) := by
  intro ops
  induction ops with
  | nil => intro w vs hi _ _; simpa [WSt.run, opsValues] using hi
  | cons op ops ih =>
    intro w vs hi hv hg
    rw [opsValues_cons] at hv ⊢
    have h1 := step_inv wo o comp decomp hlz w vs op hi
      (fun v hop => hv v (List.mem_append_left _ (by rw [hop]; exact List.mem_singleton_self v)))
      (writeRun_fits wo o comp ops _ hg)
    have h2 := ih (WSt.step wo comp w op) _ h1 (fun v hm => hv v (List.mem_append_right _ hm)) hg
    rw [List.map_append, ← List.append_assoc]
    exact h2

/-- **The round trip**, in prefix form: after the bytes of a closed writer the reader has
    delivered exactly the written values and is back in its initial state, whatever follows. -/
theorem roundtrip_prefix (ops : List WOp)
    (hv : ∀ v ∈ opsValues ops, v.ty.valid = true ∧ (o.validate = true → validate v.ty v.body = true))
    (hg : Fits o (writeAll wo comp ops)) :
    Delivers o decomp [] (writeAll wo comp ops).out ((opsValues ops).map fun v => ⟨v.ty, v.body⟩) [] := by
  have h0 : WInv o decomp ({} : WSt) [] :=
    ⟨[], [], [], ⟨Delivers.nil [], fun _ => rfl, rfl, nofun, nofun, fun _ => rfl⟩, rfl⟩
  have h1 := run_inv wo o comp decomp hlz ops {} [] h0 hv (writeStep_fits wo o comp _ _ hg)
  rw [List.nil_append] at h1
  exact endStream_delivers wo o comp decomp hlz _ _ h1 hg

theorem roundtrip (ops : List WOp)
    (hv : ∀ v ∈ opsValues ops, v.ty.valid = true ∧ (o.validate = true → validate v.ty v.body = true))
    (hg : Fits o (writeAll wo comp ops)) :
    (readAll o decomp (writeAll wo comp ops).out).vals = (opsValues ops).map (fun v => ⟨v.ty, v.body⟩) ∧
    (readAll o decomp (writeAll wo comp ops).out).out = .eof := by
  have h := roundtrip_prefix wo o comp decomp hlz ops hv hg []
  rw [List.append_nil, readStream_nil, List.append_nil] at h
  exact h

end writer

end Zed.Zng

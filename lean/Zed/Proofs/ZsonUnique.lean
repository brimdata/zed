import Zed.Model.ZsonGuard
import Mathlib.Data.List.Perm.Subperm
/-!
  C02 — `insertUniq`, the sorted duplicate-free insertion behind `UniqueTypes` / `normalizeElems`: on a
  fully populated union container, sorting and de-duplicating the member types that occur gives back
  the canonical member list.
-/
namespace Zed.Zson

theorem chainFrom_mem (x : Ty) : (r : List Ty) → chainFrom x r = true → ∀ z ∈ r, tyCmp x z = .lt ∧ tyCmp z x = .gt ∧ x ≠ z
  | [], _, z, hz => by simp at hz
  | y :: r, h, z, hz => by
    simp only [chainFrom, Bool.and_eq_true, beq_iff_eq, bne_iff_ne, ne_eq] at h
    rcases List.mem_cons.mp hz with rfl | hz
    · exact ⟨h.1.1.1, h.1.1.2, h.1.2⟩
    · exact chainFrom_mem x r h.2 z hz

theorem insertUniq_lt_all (x : Ty) : (l : List Ty) → (∀ z ∈ l, tyCmp x z = .lt ∧ x ≠ z) → insertUniq x l = x :: l
  | [], _ => rfl
  | y :: r, h => by
    have := h y (by simp)
    simp [insertUniq, this.1, this.2]

theorem filter_congr_mem {α} (l : List α) (p q : α → Bool) (h : ∀ z ∈ l, p z = q z) : l.filter p = l.filter q := by
  apply List.filter_congr; exact h

/-- inserting a member of a chain into a sub-chain (given as a filter) gives the sub-chain
    with that member added. -/
theorem insertUniq_filter (x : Ty) : (M : List Ty) → chain M = true → x ∈ M → (P : Ty → Bool) →
    insertUniq x (M.filter P) = M.filter (fun y => P y || y == x)
  | [], _, hx, _ => by simp at hx
  | y :: r, hc, hx, P => by
    simp only [chain, Bool.and_eq_true] at hc
    have hyr := chainFrom_mem y r hc.1
    by_cases hxy : x = y
    · subst hxy
      have hrest : r.filter (fun z => P z || z == x) = r.filter P := by
        apply List.filter_congr
        intro z hz
        have := (hyr z hz).2.2
        have : (z == x) = false := by simp [beq_eq_false_iff_ne]; exact fun h => this h.symm
        simp [this]
      by_cases hp : P x = true
      · simp [List.filter, hp, insertUniq, hrest]
      · have hp' : P x = false := by simpa using hp
        have hl : ∀ z ∈ r.filter P, tyCmp x z = .lt ∧ x ≠ z := by
          intro z hz
          have hz' := (List.mem_filter.mp hz).1
          exact ⟨(hyr z hz').1, (hyr z hz').2.2⟩
        simp [List.filter, hp', insertUniq_lt_all x _ hl, hrest]
    · have hxr : x ∈ r := by
        rcases List.mem_cons.mp hx with h | h
        · exact absurd h hxy
        · exact h
      have ih := insertUniq_filter x r hc.2 hxr P
      have hyx : (y == x) = false := by simp [beq_eq_false_iff_ne]; exact fun h => hxy h.symm
      have hcmp := hyr x hxr
      by_cases hp : P y = true
      · have hnlt : ¬ tyCmp x y = .lt := by rw [hcmp.2.1]; decide
        simp [List.filter, hp, insertUniq, hxy, hnlt, ih]
      · have hp' : P y = false := by simpa using hp
        simp [List.filter, hp', hyx, ih]

theorem foldl_insertUniq_filter (M : List Ty) (hc : chain M = true) : (L : List Ty) → (∀ x ∈ L, x ∈ M) → (P : Ty → Bool) →
    L.foldl (fun acc t => insertUniq t acc) (M.filter P) = M.filter (fun y => P y || L.contains y)
  | [], _, P => by simp
  | x :: r, h, P => by
    have hx := h x (by simp)
    simp only [List.foldl]
    rw [insertUniq_filter x M hc hx P]
    rw [foldl_insertUniq_filter M hc r (fun z hz => h z (by simp [hz]))]
    apply List.filter_congr
    intro z _
    have : (z == x) = decide (z = x) := by by_cases h : z = x <;> simp [h]
    simp [Bool.or_assoc, this]

/-- `UniqueTypes` of a list that mentions exactly the members of a chain is that chain. -/
theorem foldl_insertUniq_eq (M : List Ty) (hc : chain M = true) (L : List Ty)
    (h1 : ∀ x ∈ L, x ∈ M) (h2 : ∀ m ∈ M, m ∈ L) :
    L.foldl (fun acc t => insertUniq t acc) [] = M := by
  have := foldl_insertUniq_filter M hc L h1 (fun _ => false)
  simp only [List.filter_false, Bool.false_or] at this
  rw [this]
  apply List.filter_eq_self.mpr
  intro m hm
  simpa using h2 m hm

/-- pigeonhole: a duplicate-free list of members at least as long as the member list contains
    every member. -/
theorem covers_of_length (seen M : List Ty) (hn : seen.Nodup) (hs : ∀ x ∈ seen, x ∈ M)
    (hl : M.length ≤ seen.length) : ∀ m ∈ M, m ∈ seen := by
  have sp : seen.Subperm M := List.subperm_of_subset hn hs
  have p : seen.Perm M := sp.perm_of_length_le hl
  intro m hm
  exact p.symm.subset hm

theorem mem_insertUniq_iff (x y : Ty) : (l : List Ty) → (y ∈ insertUniq x l ↔ y = x ∨ y ∈ l)
  | [] => by simp [insertUniq]
  | z :: r => by
    unfold insertUniq
    by_cases h1 : x = z
    · subst h1; simp
    · by_cases h2 : tyCmp x z = .lt
      · simp [h1, h2]
      · simp only [h1, h2, if_false, List.mem_cons, mem_insertUniq_iff x y r]
        exact or_left_comm

theorem mem_foldl_insertUniq_iff (y : Ty) : (L acc : List Ty) →
    (y ∈ L.foldl (fun a t => insertUniq t a) acc ↔ y ∈ acc ∨ y ∈ L)
  | [], acc => by simp
  | x :: r, acc => by
    simp only [List.foldl, mem_foldl_insertUniq_iff y r, mem_insertUniq_iff, List.mem_cons]
    exact ⟨fun h => h.elim (fun h => h.elim (fun e => .inr (.inl e)) .inl) (fun h => .inr (.inr h)),
      fun h => h.elim (fun h => .inl (.inr h)) (fun h => h.elim (fun e => .inl (.inl e)) .inr)⟩

theorem mem_insertDup_iff (x y : Ty) : (l : List Ty) → (y ∈ insertDup x l ↔ y = x ∨ y ∈ l)
  | [] => by simp [insertDup]
  | z :: r => by
    unfold insertDup
    by_cases h2 : tyCmp x z = .lt
    · simp [h2]
    · simp only [h2, if_false, List.mem_cons, mem_insertDup_iff x y r]
      exact or_left_comm

theorem mem_foldr_insertDup_iff (y : Ty) : (L : List Ty) → (y ∈ L.foldr insertDup [] ↔ y ∈ L)
  | [] => by simp
  | z :: r => by simp only [List.foldr, mem_insertDup_iff, mem_foldr_insertDup_iff y r, List.mem_cons]

end Zed.Zson

import Zed.Proofs.FuseBuild
/-!
  C20 helper lemmas: the `Fuser` (buffer / spill, schema), the shaper loop and its cache.
-/
namespace Zed.Fuse

/-- the shaper cache after a prefix of the input -/
def cacheAfter (T : Ty) : Cache → List Input → Cache
  | c, [] => c
  | c, x :: xs => cacheAfter T (evalShaper T c x.ty x.val).2 xs

/-- `shapeAll` and `guardsFrom` are this scan -/
theorem scan_spec {β : Type} (T : Ty) (g : Cache → Input → β) (f : Cache → List Input → List β)
    (hnil : ∀ c, f c [] = [])
    (hcons : ∀ c x xs, f c (x :: xs) = g c x :: f (evalShaper T c x.ty x.val).2 xs)
    (c : Cache) (xs : List Input) :
    (f c xs).length = xs.length ∧
      ∀ i (h : i < xs.length), (f c xs)[i]? = some (g (cacheAfter T c (xs.take i)) xs[i]) := by
  induction xs generalizing c with
  | nil => exact ⟨by rw [hnil]; rfl, fun i h => nomatch h⟩
  | cons x xs ih =>
    rw [hcons]
    refine ⟨by rw [List.length_cons, (ih _).1, List.length_cons], fun i h => ?_⟩
    cases i with
    | zero => rfl
    | succ i => exact (ih _).2 i (Nat.lt_of_succ_lt_succ h)

theorem shapeAll_spec (T : Ty) (c : Cache) (xs : List Input) :
    (shapeAll T c xs).length = xs.length ∧ ∀ i (h : i < xs.length),
      (shapeAll T c xs)[i]? = some (evalShaper T (cacheAfter T c (xs.take i)) xs[i].ty xs[i].val).1 :=
  scan_spec T (fun c x => (evalShaper T c x.ty x.val).1) (shapeAll T) (fun _ => rfl) (fun _ _ _ => rfl) c xs

theorem guardsFrom_spec (T : Ty) (c : Cache) (xs : List Input) :
    (guardsFrom T c xs).length = xs.length ∧ ∀ i (h : i < xs.length),
      (guardsFrom T c xs)[i]? = some (evalGuard T (cacheAfter T c (xs.take i)) xs[i].ty xs[i].val) :=
  scan_spec T (fun c x => evalGuard T c x.ty x.val) (guardsFrom T) (fun _ => rfl) (fun _ _ _ => rfl) c xs

theorem store_spec (f : Fuser) (x : Input) :
    (f.store x).stored = f.stored ++ [x] ∧ (f.store x).schema = f.schema ∧
    (f.store x).types = f.types := by
  unfold Fuser.store Fuser.stored
  cases hsp : f.spill with
  | some sp => simp
  | none =>
    by_cases hn : f.nbytes + x.nbytes ≥ f.memMax
    · simp [hn]
    · simp [hn]

/-- What `Read` will see after `writeAll`: everything written, in order, whatever was spilled;
    and the schema is the fold of `merge` over the distinct types in first-seen order. -/
theorem writeAll_view (fuel : Nat) (f : Fuser) (xs : List Input) :
    (Fuser.writeAll fuel f xs).map (fun f' => (f'.stored, f'.schema)) =
      (mixinAll fuel f.schema (firstSeen f.types (xs.map (·.ty)))).map fun s => (f.stored ++ xs, s) := by
  induction xs generalizing f with
  | nil => simp [Fuser.writeAll, firstSeen, mixinAll]
  | cons x xs ih =>
    simp only [Fuser.writeAll, Fuser.write, Fuser.mix, List.map_cons, firstSeen]
    by_cases hm : x.ty ∈ f.types
    · simp only [hm, if_true, Option.map_some, Option.bind_some]
      obtain ⟨s1, s2, s3⟩ := store_spec f x
      rw [ih (f.store x), s1, s2, s3]
      simp
    · simp only [hm, if_false, mixinAll]
      cases hmx : mixin fuel f.schema x.ty with
      | none => simp
      | some s =>
        simp only [Option.map_some, Option.bind_some]
        obtain ⟨s1, s2, s3⟩ := store_spec { f with types := x.ty :: f.types, schema := s } x
        rw [ih, s1, s2, s3]
        simp [Fuser.stored]

/-- The outputs for a fused type (`none`: no input at all). -/
def shapeWith : Option Ty → List Input → List Out
  | none, _ => []
  | some T, xs => shapeAll T [] xs

/-- The `fuse` operator is: the aggregate's type, then the shaper over the input in order.
    The memory limit does not occur on the right-hand side. -/
theorem fuse_eq (fuel memMax : Nat) (xs : List Input) :
    fuse fuel memMax xs = (aggType fuel (xs.map (·.ty))).map fun s => shapeWith s xs := by
  have h := writeAll_view fuel { memMax := memMax } xs
  have h0 : ({ memMax := memMax } : Fuser).stored = [] := rfl
  have h1 : ({ memMax := memMax } : Fuser).schema = none := rfl
  have h2 : ({ memMax := memMax } : Fuser).types = [] := rfl
  rw [h0, h1, h2, List.nil_append] at h
  unfold fuse aggType
  have : ∀ o : Option Fuser, o.map Fuser.readAll = (o.map fun f' => (f'.stored, f'.schema)).map fun p => shapeWith p.2 p.1 := by
    intro o; cases o with
    | none => rfl
    | some f =>
      simp only [Option.map_some, Fuser.readAll, shapeWith]
      cases f.schema <;> rfl
  rw [this, h]
  cases mixinAll fuel none (firstSeen [] (xs.map (·.ty))) <;> simp

/-- the decision tree `evalShaper` and `evalGuard` share, leaf by leaf, with both results -/
inductive EvalCase (T : Ty) (c : Cache) (a : Ty) (v : Val) : Out × Cache → Bool → Prop
  | error : a.isError = true → EvalCase T c a v (.val a v, c) (a == T)
  | null : a.isError = false → v = .null → EvalCase T c a v (.val T .null, c) true
  | same : a.isError = false → a.under = T.under → EvalCase T c a v (.val T v, c) true
  | cached {typ s} : a.isError = false → v ≠ .null → a.under ≠ T.under → c.find a.under = some (typ, s) →
      EvalCase T c a v (outOfBuild (build s v), c) (s.toType == T && goodStep a s)
  | refused {e} : a.isError = false → v ≠ .null → a.under ≠ T.under → c.find a.under = none →
      newShaper a T = .error e → EvalCase T c a v (.err e, c) false
  | planned {typ s} : a.isError = false → v ≠ .null → a.under ≠ T.under → c.find a.under = none →
      newShaper a T = .ok (typ, s) →
      EvalCase T c a v (outOfBuild (build s v), (a.under, typ, s) :: c) (s.toType == T && goodStep a s)

theorem evalShaper_case (T : Ty) (c : Cache) (a : Ty) (v : Val) :
    EvalCase T c a v (evalShaper T c a v) (evalGuard T c a v) := by
  unfold evalShaper evalGuard
  by_cases he : a.isError = true
  · rw [if_pos he, if_pos he]; exact .error he
  have he' : a.isError = false := by simpa using he
  rw [if_neg he, if_neg he]
  by_cases hn : v = .null
  · rw [if_pos hn, if_pos hn]; exact .null he' hn
  rw [if_neg hn, if_neg hn]
  by_cases hu : a.under = T.under
  · rw [if_pos hu, if_pos hu]; exact .same he' hu
  rw [if_neg hu, if_neg hu]
  cases hf : c.find a.under with
  | some p => exact .cached he' hn hu hf
  | none =>
    cases hs : newShaper a T with
    | error e => exact .refused he' hn hu hf hs
    | ok p => exact .planned he' hn hu hf hs

theorem evalShaper_good (T : Ty) (c : Cache) (a : Ty) (v : Val)
    (hg : evalGuard T c a v = true) (ht : hasType v a = true) :
    ∃ v', (evalShaper T c a v).1 = .val T v' ∧ ∀ l, l ∈ leaves T v' ↔ l ∈ leaves a v := by
  have key : ∀ s : Step, (s.toType == T && goodStep a s) = true →
      ∃ v', outOfBuild (build s v) = .val T v' ∧ ∀ l, l ∈ leaves T v' ↔ l ∈ leaves a v := by
    intro s hs
    simp only [Bool.and_eq_true, beq_iff_eq] at hs
    obtain ⟨v', h1, h2⟩ := build_good s a v hs.2 ht
    rw [hs.1] at h1 h2
    exact ⟨v', by rw [h1]; rfl, h2⟩
  have hcase := evalShaper_case T c a v
  -- the guard is generalised, not rewritten to `true`: `cases` cannot unify `true` with `a == T`
  generalize evalShaper T c a v = r, evalGuard T c a v = g at hcase hg ⊢
  cases hcase with
  | error _ => obtain rfl := beq_iff_eq.1 hg; exact ⟨v, rfl, fun _ => Iff.rfl⟩
  | null _ hn => exact ⟨.null, rfl, fun _ => by rw [hn, leaves_null, leaves_null]⟩
  | same _ hu => exact ⟨v, rfl, fun l => by rw [leaves_under hu.symm v]⟩
  | cached _ _ _ _ => exact key _ hg
  | refused _ _ _ _ _ => exact absurd hg (by decide)
  | planned _ _ _ _ _ => exact key _ hg

theorem goodStep_congr {a a' : Ty} (h : a.under = a'.under) (s : Step) : goodStep a s = goodStep a' s := by
  cases s <;> simp only [goodStep, h, fields_congr h, members_congr h, inner_congr h, Ty.isUnion, Ty.isRecord]

/-- every cached shaper lands in `T` and is good for the types that share its key -/
def CacheOK (T : Ty) (c : Cache) : Prop :=
  ∀ k typ s, c.find k = some (typ, s) → s.toType = T ∧ ∃ a', a'.under = k ∧ goodStep a' s = true

theorem cacheOK_nil (T : Ty) : CacheOK T [] := by
  intro k typ s h; simp [Cache.find] at h

theorem evalGuard_of_plan {T : Ty} {c : Cache} {a : Ty} (v : Val) (hc : CacheOK T c)
    (herr : a.isError = false ∨ a = T)
    (hp : ∃ s, newShaper a T = .ok (T, s) ∧ s.toType = T ∧ goodStep a s = true) :
    evalGuard T c a v = true ∧ CacheOK T (evalShaper T c a v).2 := by
  obtain ⟨s', h1, h2, h3⟩ := hp
  have hcase := evalShaper_case T c a v
  generalize evalShaper T c a v = r, evalGuard T c a v = g at hcase ⊢
  cases hcase with
  | error he =>
    rcases herr with h' | h'
    · rw [h'] at he; exact absurd he (by decide)
    · exact ⟨by simp [h'], hc⟩
  | null _ _ => exact ⟨rfl, hc⟩
  | same _ _ => exact ⟨rfl, hc⟩
  | @cached typ s _ _ _ hf =>
    obtain ⟨g1, a', g2, g3⟩ := hc _ _ _ hf
    exact ⟨by simp [g1, goodStep_congr g2.symm s, g3], hc⟩
  | refused _ _ _ _ hn => rw [h1] at hn; nomatch hn
  | @planned typ s _ _ _ _ hn =>
    rw [h1] at hn
    obtain ⟨rfl, rfl⟩ := Prod.mk.inj (Except.ok.inj hn)
    refine ⟨by simp [h2, h3], ?_⟩
    intro k typ' s'' hk
    simp only [Cache.find] at hk
    by_cases hka : a.under = k
    · simp only [hka, if_true, Option.some.injEq, Prod.mk.injEq] at hk
      obtain ⟨_, rfl⟩ := hk
      exact ⟨h2, a, hka, h3⟩
    · simp only [hka, if_false] at hk
      exact hc _ _ _ hk

end Zed.Fuse

import Zed.Proofs.ZsonTypeRT
import Zed.Proofs.ZsonFormat
/-!
  C02 — value round trip, plain fragment: decorators, conversion under casts, what is proved of a value
  (`GoodP`: decorated, `GoodV`; before `decorate` under a cast of its type, `Und`), the leaves (null,
  primitive, type value, enum) and the list-level induction steps.
-/
namespace Zed.Zson
open Generated

/-- the decorator `Formatter.decorate(typ, false, null)` writes for a plain type. -/
def decoP (t : Ty) (null : Bool) : List Deco :=
  if (!(null && t != tyNull) && implied t) then []
  else if selfDescribing t && !null then []
  else [.cast (tyAst t)]

theorem nameOf_plain (st : FState) (t : Ty) (h : plainTy t = true) : st.nameOf t = none := by
  cases t <;> first | rfl | cases h

theorem hasName_plain (st : FState) (t : Ty) (h : plainTy t = true) : st.hasName t = false := by
  cases t <;> first | rfl | cases h

theorem decorateM_plain (st : FState) (t : Ty) (null : Bool) (h : plainTy t = true) :
    decorateM st t false null = (st, decoP t null) := by
  unfold decorateM decoP
  simp only [Bool.false_or, nameOf_plain st t h, fmtType_plain st t h]
  split
  · rfl
  · split
    · cases t <;> first | rfl | cases h
    · rfl

def isCast : Deco → Bool
  | .cast _ => true
  | .def_ _ => false

theorem wrapDecos_append_cast (T : ATy) : (ds : List Deco) → (v : AVal) → (∀ d ∈ ds, isCast d = true) →
    wrapDecos v (ds ++ [.cast T]) = .cast (wrapDecos v ds) T
  | [], v, _ => by simp [wrapDecos]
  | .cast T2 :: ds, v, h => by
    simp only [List.cons_append, wrapDecos]
    exact wrapDecos_append_cast T ds _ (fun d hd => h d (by simp [hd]))
  | .def_ n :: ds, v, h => by
    have := h (.def_ n) (by simp)
    simp [isCast] at this

theorem mkVal_append_cast (a : AAny) (T : ATy) (ds : List Deco) (h : ∀ d ∈ ds, isCast d = true) :
    mkVal a (ds ++ [.cast T]) = .cast (mkVal a ds) T := by
  cases ds with
  | nil => simp [mkVal, wrapDecos]
  | cons d ds =>
    cases d with
    | def_ n => have := h (.def_ n) (by simp); simp [isCast] at this
    | cast T2 =>
      simp only [List.cons_append, mkVal]
      exact wrapDecos_append_cast T ds _ (fun d hd => h d (by simp [hd]))

/-- a decorator carrying the type syntax of a well-formed plain type. -/
def GoodDeco (d : Deco) : Prop := ∃ t', plainTy t' = true ∧ wfTy t' = true ∧ d = .cast (tyAst t')

theorem GoodDeco.isCast {d : Deco} (h : GoodDeco d) : isCast d = true := by
  obtain ⟨_, _, _, rfl⟩ := h; rfl

/-- the only decorator `decoP` ever gives is the cast to `t` itself -/
theorem decoP_mem {t : Ty} {null : Bool} {d : Deco} (hd : d ∈ decoP t null) : d = .cast (tyAst t) := by
  unfold decoP at hd
  split at hd
  · cases hd
  · split at hd
    · cases hd
    · exact List.mem_singleton.mp hd

theorem decoP_isCast (t : Ty) (null : Bool) : ∀ d ∈ decoP t null, isCast d = true :=
  fun _ hd => decoP_mem hd ▸ rfl

theorem typeCheck_union (castT c : Ty) (ms : Tys) (h : unionMembers c.under = some ms) :
    typeCheck castT (some c) = .ok () := by
  unfold typeCheck
  simp only
  split
  · rfl
  · rw [if_pos (by simp [h])]

theorem castStep_union_parent (castT c : Ty) (ms : Tys) (h : unionMembers c.under = some ms)
    (run : Option Ty → Except Err (AState × TV)) :
    castStep (some c) castT run =
      (castStep none castT run).bind fun r => (convertUnion r.2 ms c).map fun u => (r.1, u) := by
  unfold castStep
  have hn : typeCheck castT none = .ok () := rfl
  rw [typeCheck_union castT c ms h, hn]
  simp only [h, bind, Except.bind, pure, Except.pure]
  cases unionMembers castT.under with
  | none =>
    simp only
    cases run (some castT) with
    | error e => rfl
    | ok r =>
      obtain ⟨s, tv⟩ := r
      simp only
      cases convertUnion tv ms c <;> rfl
  | some ms2 =>
    simp only
    cases run none with
    | error e => rfl
    | ok r =>
      obtain ⟨s, tv⟩ := r
      simp only
      cases convertUnion tv ms2 castT with
      | error e => rfl
      | ok r2 =>
        simp only
        cases convertUnion r2 ms c <;> rfl

/-- an enclosing union type (possibly under names) only adds a final `convertUnion`. -/
theorem convertValue_union_parent (st : AState) (c : Ty) (ms : Tys) (h : unionMembers c.under = some ms) :
    (x : AVal) → (∀ a n, x ≠ .def_ a n) →
    convertValue st x (some c) =
      (convertValue st x none).bind fun r => (convertUnion r.2 ms c).map fun u => (r.1, u)
  | .implied a, _ => by
    simp only [convertValue, viaUnion, h]
    cases convertAny st a none with
    | error e => rfl
    | ok r =>
      obtain ⟨s, tv⟩ := r
      simp only [bind, Except.bind]
      cases convertUnion tv ms c <;> rfl
  | .def_ a n, hh => absurd rfl (hh a n)
  | .cast of ty, _ => by
    simp only [convertValue]
    generalize preDefs st of = pre
    cases pre with
    | error e => rfl
    | ok st1 =>
      simp only [bind, Except.bind]
      cases convertType st1 ty with
      | error e => rfl
      | ok r =>
        obtain ⟨st2, castT⟩ := r
        simp only
        exact castStep_union_parent castT c ms h _

theorem under_plain (t : Ty) (h : plainTy t = true) : t.under = t := by
  cases t <;> first | rfl | cases h

theorem unionMembers_notUnion (t : Ty) (h : t.isUnion = false) : unionMembers t = none := by
  cases t <;> first | rfl | cases h

theorem unionMembers_plain {t : Ty} (hp : plainTy t = true) (hnu : t.isUnion = false) : unionMembers t.under = none := by
  rw [under_plain t hp]; exact unionMembers_notUnion t hnu

theorem fmtValue_elem_plain (fst : FState) {t : Ty} (v : Val) (pk pi d : Bool) (hp : plainTy t = true)
    (hnu : t.isUnion = false) : fmtValue fst t v pk pi d true = fmtValue fst t v pk pi d false :=
  fmtValue_elem_underNotUnion fst t v pk pi d (by rw [under_plain t hp]; exact hnu)

theorem except_bind_pure_pair {ε α β} (x : Except ε (α × β)) :
    (x >>= fun r => pure (r.1, r.2)) = x := by
  cases x <;> rfl

/-- what the analysis of a formatted value is expected to return when nothing encloses it:
    an element of a union-typed container comes back as its member (the container then
    rebuilds the union), everything else as itself. -/
def expA (t : Ty) (v : Val) (e : Bool) : TV :=
  if e && t.isUnion then
    match t, v with
    | .union ts, .union tag inner => ((ts.get? tag).getD tyNull, strip inner)
    | _, _ => (tyNull, .null)
  else (t, strip v)

/-- The invariant of the plain fragment, for a value written with nothing known about it
    (`parentKnown = false`, `decorate = true`; `e` = it is a container element): neither state changes,
    every decorator is a well-formed plain type, and the syntax reads back both with no enclosing type
    (as `expA`) and under `t` itself.  The second reading is not claimed for a union that is not an
    element: a union under its own cast is converted to the union twice
    (`not_zson_roundtrip_value_union_field_under_decorator`). -/
def GoodV (t : Ty) (v : Val) (e : Bool) : Prop :=
  ∀ (pi : Bool) (fst : FState) (a0 : AState), ∃ any ds,
    fmtValue fst t v false pi true e = (fst, any, ds) ∧ (∀ d ∈ ds, GoodDeco d) ∧
    convertValue a0 (mkVal any ds) none = .ok (a0, expA t v e) ∧
    ((t.isUnion = false ∨ e = true) → convertValue a0 (mkVal any ds) (some t) = .ok (a0, (t, strip v)))

/-- `c` is the plain type `t` under some names (an enum must be bare: `buildEnum`). -/
def CastOf (c t : Ty) : Prop := c.under = t ∧ (enumSyms t ≠ none → c = t)

theorem CastOf.refl (t : Ty) (hp : plainTy t = true) : CastOf t t := ⟨under_plain t hp, fun _ => rfl⟩

theorem CastOf.unionMembers {c t : Ty} (hc : CastOf c t) (hnu : t.isUnion = false) : unionMembers c.under = none := by
  rw [hc.1]; exact unionMembers_notUnion t hnu

theorem CastOf.named (n : Name) {u : Ty} (hp : plainTy u = true) (hen : enumSyms u = none) :
    CastOf (.named n u) u := ⟨under_plain u hp, fun h => absurd hen h⟩

/-- `v` as `formatValue` writes it *before* `decorate`, parent unknown or known (`pk`), reads back under any
    type that is `t` under names; a decorator of its own (`formatVector`/`formatMap`) tolerates `t` only.
    (`pi` only with `pk = false`: `parentImplied` makes a null forget `parentKnown`.) -/
def Und (pk : Bool) (t : Ty) (v : Val) : Prop :=
  ∀ (pi : Bool) (fst : FState) (a0 : AState), (pk = true → pi = false) → ∃ any ds0,
    fmtValue fst t v pk pi false false = (fst, any, ds0) ∧ (∀ d ∈ ds0, GoodDeco d) ∧
    ∀ c, CastOf c t → (pk = true ∨ c = t ∨ noOwnDeco t v = true) →
      convertValue a0 (mkVal any ds0) (some c) = .ok (a0, (c, strip v))

structure GoodP (t : Ty) (v : Val) : Prop where
  dec : ∀ e, GoodV t v e
  und : Und false t v
  /-- known type: union-typed elements lose their member decorators (`noUnionElems`) -/
  known : noUnionElems t = true → Und true t v

@[simp] theorem mkVal_nil (a : AAny) : mkVal a [] = .implied a := rfl
theorem expA_notUnion (et : Ty) (v : Val) (e : Bool) (h : et.isUnion = false) : expA et v e = (et, strip v) := by
  simp [expA, h]

theorem conv_cast (st : AState) (y : AVal) (T : ATy) (t : Ty) (p : Option Ty)
    (hpre : preDefs st y = .ok st)
    (hT : convertType st T = .ok (st, t)) (hu : unionMembers t.under = none)
    (hp : p = none ∨ p = some t) :
    convertValue st (.cast y T) p = convertValue st y (some t) := by
  simp only [convertValue, hpre, pure, Except.pure, bind, Except.bind, hT, castStep, hu]
  rcases hp with rfl | rfl
  · simp only [typeCheck]
    cases convertValue st y (some t) <;> rfl
  · simp only [typeCheck, if_true, hu]
    cases convertValue st y (some t) <;> rfl

theorem conv_cast_none (st st' : AState) (y : AVal) (T : ATy) (t : Ty) (hpre : preDefs st y = .ok st)
    (hT : convertType st T = .ok (st', t)) (hnd : ∀ a n, y ≠ .def_ a n) :
    convertValue st (.cast y T) none = convertValue st' y (some t) := by
  cases hum : unionMembers t.under with
  | none =>
    simp only [convertValue, hpre, pure, Except.pure, bind, Except.bind, hT, castStep, hum, typeCheck]
    cases convertValue st' y (some t) <;> rfl
  | some ms =>
    simp only [convertValue, hpre, pure, Except.pure, bind, Except.bind, hT, castStep, typeCheck, hum]
    rw [convertValue_union_parent st' t ms hum y hnd]
    cases convertValue st' y none with
    | error e => rfl
    | ok r => simp only [Except.bind, Except.map]

theorem conv_implied_some (st : AState) (a : AAny) (t : Ty) (hu : unionMembers t.under = none) :
    convertValue st (.implied a) (some t) = convertAny st a (some t) := by
  simp [convertValue, viaUnion, hu]

theorem mkVal_shape (any : AAny) (ds : List Deco) (h : ∀ d ∈ ds, GoodDeco d) :
    mkVal any ds = .implied any ∨ ∃ y t', plainTy t' = true ∧ wfTy t' = true ∧ mkVal any ds = .cast y (tyAst t') := by
  rcases List.eq_nil_or_concat ds with rfl | ⟨ds', d, rfl⟩
  · exact Or.inl rfl
  · obtain ⟨t', hp, hw, rfl⟩ := h d (by simp)
    refine Or.inr ⟨mkVal any ds', t', hp, hw, ?_⟩
    have := mkVal_append_cast any (tyAst t') ds' (fun x hx => (h x (by simp [hx])).isCast)
    simpa using this

theorem preDefs_mkVal (a0 : AState) (any : AAny) (ds : List Deco) (h : ∀ d ∈ ds, GoodDeco d) :
    preDefs a0 (mkVal any ds) = .ok a0 := by
  rcases mkVal_shape any ds h with h1 | ⟨y, t', hp, hw, h1⟩
  · rw [h1]; rfl
  · rw [h1]; simp [preDefs, convertType_plain a0 t' hp hw, bind, Except.bind, pure, Except.pure]

theorem mkVal_not_def (any : AAny) (ds : List Deco) (h : ∀ d ∈ ds, GoodDeco d) :
    ∀ a n, mkVal any ds ≠ .def_ a n := by
  intro a n
  rcases mkVal_shape any ds h with h1 | ⟨y, t', _, _, h1⟩ <;> rw [h1] <;> simp

/-- A cast by `T`, read with no enclosing type or under `T` itself, is transparent; so `n` copies of it
    reduce to the bare `Any` under `T` — or, for `n = 0` and no enclosing type, to inference. -/
theorem conv_casts (a0 : AState) (any : AAny) (t : Ty) (x : Val) (hp : plainTy t = true) (hw : wfTy t = true)
    (hnu : t.isUnion = false) (hc : convertAny a0 any (some t) = .ok (a0, (t, x))) :
    ∀ (n : Nat) (p : Option Ty), (p = none ∨ p = some t) →
      (n = 0 → p = none → convertAny a0 any none = .ok (a0, (t, x))) →
      convertValue a0 (mkVal any (List.replicate n (.cast (tyAst t)))) p = .ok (a0, (t, x))
  | 0, p, hpar, hi => by
    rcases hpar with rfl | rfl
    · simpa only [List.replicate_zero, mkVal_nil, convertValue, viaUnion] using hi rfl rfl
    · rw [List.replicate_zero, mkVal_nil,
        conv_implied_some a0 any t (unionMembers_plain hp hnu)]
      exact hc
  | n + 1, p, hpar, _ => by
    have hgd : ∀ d ∈ List.replicate n (Deco.cast (tyAst t)), GoodDeco d :=
      fun d hd => ⟨t, hp, hw, List.eq_of_mem_replicate hd⟩
    rw [List.replicate_succ', mkVal_append_cast any _ _ (fun d hd => (hgd d hd).isCast),
      conv_cast a0 _ _ t p (preDefs_mkVal a0 any _ hgd) (convertType_plain a0 t hp hw)
        (unionMembers_plain hp hnu) hpar]
    exact conv_casts a0 any t x hp hw hnu hc n (some t) (Or.inr rfl) (fun _ h => nomatch h)

theorem decorateM_known (st : FState) (t : Ty) (null : Bool) : decorateM st t true null = (st, []) := by
  simp [decorateM]

theorem finish_known (st : FState) (t : Ty) (d null : Bool) (a : AAny) (ds : List Deco) :
    finish st t true d null a ds = (st, a, ds) := by
  cases d <;> simp [finish, decorateM_known]

theorem conv_implied_some' (st : AState) (a : AAny) (t : Ty) (hu : t.isUnion = false) (hp : plainTy t = true) :
    convertValue st (.implied a) (some t) = convertAny st a (some t) :=
  conv_implied_some st a t (unionMembers_plain hp hu)

theorem fmtValue_known_decorate (st : FState) {t : Ty} {v : Val} (hv : wfVal t v = true) (d : Bool) :
    fmtValue st t v true false d false = fmtValue st t v true false false false := by
  cases d
  · rfl
  · cases hn : v.isNull
    · rw [fmtValue_decorate st t v true false (shaped_of_wf hv hn), decorateM_known]
      simp
    · obtain rfl : v = .null := by cases v <;> first | rfl | cases hn
      simp [fmtValue, decorateM_known]

theorem Und.decorated {t : Ty} {v : Val} (h : Und true t v) (hp : plainTy t = true) (hv : wfVal t v = true)
    (fst : FState) (a0 : AState) : ∃ any ds, fmtValue fst t v true false true false = (fst, any, ds) ∧
      convertValue a0 (mkVal any ds) (some t) = .ok (a0, (t, strip v)) := by
  obtain ⟨any, ds, hf, _, hB⟩ := h false fst a0 (fun _ => rfl)
  exact ⟨any, ds, by rw [fmtValue_known_decorate fst hv, hf], hB t (CastOf.refl t hp) (.inl rfl)⟩

/-- what a value case shows of the formatter's output `(any, ds0)` before `decorate`, in one mode. -/
structure BeforeDeco (t : Ty) (v : Val) (pk pi : Bool) (fst : FState) (a0 : AState) (any : AAny)
    (ds0 : List Deco) : Prop where
  fmt : fmtValue fst t v pk pi false false = (fst, any, ds0)
  own : ∀ d ∈ ds0, d = .cast (tyAst t)
  none_if : (pk = true ∨ noOwnDeco t v = true) → ds0 = []
  under : ∀ c, CastOf c t → convertAny a0 any (some c) = .ok (a0, (c, strip v))
  infer : pk = false → ds0 = [] → decoP t (emptyC v) = [] → convertAny a0 any none = .ok (a0, (t, strip v))

theorem BeforeDeco.bare {t : Ty} {v : Val} {pk pi : Bool} {fst : FState} {a0 : AState} {any : AAny}
    (fmt : fmtValue fst t v pk pi false false = (fst, any, []))
    (under : ∀ c, CastOf c t → convertAny a0 any (some c) = .ok (a0, (c, strip v)))
    (infer : pk = false → decoP t (emptyC v) = [] → convertAny a0 any none = .ok (a0, (t, strip v))) :
    BeforeDeco t v pk pi fst a0 any [] :=
  ⟨fmt, nofun, fun _ => rfl, under, fun h _ => infer h⟩

/-- every case but null and union: what `decorate` appends, and the reading through the casts. -/
theorem goodP_of_any {t : Ty} {v : Val} (hp : plainTy t = true) (hw : wfTy t = true)
    (hnu : t.isUnion = false) (hs : Shaped t v)
    (h : ∀ (pk : Bool), (pk = true → noUnionElems t = true) → ∀ (pi : Bool) (fst : FState) (a0 : AState),
      (pk = true → pi = false) → ∃ any ds0, BeforeDeco t v pk pi fst a0 any ds0) :
    GoodP t v := by
  have hgood {ds : List Deco} (hds : ∀ d ∈ ds, d = .cast (tyAst t)) : ∀ d ∈ ds, GoodDeco d :=
    fun d hd => ⟨t, hp, hw, hds d hd⟩
  have hrep {ds : List Deco} (hds : ∀ d ∈ ds, d = .cast (tyAst t)) : ds = List.replicate ds.length (.cast (tyAst t)) :=
    List.eq_replicate_iff.mpr ⟨rfl, hds⟩
  have hund (pk : Bool) (hk : pk = true → noUnionElems t = true) : Und pk t v := by
    intro pi fst a0 hpi
    obtain ⟨any, ds0, hf, hds, h0, hc, _⟩ := h pk hk pi fst a0 hpi
    refine ⟨any, ds0, hf, hgood hds, fun c hcast hside => ?_⟩
    rcases hside with h1 | rfl | h1
    · rw [h0 (.inl h1), mkVal_nil, conv_implied_some a0 any c (hcast.unionMembers hnu)]
      exact hc c hcast
    · rw [hrep hds]
      exact conv_casts a0 any c _ hp hw hnu (hc c hcast) _ (some c) (Or.inr rfl) (fun _ h => nomatch h)
    · rw [h0 (.inr h1), mkVal_nil, conv_implied_some a0 any c (hcast.unionMembers hnu)]
      exact hc c hcast
  refine ⟨fun e pi fst a0 => ?_, hund false (fun h => nomatch h), fun hk => hund true (fun _ => hk)⟩
  obtain ⟨any, ds0, hf, hds0, _, hc, hi⟩ := h false (fun h => nomatch h) pi fst a0 (fun h => nomatch h)
  have hds : ∀ d ∈ ds0 ++ decoP t (emptyC v), d = .cast (tyAst t) := fun d hd =>
    (List.mem_append.mp hd).elim (hds0 d) decoP_mem
  have hfe : fmtValue fst t v false pi true e = (fst, any, ds0 ++ decoP t (emptyC v)) := by
    have : fmtValue fst t v false pi true e = fmtValue fst t v false pi true false := by
      cases e
      · rfl
      · exact fmtValue_elem_plain _ _ _ _ _ hp hnu
    rw [this, fmtValue_decorate fst t v false pi hs, hf, decorateM_plain _ t _ hp]
  have hct := hc t (CastOf.refl t hp)
  refine ⟨any, _, hfe, hgood hds, ?_, fun _ => ?_⟩
  · rw [expA_notUnion t v e hnu, hrep hds]
    refine conv_casts a0 any t _ hp hw hnu hct _ none (Or.inl rfl) (fun h0 _ => ?_)
    obtain ⟨h1, h2⟩ := List.append_eq_nil_iff.mp (List.eq_nil_of_length_eq_zero h0)
    exact hi rfl h1 h2
  · rw [hrep hds]
    exact conv_casts a0 any t _ hp hw hnu hct _ (some t) (Or.inr rfl) (fun _ h => nomatch h)

theorem castOk_null (id : Nat) : castOk C02.idNull id = true := by
  simp [castOk]

theorem ascii_null_ne_string : ascii "null" ≠ ascii "string" := by decide

theorem implied_tyNull : implied tyNull = true := by decide

theorem convAny_null_cast (a0 : AState) (t : Ty) :
    convertAny a0 nullAny (some t) = .ok (a0, (t, .null)) := by
  simp [convertAny, nullAny, lookup_null, ascii_null_ne_string, castOk_null]

theorem convAny_null_none (a0 : AState) :
    convertAny a0 nullAny none = .ok (a0, (tyNull, .null)) := by
  simp [convertAny, nullAny, lookup_null, tyNull]

theorem convertUnion_null (v : Val) (ms : Tys) (c : Ty) : convertUnion (tyNull, v) ms c = .ok (c, .null) :=
  if_pos rfl

/-- an `Any` that is read as null under every cast is read as null under every enclosing type.  For a
    variable `a`: unfolding `convertValue` around the closed term `nullAny` makes the kernel evaluate
    the table lookup inside it. -/
theorem conv_nullish {a0 : AState} {a : AAny} (hnone : convertAny a0 a none = .ok (a0, (tyNull, .null)))
    (hsome : ∀ c, convertAny a0 a (some c) = .ok (a0, (c, .null))) (p : Option Ty) :
    convertValue a0 (.implied a) p = .ok (a0, (p.getD tyNull, .null)) := by
  cases p with
  | none => simp only [convertValue, viaUnion, hnone, Option.getD_none]
  | some c =>
    simp only [convertValue, viaUnion]
    cases unionMembers c.under with
    | none => exact hsome c
    | some ms => simp only [hnone, bind, Except.bind, convertUnion_null]; rfl

theorem conv_nullish_cast {a0 : AState} {a : AAny}
    (hnull : ∀ p, convertValue a0 (.implied a) p = .ok (a0, (p.getD tyNull, .null)))
    (T : ATy) (t : Ty) (p : Option Ty) (hT : convertType a0 T = .ok (a0, t))
    (hp : p = none ∨ (p = some t ∧ unionMembers t.under = none)) :
    convertValue a0 (.cast (.implied a) T) p = .ok (a0, (t, .null)) := by
  rw [convertValue]
  simp only [preDefs, pure, Except.pure, bind, Except.bind, hT, castStep, hnull]
  rcases hp with rfl | ⟨rfl, hu⟩
  · cases unionMembers t.under <;> simp only [typeCheck, Option.getD_none, Option.getD_some, convertUnion_null]
  · simp only [typeCheck, if_true, hu, Option.getD_some]

theorem conv_null (a0 : AState) (p : Option Ty) :
    convertValue a0 (.implied nullAny) p = .ok (a0, (p.getD tyNull, .null)) :=
  conv_nullish (convAny_null_none a0) (convAny_null_cast a0) p

theorem conv_null_cast (a0 : AState) (T : ATy) (t : Ty) (p : Option Ty) (hT : convertType a0 T = .ok (a0, t))
    (hp : p = none ∨ (p = some t ∧ unionMembers t.under = none)) :
    convertValue a0 (.cast (.implied nullAny) T) p = .ok (a0, (t, .null)) :=
  conv_nullish_cast (conv_null a0) T t p hT hp

theorem decoP_null_eq (t : Ty) : decoP t true = if t = tyNull then [] else [.cast (tyAst t)] := by
  unfold decoP
  by_cases hn : t = tyNull
  · subst hn; simp [implied_tyNull]
  · simp [hn]

theorem good_null (t : Ty) (e : Bool) (hp : plainTy t = true) (hw : wfTy t = true) : GoodV t .null e := by
  intro pi fst a0
  by_cases hu : (e && t.isUnion) = true
  · -- element of a union container: a bare `null`
    refine ⟨nullAny, [], ?_, by simp, ?_, fun _ => conv_null a0 (some t)⟩
    · simp [fmtValue, under_plain t hp, hu]
    · rw [mkVal_nil, conv_null]
      simp only [expA, hu, if_true, Option.getD_none]
  · have hu' : (e && t.isUnion) = false := by simpa using hu
    have hfmt : fmtValue fst t .null false pi true e = (fst, nullAny, decoP t true) := by
      simp [fmtValue, under_plain t hp, hu', decorateM_plain fst t true hp]
    have hexp : expA t .null e = (t, .null) := by simp [expA, hu', strip]
    refine ⟨nullAny, decoP t true, hfmt, fun _ hd => ⟨t, hp, hw, decoP_mem hd⟩, ?_, ?_⟩
    · rw [hexp, decoP_null_eq]
      by_cases hn : t = tyNull
      · subst hn; exact conv_null a0 none
      · rw [if_neg hn]
        exact conv_null_cast a0 _ t none (convertType_plain a0 t hp hw) (Or.inl rfl)
    · intro hcond
      have hun : t.isUnion = false := by
        rcases hcond with h | h
        · exact h
        · subst h; simpa using hu'
      rw [decoP_null_eq]
      by_cases hn : t = tyNull
      · subst hn; exact conv_null a0 (some tyNull)
      · rw [if_neg hn]
        exact conv_null_cast a0 _ t (some t) (convertType_plain a0 t hp hw)
          (Or.inr ⟨rfl, unionMembers_plain hp hun⟩)

theorem goodP_null (t : Ty) (hp : plainTy t = true) (hw : wfTy t = true) : GoodP t .null :=
  have hund (pk : Bool) : Und pk t .null := fun pi fst a0 _ =>
    ⟨nullAny, [], by simp [fmtValue], by simp, fun c _ _ => conv_null a0 (some c)⟩
  ⟨fun e => good_null t e hp hw, hund false, fun _ => hund true⟩

theorem implied_prim (id : Nat) : implied (.prim id) = C02.impliedPrims.contains id := by
  simp [implied]

theorem decoP_prim (id : Nat) :
    decoP (.prim id) false = if id ∈ C02.impliedPrims then [] else [.cast (.prim (primName id))] := by
  unfold decoP
  by_cases h : id ∈ C02.impliedPrims <;> simp [implied_prim, selfDescribing, tyAst, h]

theorem id_of_under_prim : (c : Ty) → (id : Nat) → c.under = .prim id → c.id = id ∧ enumSyms c = none
  | .prim i, id, h => by simp [Ty.under] at h; simp [Ty.id, enumSyms, h]
  | .named _ t, id, h => by
    simp only [Ty.under] at h
    exact ⟨by simp [Ty.id, (id_of_under_prim t id h).1], rfl⟩
  | .record _, _, h => by simp [Ty.under] at h
  | .array _, _, h => by simp [Ty.under] at h
  | .set _, _, h => by simp [Ty.under] at h
  | .map _ _, _, h => by simp [Ty.under] at h
  | .union _, _, h => by simp [Ty.under] at h
  | .enum _, _, h => by simp [Ty.under] at h
  | .error _, _, h => by simp [Ty.under] at h

theorem convAny_prim_cast (a0 : AState) (cls : Name) (text : Bytes) (cid id : Nat) (c : Ty)
    (hc : c.under = .prim id) (h1 : lookupPrimitive cls = some cid) (h2 : castOk cid id = true)
    (h3 : cid ≠ C02.idNull) :
    convertAny a0 (.prim cls text) (some c) = .ok (a0, (c, .prim text)) := by
  have hid := id_of_under_prim c id hc
  have : (if cls = ascii "string" then enumSyms c else none) = none := by
    split
    · exact hid.2
    · rfl
  simp [convertAny, h1, this, hid.1, h2, h3]

theorem goodP_prim (id : Nat) (text : Bytes) (hv : wfVal (.prim id) (.prim text) = true) :
    GoodP (.prim id) (.prim text) := by
  simp only [wfVal, primOK, Bool.and_eq_true, bne_iff_ne, ne_eq] at hv
  obtain ⟨⟨⟨hvalid, _⟩, _⟩, hcls⟩ := hv
  cases hl : lookupPrimitive (lexClass id text) with
  | none => simp [hl] at hcls
  | some cid =>
    simp only [hl, Bool.and_eq_true, bne_iff_ne, ne_eq, Bool.or_eq_true, Bool.not_eq_true', beq_iff_eq] at hcls
    obtain ⟨⟨hcast, hcn⟩, himp⟩ := hcls
    refine goodP_of_any rfl (by simpa [wfTy] using hvalid) rfl (.prim id text) fun pk _ pi fst a0 _ =>
      ⟨.prim (lexClass id text) text, [], .bare rfl
        (fun c hc => convAny_prim_cast a0 _ text cid id c hc.1 hl hcast hcn) fun _ hd => ?_⟩
    have hi : id ∈ C02.impliedPrims := by
      by_cases hi : id ∈ C02.impliedPrims
      · exact hi
      · simp [emptyC, decoP_prim, hi] at hd
    obtain rfl : cid = id := by simpa [hi] using himp
    simpa only [convertValue, viaUnion, hcn, if_false, strip] using convertValue_prim_none a0 _ text cid hl

theorem implied_idType : C02.idType ∈ C02.impliedPrims := by decide

theorem goodP_typeval (id : Nat) (ty : Ty) (hv : wfVal (.prim id) (.typeval ty) = true) :
    GoodP (.prim id) (.typeval ty) := by
  simp only [wfVal, Bool.and_eq_true, beq_iff_eq] at hv
  obtain ⟨⟨rfl, hwt⟩, hpt⟩ := hv
  refine goodP_of_any rfl (by decide) rfl (.typeval _ ty) fun pk _ pi fst a0 _ =>
    ⟨.typeval (tyAst ty), [], .bare ?_ (fun c hc => ?_) fun _ _ => ?_⟩
  · simp [fmtValue, finish, canonType_plain [] ty hpt]
  · have hct : c.under = tyType := hc.1
    simp [hct, convertAny, convertType_plain a0 ty hpt hwt, bind, Except.bind, pure, Except.pure, strip]
  · simp [convertAny, tyType, convertType_plain a0 ty hpt hwt, bind, Except.bind, pure, Except.pure, strip]

theorem enumIndex_getD (syms : List Name) (sel : Nat) (hn : syms.Nodup) (h : sel < syms.length) :
    enumIndex syms (syms.getD sel []) = some sel := by
  unfold enumIndex
  have : syms.findIdx (· == syms.getD sel []) = sel := by
    rw [List.getD_eq_getElem?_getD, List.getElem?_eq_getElem h, Option.getD_some]
    exact hn.idxOf_getElem sel h
  rw [this]; simp [h]

theorem goodP_enum (syms : List Name) (sel : Nat) (hw : wfTy (.enum syms) = true)
    (hv : wfVal (.enum syms) (.enum sel) = true) : GoodP (.enum syms) (.enum sel) := by
  simp only [wfVal, decide_eq_true_eq] at hv
  have hw' := hw
  simp only [wfTy, Bool.and_eq_true, Bool.not_eq_true', decide_eq_true_eq] at hw'
  refine goodP_of_any rfl hw rfl (.enum syms sel) fun pk _ pi fst a0 _ =>
    ⟨.enum (syms.getD sel []), [], .bare rfl (fun c hc => ?_) fun _ hd => ?_⟩
  · obtain rfl : c = .enum syms := hc.2 (by simp [enumSyms])
    simp only [strip, Ty.under, convertAny]
    rw [enumIndex_getD syms sel hw'.2 hv]
  · simp [decoP, implied, selfDescribing, emptyC] at hd

/-- formatting with and without the trailing `decorate` differ by exactly that decorator. -/
theorem fmt_deco_split (fst : FState) (t : Ty) (v : Val) (pi : Bool) (hp : plainTy t = true)
    (hv : wfVal t v = true) (hn : v.isNull = false) (hb : bareEmpty v = false) :
    fmtValue fst t v false pi true false =
      ((fmtValue fst t v false pi false false).1, (fmtValue fst t v false pi false false).2.1,
        (fmtValue fst t v false pi false false).2.2 ++ decoP t false) := by
  rw [fmtValue_decorate fst t v false pi (shaped_of_wf hv hn), emptyC_of_bareEmpty hb, decorateM_plain _ t false hp]

def tvsOf : Fields → Vals → List TV
  | .cons _ t fr, .cons v vr => (t, strip v) :: tvsOf fr vr
  | _, _ => []

def GoodFields (fs : Fields) (vs : Vals) : Prop :=
  ∀ (pi : Bool) (fst : FState) (a0 : AState), ∃ afs,
    fmtFields fst fs vs false pi = (fst, afs) ∧ afs.names = fs.names ∧ afs.length = fs.length ∧
    convertFields a0 afs none = .ok (a0, tvsOf fs vs) ∧
    convertFields a0 afs (some (fieldTypes fs)) = .ok (a0, tvsOf fs vs)

def GoodElems (et : Ty) (vs : Vals) : Prop :=
  ∀ (pi : Bool) (fst : FState) (a0 : AState), ∃ asts,
    fmtElems fst et vs false pi = (fst, asts) ∧
    convertElems a0 asts none = .ok (a0, vs.toList.map (fun v => expA et v true)) ∧
    convertElems a0 asts (some et) = .ok (a0, vs.toList.map (fun v => (et, strip v)))

def entryKeys : Entries → List Val
  | .nil => []
  | .cons k _ r => k :: entryKeys r
def entryVals : Entries → List Val
  | .nil => []
  | .cons _ v r => v :: entryVals r

def GoodEntries (kt vt : Ty) (es : Entries) : Prop :=
  ∀ (pi : Bool) (fst : FState) (a0 : AState), ∃ aes,
    fmtEntries fst kt vt es false pi = (fst, aes) ∧
    convertEntries a0 aes none = .ok (a0, (entryKeys es).map (fun v => expA kt v true),
      (entryVals es).map (fun v => expA vt v true)) ∧
    convertEntries a0 aes (some (kt, vt)) = .ok (a0, (entryKeys es).map (fun v => (kt, strip v)),
      (entryVals es).map (fun v => (vt, strip v)))

/-- `KGood…`: parent known (`fmtFields … true false`), read under the given types only. -/
def KGoodFields (fs : Fields) (vs : Vals) : Prop :=
  ∀ (fst : FState) (a0 : AState), ∃ afs,
    fmtFields fst fs vs true false = (fst, afs) ∧ afs.length = fs.length ∧
    convertFields a0 afs (some (fieldTypes fs)) = .ok (a0, tvsOf fs vs)

def KGoodElems (et : Ty) (vs : Vals) : Prop :=
  ∀ (fst : FState) (a0 : AState), ∃ asts,
    fmtElems fst et vs true false = (fst, asts) ∧
    convertElems a0 asts (some et) = .ok (a0, vs.toList.map (fun v => (et, strip v)))

def KGoodEntries (kt vt : Ty) (es : Entries) : Prop :=
  ∀ (fst : FState) (a0 : AState), ∃ aes,
    fmtEntries fst kt vt es true false = (fst, aes) ∧
    convertEntries a0 aes (some (kt, vt)) = .ok (a0, (entryKeys es).map (fun v => (kt, strip v)),
      (entryVals es).map (fun v => (vt, strip v)))

theorem goodFields_nil : GoodFields .nil .nil := by
  intro pi fst a0
  exact ⟨.nil, by simp [fmtFields], rfl, rfl, by simp [convertFields, tvsOf], by simp [convertFields, tvsOf]⟩

theorem goodFields_cons (n : Name) (t : Ty) (fr : Fields) (v : Val) (vr : Vals)
    (hnu : t.isUnion = false) (h1 : GoodV t v false) (h2 : GoodFields fr vr) :
    GoodFields (.cons n t fr) (.cons v vr) := by
  intro pi fst a0
  obtain ⟨any, ds, hf, _, hA, hB⟩ := h1 pi fst a0
  obtain ⟨afs, hf2, hn, hl, hA2, hB2⟩ := h2 pi fst a0
  refine ⟨.cons n (mkVal any ds) afs, ?_, ?_, ?_, ?_, ?_⟩
  · simp only [fmtFields, hf, hf2]
  · simp only [AVFields.names, Fields.names, hn]
  · simp only [AVFields.length, Fields.length, hl]
  · rw [expA_notUnion t v false hnu] at hA
    simp only [convertFields, hA, hA2, tvsOf, bind, Except.bind, pure, Except.pure]
  · simp only [convertFields, fieldTypes, hB (Or.inl hnu), hB2, tvsOf, bind, Except.bind, pure, Except.pure]

theorem goodElems_nil (et : Ty) : GoodElems et .nil := by
  intro pi fst a0
  exact ⟨.nil, by simp [fmtElems], by simp [convertElems, Vals.toList], by simp [convertElems, Vals.toList]⟩

theorem goodElems_cons (et : Ty) (v : Val) (vr : Vals) (h1 : GoodV et v true) (h2 : GoodElems et vr) :
    GoodElems et (.cons v vr) := by
  intro pi fst a0
  obtain ⟨any, ds, hf, _, hA, hB⟩ := h1 pi fst a0
  obtain ⟨asts, hf2, hA2, hB2⟩ := h2 pi fst a0
  refine ⟨.cons (mkVal any ds) asts, ?_, ?_, ?_⟩
  · simp only [fmtElems, hf, hf2]
  · simp only [convertElems, hA, hA2, Vals.toList, List.map_cons, bind, Except.bind, pure, Except.pure]
  · simp only [convertElems, hB (Or.inr rfl), hB2, Vals.toList, List.map_cons, bind, Except.bind, pure, Except.pure]

theorem goodEntries_nil (kt vt : Ty) : GoodEntries kt vt .nil := by
  intro pi fst a0
  exact ⟨.nil, by simp [fmtEntries], by simp [convertEntries, entryKeys, entryVals],
    by simp [convertEntries, entryKeys, entryVals]⟩

theorem goodEntries_cons (kt vt : Ty) (k v : Val) (r : Entries) (h1 : GoodV kt k true) (h2 : GoodV vt v true)
    (h3 : GoodEntries kt vt r) : GoodEntries kt vt (.cons k v r) := by
  intro pi fst a0
  obtain ⟨ka, kds, hfk, _, hAk, hBk⟩ := h1 pi fst a0
  obtain ⟨va, vds, hfv, _, hAv, hBv⟩ := h2 pi fst a0
  obtain ⟨aes, hf3, hA3, hB3⟩ := h3 pi fst a0
  refine ⟨.cons (mkVal ka kds) (mkVal va vds) aes, ?_, ?_, ?_⟩
  · simp only [fmtEntries, hfk, hfv, hf3]
  · simp only [convertEntries, hAk, hAv, hA3, entryKeys, entryVals, List.map_cons, Option.map_none, bind, Except.bind, pure, Except.pure]
  · simp only [convertEntries, hBk (Or.inr rfl), hBv (Or.inr rfl), hB3, entryKeys, entryVals, List.map_cons, Option.map_some, bind, Except.bind, pure, Except.pure]

theorem kgoodFields_nil : KGoodFields .nil .nil := by
  intro fst a0
  exact ⟨.nil, by simp [fmtFields], rfl, by simp [convertFields, tvsOf]⟩

theorem kgoodFields_cons (n : Name) (t : Ty) (fr : Fields) (v : Val) (vr : Vals) (hpt : plainTy t = true)
    (hv : wfVal t v = true) (h1 : Und true t v) (h2 : KGoodFields fr vr) : KGoodFields (.cons n t fr) (.cons v vr) := by
  intro fst a0
  obtain ⟨any, ds, hf, hB⟩ := h1.decorated hpt hv fst a0
  obtain ⟨afs, hf2, hl, hB2⟩ := h2 fst a0
  refine ⟨.cons n (mkVal any ds) afs, ?_, ?_, ?_⟩
  · simp [fmtFields, hf, hf2]
  · simp [AVFields.length, Fields.length, hl]
  · simp [convertFields, fieldTypes, hB, hB2, tvsOf, bind, Except.bind, pure, Except.pure]

theorem kgoodElems_nil (et : Ty) : KGoodElems et .nil := by
  intro fst a0
  exact ⟨.nil, by simp [fmtElems], by simp [convertElems, Vals.toList]⟩

theorem kgoodElems_cons (et : Ty) (v : Val) (vr : Vals) (hp : plainTy et = true) (hu : et.isUnion = false)
    (hv : wfVal et v = true) (h1 : Und true et v) (h2 : KGoodElems et vr) : KGoodElems et (.cons v vr) := by
  intro fst a0
  obtain ⟨any, ds, hf, hB⟩ := h1.decorated hp hv fst a0
  obtain ⟨asts, hf2, hB2⟩ := h2 fst a0
  refine ⟨.cons (mkVal any ds) asts, ?_, ?_⟩
  · simp [fmtElems, fmtValue_elem_plain fst v true false true hp hu, hf, hf2]
  · simp [convertElems, hB, hB2, Vals.toList, bind, Except.bind, pure, Except.pure]

theorem kgoodEntries_nil (kt vt : Ty) : KGoodEntries kt vt .nil := by
  intro fst a0
  exact ⟨.nil, by simp [fmtEntries], by simp [convertEntries, entryKeys, entryVals]⟩

theorem kgoodEntries_cons (kt vt : Ty) (k v : Val) (r : Entries) (hpk : plainTy kt = true) (hpv : plainTy vt = true)
    (huk : kt.isUnion = false) (huv : vt.isUnion = false)
    (hk : wfVal kt k = true) (hv : wfVal vt v = true) (h1 : Und true kt k) (h2 : Und true vt v)
    (h3 : KGoodEntries kt vt r) : KGoodEntries kt vt (.cons k v r) := by
  intro fst a0
  obtain ⟨ka, kds, hfk, hBk⟩ := h1.decorated hpk hk fst a0
  obtain ⟨va, vds, hfv, hBv⟩ := h2.decorated hpv hv fst a0
  obtain ⟨aes, hf3, hB3⟩ := h3 fst a0
  refine ⟨.cons (mkVal ka kds) (mkVal va vds) aes, ?_, ?_⟩
  · simp [fmtEntries, fmtValue_elem_plain fst k true false true hpk huk,
      fmtValue_elem_plain fst v true false true hpv huv, hfk, hfv, hf3]
  · simp [convertEntries, hBk, hBv, hB3, entryKeys, entryVals, bind, Except.bind, pure, Except.pure]

end Zed.Zson

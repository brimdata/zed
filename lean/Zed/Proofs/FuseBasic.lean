import Zed.Model.FuseFits
/-!
  Helper lemmas for C20: leaves and well-typedness of value trees; records as lists of named fields.
-/
namespace Zed.Fuse

theorem under_not_named (t : Ty) (n : Name) (u : Ty) : t.under ≠ .named n u := by
  fun_induction Ty.under t with
  | case1 _ t ih => exact ih
  | case2 t h => exact h n u

theorem under_idem (t : Ty) : t.under.under = t.under := by
  have h := under_not_named t
  generalize t.under = u at h
  cases u with
  | named n u => exact absurd rfl (h n u)
  | _ => rfl

theorem fields_congr {t t' : Ty} (h : t.under = t'.under) : t.fields = t'.fields := by
  simp [Ty.fields, h]
theorem members_congr {t t' : Ty} (h : t.under = t'.under) : t.members = t'.members := by
  simp [Ty.members, h]
theorem inner_congr {t t' : Ty} (h : t.under = t'.under) : t.inner? = t'.inner? := by
  simp [Ty.inner?, h]

theorem inner?_eq_some {a x : Ty} : a.inner? = some x ↔ a.under = .array x ∨ a.under = .set x := by
  unfold Ty.inner?
  split
  next i hu => rw [hu]; simp
  next i hu => rw [hu]; simp
  next h1 h2 =>
    refine ⟨(fun h => nomatch h), ?_⟩
    rintro (h | h)
    · exact absurd h (h1 x)
    · exact absurd h (h2 x)

/-- `leaves` looks at a type only through `TypeUnder`. -/
theorem leaves_under {t t' : Ty} (h : t.under = t'.under) (v : Val) : leaves t v = leaves t' v := by
  cases v with
  | null => simp [leaves]
  | prim id b => simp [leaves]
  | recd vs => simp [leaves, fields_congr h]
  | list vs => simp [leaves, inner_congr h]
  | map vs => simp [leaves, h]
  | union tag x => simp [leaves, members_congr h]

theorem leaves_null (t : Ty) : leaves t .null = [] := by simp [leaves]

theorem pre_congr {e : PEl} {ls ls' : List Leaf} (h : ∀ l, l ∈ ls ↔ l ∈ ls') :
    ∀ l, l ∈ pre e ls ↔ l ∈ pre e ls' := by
  intro l; simp only [pre, List.mem_map, h]

theorem hasType_nullTy {a : Ty} {v : Val} (ha : a.under = tyNull) (h : hasType v a = true) : v = .null := by
  cases v with
  | null => rfl
  | prim id b =>
    have he : a.isEnum = false := by simp [Ty.isEnum, ha, tyNull]
    have hr : a.isError = false := by simp [Ty.isError, ha, tyNull]
    simp only [hasType, ha, he, hr, tyNull, Bool.and_false, Bool.or_false, Bool.and_eq_true, beq_iff_eq,
      Ty.prim.injEq, bne_iff_ne] at h
    exact absurd h.1.symm h.2
  | recd vs => simp [hasType, Ty.isRecord, ha, tyNull] at h
  | list vs => simp [hasType, Ty.inner?, ha, tyNull] at h
  | map vs => simp [hasType, ha, tyNull] at h
  | union tag x => simp [hasType, Ty.isUnion, ha, tyNull] at h

theorem hasType_prim_isPrim {id : Nat} {b : Bytes} {a : Ty} (h : hasType (.prim id b) a = true) :
    a.isPrim = true := by
  simp only [hasType, Bool.or_eq_true, Bool.and_eq_true, beq_iff_eq] at h
  unfold Ty.isPrim
  rcases h with (h | h) | h
  · rw [h.1]
  · have := h.2; unfold Ty.isEnum at this; split at this <;> simp_all
  · have := h.2; unfold Ty.isError at this; split at this <;> simp_all

theorem kind_of_isPrim {a : Ty} (h : a.isPrim = true) : a.kind = 0 ∨ a.kind = 6 ∨ a.kind = 7 := by
  unfold Ty.isPrim at h
  split at h
  next hu => exact .inl (by simp only [Ty.kind, hu])
  next hu => exact .inr (.inl (by simp only [Ty.kind, hu]))
  next hu => exact .inr (.inr (by simp only [Ty.kind, hu]))
  next => exact absurd h (by decide)

theorem kind_of_isRecord {a : Ty} (h : a.isRecord = true) : a.kind = 1 := by
  unfold Ty.isRecord at h
  split at h
  next hu => simp only [Ty.kind, hu]
  next => exact absurd h (by decide)

theorem kind_of_inner {a i : Ty} (h : a.inner? = some i) : a.kind = 2 ∨ a.kind = 3 := by
  rcases inner?_eq_some.1 h with hu | hu
  · exact .inl (by simp only [Ty.kind, hu])
  · exact .inr (by simp only [Ty.kind, hu])

theorem kind_of_map {a k v : Ty} (h : a.under = .map k v) : a.kind = 4 := by
  simp only [Ty.kind, h]

theorem kind_of_isUnion {a : Ty} (h : a.isUnion = true) : a.kind = 5 := by
  unfold Ty.isUnion at h
  split at h
  next hu => simp only [Ty.kind, hu]
  next => exact absurd h (by decide)

/-- a non-null value shows the kind of every type it has. -/
theorem hasType_kind {v : Val} {a : Ty} (h : hasType v a = true) :
    match v with
    | .null => True
    | .prim _ _ => a.kind = 0 ∨ a.kind = 6 ∨ a.kind = 7
    | .recd _ => a.kind = 1
    | .list _ => a.kind = 2 ∨ a.kind = 3
    | .map _ => a.kind = 4
    | .union _ _ => a.kind = 5 := by
  cases v with
  | null => trivial
  | prim id b => exact kind_of_isPrim (hasType_prim_isPrim h)
  | recd vs => simp only [hasType, Bool.and_eq_true] at h; exact kind_of_isRecord h.1
  | list vs =>
    simp only [hasType] at h
    split at h
    next hi => exact kind_of_inner hi
    next => exact absurd h (by decide)
  | map vs =>
    simp only [hasType] at h
    split at h
    next hu => exact kind_of_map hu
    next => exact absurd h (by decide)
  | union tag x => simp only [hasType, Bool.and_eq_true] at h; exact kind_of_isUnion h.1

theorem hasType_record_inv {a : Ty} {v : Val} (ha : a.isRecord = true) (h : hasType v a = true) :
    v = .null ∨ ∃ vs, v = .recd vs ∧ hasTypeRec vs a.fields = true := by
  have hk := hasType_kind h
  rw [kind_of_isRecord ha] at hk
  cases v with
  | null => exact .inl rfl
  | recd vs => simp only [hasType, Bool.and_eq_true] at h; exact .inr ⟨vs, rfl, h.2⟩
  | _ => simp at hk

theorem hasTypeAll_of_list {vs : Vals} {a i : Ty} (hi : a.inner? = some i) (h : hasType (.list vs) a = true) :
    hasTypeAll vs i = true := by
  simpa [hasType, hi] using h

/-- `hasType` of a union value gives the member and the well-typed inner value. -/
theorem hasType_union {tag : Nat} {x : Val} {a : Ty} (h : hasType (.union tag x) a = true) :
    ∃ m, a.members.get? tag = some m ∧ hasType x m = true := by
  simp only [hasType, Bool.and_eq_true] at h
  cases hm : a.members.get? tag with
  | none => simp [hm] at h
  | some m => simp only [hm, Bool.and_eq_true] at h; exact ⟨m, rfl, h.2.1⟩

theorem hasType_list_inv {a i : Ty} {v : Val} (ha : a.inner? = some i) (h : hasType v a = true) :
    v = .null ∨ ∃ vs, v = .list vs ∧ hasTypeAll vs i = true := by
  have hk := hasType_kind h
  have := kind_of_inner ha
  cases v with
  | null => exact .inl rfl
  | list vs => exact .inr ⟨vs, rfl, hasTypeAll_of_list ha h⟩
  | _ => simp only at hk; omega

theorem hasType_union_inv {a : Ty} {v : Val} (ha : a.isUnion = true) (h : hasType v a = true) :
    v = .null ∨ ∃ tag x m, v = .union tag x ∧ a.members.get? tag = some m ∧ hasType x m = true := by
  have hk := hasType_kind h
  rw [kind_of_isUnion ha] at hk
  cases v with
  | null => exact .inl rfl
  | union tag x =>
    obtain ⟨m, hm, hx⟩ := hasType_union h
    exact .inr ⟨tag, x, m, rfl, hm, hx⟩
  | _ => simp at hk

theorem mem_leavesRec : (fs : Fields) → (vs : Vals) → (l : Leaf) →
    (l ∈ leavesRec fs vs ↔ ∃ i n t, fs.get? i = some (n, t) ∧ l ∈ pre (.fld n) (leaves t (vs.getD i)))
  | .nil, vs, l => by simp [leavesRec, Fields.get?]
  | .cons n t r, .nil, l => by
    simp only [leavesRec, List.not_mem_nil, false_iff]
    rintro ⟨i, n', t', _, h⟩
    simp [Vals.getD, leaves_null, pre] at h
  | .cons n t r, .cons v vr, l => by
    simp only [leavesRec, List.mem_append, mem_leavesRec r vr l]
    constructor
    · rintro (h | ⟨i, n', t', h1, h2⟩)
      · exact ⟨0, n, t, rfl, h⟩
      · exact ⟨i + 1, n', t', h1, h2⟩
    · rintro ⟨i, n', t', h1, h2⟩
      cases i with
      | zero =>
        simp only [Fields.get?, Option.some.injEq, Prod.mk.injEq] at h1
        obtain ⟨rfl, rfl⟩ := h1
        exact Or.inl h2
      | succ i => exact Or.inr ⟨i, n', t', h1, h2⟩

theorem hasTypeRec_getD : {vs : Vals} → {fs : Fields} → (h : hasTypeRec vs fs = true) → {i : Nat} → {n : Name} → {t : Ty} →
    (hi : fs.get? i = some (n, t)) → hasType (vs.getD i) t = true
  | _, .nil, _, _, _, _, hi => by simp [Fields.get?] at hi
  | .nil, .cons _ _ _, h, _, _, _, _ => by simp [hasTypeRec] at h
  | .cons v vr, .cons n' t' r, h, i, n, t, hi => by
    simp only [hasTypeRec, Bool.and_eq_true] at h
    cases i with
    | zero =>
      simp only [Fields.get?, Option.some.injEq, Prod.mk.injEq] at hi
      obtain ⟨_, rfl⟩ := hi
      exact h.1
    | succ i => exact hasTypeRec_getD h.2 hi

theorem forall_get?_cons {P : Nat → Name → Ty → Prop} {m : Name} {u : Ty} {r : Fields} :
    (∀ i n t, (Fields.cons m u r).get? i = some (n, t) → P i n t) ↔
      P 0 m u ∧ ∀ i n t, r.get? i = some (n, t) → P (i + 1) n t := by
  constructor
  · exact fun h => ⟨h 0 m u rfl, fun i n t hi => h (i + 1) n t hi⟩
  · rintro ⟨h0, hr⟩ i n t hi
    cases i with
    | zero => obtain ⟨rfl, rfl⟩ := Prod.mk.inj (Option.some.inj hi); exact h0
    | succ i => exact hr i n t hi

theorem get?_isSome_iff {fs : Fields} {i : Nat} : (∃ p, fs.get? i = some p) ↔ i < fs.length := by
  fun_induction Fields.get? fs i with
  | case1 => exact ⟨fun ⟨_, h⟩ => (nomatch h), fun h => (nomatch h)⟩
  | case2 n t => exact ⟨fun _ => Nat.succ_pos _, fun _ => ⟨(n, t), rfl⟩⟩
  | case3 _ _ r i ih => exact ih.trans ⟨Nat.succ_lt_succ, Nat.lt_of_succ_lt_succ⟩

theorem get?_mem_names {fs : Fields} {i : Nat} {n : Name} {t : Ty} (h : fs.get? i = some (n, t)) :
    n ∈ fs.names := by
  fun_induction Fields.get? fs i with
  | case1 => nomatch h
  | case2 m u r => obtain ⟨rfl, -⟩ := Prod.mk.inj (Option.some.inj h); exact List.mem_cons_self
  | case3 _ _ r i ih => exact List.mem_cons_of_mem _ (ih h)

theorem nodup_get?_lookup {fs : Fields} (hnd : fs.names.Nodup) {i : Nat} {n : Name} {t : Ty}
    (h : fs.get? i = some (n, t)) : fs.lookup n = some t ∧ fs.indexOf n = some i := by
  fun_induction Fields.get? fs i with
  | case1 => nomatch h
  | case2 m u r =>
    obtain ⟨rfl, rfl⟩ := Prod.mk.inj (Option.some.inj h)
    simp [Fields.lookup, Fields.indexOf]
  | case3 m u r i ih =>
    simp only [Fields.names, List.nodup_cons] at hnd
    have hmn : m ≠ n := fun e => hnd.1 (e ▸ get?_mem_names h)
    obtain ⟨h1, h2⟩ := ih hnd.2 h
    simp [Fields.lookup, Fields.indexOf, hmn, h1, h2]

theorem lookup_spec (fs : Fields) (n : Name) :
    (n ∉ fs.names ∧ fs.lookup n = none ∧ fs.indexOf n = none) ∨
    (∃ i t, fs.get? i = some (n, t) ∧ fs.lookup n = some t ∧ fs.indexOf n = some i) := by
  fun_induction Fields.lookup n fs with
  | case1 => exact .inl ⟨by simp [Fields.names], rfl, rfl⟩
  | case2 u r => exact .inr ⟨0, u, rfl, rfl, by simp [Fields.indexOf]⟩
  | case3 m u r hm ih =>
    rcases ih with ⟨h1, h2, h3⟩ | ⟨i, t, h1, h2, h3⟩
    · exact .inl ⟨by simp [Fields.names, Ne.symm hm, h1], h2, by simp [Fields.indexOf, hm, h3]⟩
    · exact .inr ⟨i + 1, t, h1, h2, by simp [Fields.indexOf, hm, h3]⟩

theorem lookup_some_get? {fs : Fields} {n : Name} {t : Ty} (h : fs.lookup n = some t) :
    ∃ i, fs.get? i = some (n, t) ∧ fs.indexOf n = some i := by
  rcases lookup_spec fs n with ⟨_, h2, _⟩ | ⟨i, t', h1, h2, h3⟩
  · rw [h2] at h; cases h
  · obtain rfl := Option.some.inj (h2.symm.trans h); exact ⟨i, h1, h3⟩

theorem lookup_eq_none_iff (fs : Fields) (n : Name) : fs.lookup n = none ↔ n ∉ fs.names := by
  rcases lookup_spec fs n with ⟨h1, h2, _⟩ | ⟨_, t, h1, h2, _⟩
  · exact ⟨fun _ => h1, fun _ => h2⟩
  · exact ⟨fun h => (nomatch h2.symm.trans h), fun h => absurd (get?_mem_names h1) h⟩

theorem indexOf_some_lookup {fs : Fields} {n : Name} {i : Nat} (h : fs.indexOf n = some i) :
    ∃ t, fs.lookup n = some t := by
  rcases lookup_spec fs n with ⟨_, _, h3⟩ | ⟨_, t, _, h2, _⟩
  · rw [h3] at h; cases h
  · exact ⟨t, h2⟩

theorem lookup_none_of_indexOf_none : {fs : Fields} → {n : Name} → fs.indexOf n = none → fs.lookup n = none :=
  fun {fs n} h => by
    rcases lookup_spec fs n with ⟨_, h2, _⟩ | ⟨_, _, _, _, h3⟩
    · exact h2
    · rw [h3] at h; cases h

end Zed.Fuse

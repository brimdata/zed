import Zed.Model.VecCacheLock
/-! Lock ordering (C09): a program that never waits for the object mutex
    while holding `c.mu` cannot deadlock. -/
namespace Zed.VecCacheLock

/-- (holds `c.mu`, holds the object mutex) after one more instruction. -/
def eff : Bool × Bool → Ins → Bool × Bool
  | (_, m), .acqC => (true, m)
  | (_, m), .relC => (false, m)
  | (c, _), .acqM => (c, true)
  | (c, _), .relM => (c, false)

def held (prog : List Ins) (pc : Nat) : Bool × Bool := (prog.take pc).foldl eff (false, false)

/-- releases only what is held, acquires nothing held, and no `acqM` while holding `c.mu`. -/
def allowed : Ins → Bool × Bool → Bool
  | .acqC, (c, _) => !c
  | .relC, (c, _) => c
  | .acqM, (c, m) => !c && !m
  | .relM, (_, m) => m

/-- every instruction is allowed where it stands, and the program ends holding nothing (so
    whoever holds something has an instruction left). -/
def Ordered (prog : List Ins) : Prop :=
  (∀ pc (h : pc < prog.length), allowed prog[pc] (held prog pc) = true) ∧
    held prog prog.length = (false, false)

instance (prog : List Ins) : Decidable (Ordered prog) := by unfold Ordered; infer_instance

def owns (s : St) (t : Bool) : Bool × Bool := (s.c == some t, s.m == some t)

/-- each goroutine owns what its program prefix acquired. -/
def Inv (prog : List Ins) (s : St) : Prop := ∀ t, owns s t = held prog (s.pc t)

theorem held_succ {prog : List Ins} {pc : Nat} {i : Ins} (h : prog[pc]? = some i) :
    held prog (pc + 1) = eff (held prog pc) i := by
  simp only [held, List.take_add_one, h, Option.toList_some, List.foldl_append, List.foldl_cons,
    List.foldl_nil]

/-- `step` lets a goroutine release a mutex it does not own, taking it from the owner: the other
    goroutine keeps what it owns only under `allowed`. -/
theorem step_spec {prog : List Ins} {s s' : St} {t : Bool} (h : step prog s t = some s') :
    ∃ i, prog[s.pc t]? = some i ∧ s'.pc t = s.pc t + 1 ∧ owns s' t = eff (owns s t) i ∧
      s'.pc (!t) = s.pc (!t) ∧ (allowed i (owns s t) = true → owns s' (!t) = owns s (!t)) := by
  revert h
  -- leaves that answer a state: acqC (`c.mu` free), relC, acqM (object mutex free), relM
  fun_cases step prog s t <;> intro h <;> cases h
  case case2 hi hc => exact ⟨_, hi, by cases t <;> simp [St.pc, St.bump, owns, eff, allowed, hc]⟩
  case case4 hi => exact ⟨_, hi, by cases t <;> simp +contextual [St.pc, St.bump, owns, eff, allowed]⟩
  case case5 hi hm => exact ⟨_, hi, by cases t <;> simp [St.pc, St.bump, owns, eff, allowed, hm]⟩
  case case7 hi => exact ⟨_, hi, by cases t <;> simp +contextual [St.pc, St.bump, owns, eff, allowed]⟩

theorem Inv.of_step {prog : List Ins} (ho : Ordered prog) {s s' : St} {t : Bool} (h : Inv prog s)
    (hs : step prog s t = some s') : Inv prog s' := by
  obtain ⟨i, hi, hpc, hown, hother⟩ := step_spec hs
  have hal : allowed i (owns s t) = true := by
    rw [h t]
    have := ho.1 (s.pc t) (List.getElem?_eq_some_iff.mp hi).1
    rwa [(List.getElem?_eq_some_iff.mp hi).2] at this
  intro t'
  by_cases e : t' = t
  · rw [e, hown, hpc, held_succ hi, h t]
  · rw [Bool.eq_not.mpr e, hother.2 hal, hother.1, h (!t)]

theorem Inv.of_run {prog : List Ins} (ho : Ordered prog) (sched : List Bool) {s s' : St}
    (h : Inv prog s) (hr : run prog sched s = some s') : Inv prog s' := by
  revert hr
  fun_induction run prog sched s <;> intro hr
  case case1 => cases hr; exact h
  case case2 t rest s s1 hs ih => exact ih (h.of_step ho hs) hr
  case case3 => cases hr

theorem blocked {prog : List Ins} {s : St} {t : Bool} (h : step prog s t = none) {i : Ins}
    (hi : prog[s.pc t]? = some i) : i = .acqC ∧ s.c ≠ none ∨ i = .acqM ∧ s.m ≠ none := by
  revert h
  -- leaves that answer `none`: no instruction left, acqC (`c.mu` taken), acqM (object mutex taken)
  fun_cases step prog s t <;> intro h <;> cases h
  case case1 hn => rw [hi] at hn; cases hn
  case case3 hp hc => rw [hi] at hp; cases hp; exact .inl ⟨rfl, hc⟩
  case case6 hp hm => rw [hi] at hp; cases hp; exact .inr ⟨rfl, hm⟩

theorem Inv.not_deadlocked {prog : List Ins} (ho : Ordered prog) {s : St} (h : Inv prog s) :
    deadlocked prog s = false := by
  refine Bool.eq_false_iff.mpr fun hd => ?_
  simp only [deadlocked, finished, Bool.and_eq_true, Bool.not_eq_true', Bool.and_eq_false_iff,
    decide_eq_false_iff_not, Nat.not_le, Option.isNone_iff_eq_none] at hd
  obtain ⟨⟨hfin, hb0⟩, hb1⟩ := hd
  have hb : ∀ t, step prog s t = none := fun t => by cases t <;> assumption
  have hnext : ∀ t, owns s t ≠ (false, false) →
      ∃ i, prog[s.pc t]? = some i ∧ allowed i (owns s t) = true := fun t ht => by
    rw [h t] at ht ⊢
    -- past the end of the program nothing is held
    have hlt : s.pc t < prog.length := Nat.lt_of_not_le fun hle => ht (by
      rw [← ho.2]; simp only [held, List.take_of_length_le hle, List.take_length])
    exact ⟨_, List.getElem?_eq_getElem hlt, ho.1 _ hlt⟩
  cases hc : s.c with
  | some t =>
    -- the owner of `c.mu` may only release
    obtain ⟨i, hi, hal⟩ := hnext t (by simp [owns, hc])
    rcases blocked (hb t) hi with ⟨rfl, _⟩ | ⟨rfl, _⟩ <;> simp [owns, hc, allowed] at hal
  | none =>
    -- `c.mu` is free: the owner of the awaited object mutex can move
    obtain ⟨t, i, hi⟩ : ∃ t i, prog[s.pc t]? = some i := by
      rcases hfin with hlt | hlt
      · exact ⟨false, _, List.getElem?_eq_getElem hlt⟩
      · exact ⟨true, _, List.getElem?_eq_getElem hlt⟩
    rcases blocked (hb t) hi with ⟨_, hne⟩ | ⟨_, hne⟩
    · exact hne hc
    · obtain ⟨t', hm⟩ := Option.ne_none_iff_exists'.mp hne
      obtain ⟨i', hi', hal⟩ := hnext t' (by simp [owns, hm])
      rcases blocked (hb t') hi' with ⟨_, hne'⟩ | ⟨rfl, _⟩
      · exact hne' hc
      · simp [owns, hm, allowed] at hal

theorem Ordered.deadlock_free {prog : List Ins} (ho : Ordered prog) (sched : List Bool) {s : St}
    (h : run prog sched init = some s) : deadlocked prog s = false :=
  (Inv.of_run ho sched (fun t => by cases t <;> rfl) h).not_deadlocked ho

end Zed.VecCacheLock

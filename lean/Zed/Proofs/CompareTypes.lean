import Zed.Model.CompareTypes
import Zed.Proofs.Law
/-!
  What `cmpTy` (`zed.CompareTypes`) is made of: lexicographic lists (bytes, names), `under` and
  the chain of names around it, the equations of the structural branch `cmpS`.
-/
namespace Zed
open Zed.Ord

theorem cmpBytes_eq_lex : (a b : Bytes) → cmpBytes a b = lexCmp (fun x y => compare x.toNat y.toNat) a b
  | [], [] | [], _ :: _ | _ :: _, [] => rfl
  | _ :: as, _ :: bs => by rw [cmpBytes, lexCmp, cmpBytes_eq_lex as bs]

theorem bytesLin : Lin All cmpBytes :=
  ((natLin.pullInj UInt8.toNat (fun _ _ => trivial) fun _ _ _ _ => UInt8.toNat_inj.mp).lex.mono
    fun _ _ _ _ => trivial).congr fun a b _ _ => cmpBytes_eq_lex a b

theorem cmpNames_eq_lex : (a b : List Name) → a.length = b.length → cmpNames a b = lexCmp cmpBytes a b
  | [], [], _ => rfl
  | n :: r, m :: s, h => by
    rw [cmpNames, lexCmp, cmpNames_eq_lex r s (Nat.succ.inj h)]

theorem namesLin : Lin All fun s s' : List Name => (compare s.length s'.length).then (cmpNames s s') :=
  Law.byClass List.length fun _ _ =>
    (bytesLin.lex.mono fun _ _ _ _ => trivial).congr fun x y hx hy => cmpNames_eq_lex x y (hx.2.trans hy.2.symm)

theorem cmpFieldNames_eq : (fs gs : Fields) → cmpFieldNames fs gs = cmpNames fs.names gs.names
  | .nil, .nil => rfl
  | .nil, .cons _ _ _ => rfl
  | .cons _ _ _, .nil => rfl
  | .cons n _ r, .cons m _ s => by simp [cmpFieldNames, cmpNames, Fields.names, cmpFieldNames_eq r s]

-- `Fields`, `Tys` as lists (also for the context modules)
theorem Fields.ofList_toList : (fs : Fields) → Fields.ofList fs.toList = fs
  | .nil => rfl
  | .cons n t r => by simp [Fields.toList, Fields.ofList, Fields.ofList_toList r]
theorem Fields.toList_ofList : (l : List (Name × Ty)) → (Fields.ofList l).toList = l
  | [] => rfl
  | (n, t) :: r => by simp [Fields.toList, Fields.ofList, Fields.toList_ofList r]
theorem Tys.ofList_toList : (ts : Tys) → Tys.ofList ts.toList = ts
  | .nil => rfl
  | .cons t r => by simp [Tys.toList, Tys.ofList, Tys.ofList_toList r]
theorem Tys.toList_ofList : (l : List Ty) → (Tys.ofList l).toList = l
  | [] => rfl
  | t :: r => by simp [Tys.toList, Tys.ofList, Tys.toList_ofList r]
theorem Fields.names_eq_map : (fs : Fields) → fs.names = fs.toList.map (·.1)
  | .nil => rfl
  | .cons n t r => by simp [Fields.names, Fields.toList, Fields.names_eq_map r]
theorem Fields.length_toList : (fs : Fields) → fs.toList.length = fs.length
  | .nil => rfl
  | .cons n t r => by simp [Fields.toList, Fields.length, Fields.length_toList r]
theorem Tys.length_toList : (ts : Tys) → ts.toList.length = ts.length
  | .nil => rfl
  | .cons t r => by simp [Tys.toList, Tys.length, Tys.length_toList r]
theorem Tys.length_ofList : (l : List Ty) → (Tys.ofList l).length = l.length
  | [] => rfl
  | t :: r => by simp [Tys.ofList, Tys.length, Tys.length_ofList r]
theorem Fields.length_ofList : (l : List (Name × Ty)) → (Fields.ofList l).length = l.length
  | [] => rfl
  | (n, t) :: r => by simp [Fields.ofList, Fields.length, Fields.length_ofList r]

theorem Fields.names_length (fs : Fields) : fs.names.length = fs.length := by
  rw [Fields.names_eq_map, List.length_map, Fields.length_toList]

theorem Ty.under_not_named : (t : Ty) → t.under.isNamed = false
  | .named _ x => by simpa [Ty.under] using Ty.under_not_named x
  | .prim _ | .record _ | .array _ | .set _ | .map _ _ | .union _ | .enum _ | .error _ => rfl

theorem Ty.under_of_not_named {t : Ty} (h : t.isNamed = false) : t.under = t := by
  cases t <;> simp_all [Ty.under, Ty.isNamed]

/-- the names of a type from the outside in -/
def Ty.chain : Ty → List Name
  | .named n x => n :: x.chain
  | _ => []

theorem Ty.wrap_chain_under : (t : Ty) → t.chain.foldr Ty.named t.under = t
  | .named n x => by rw [Ty.chain, Ty.under, List.foldr_cons, Ty.wrap_chain_under x]
  | .prim _ | .record _ | .array _ | .set _ | .map _ _ | .union _ | .enum _ | .error _ => rfl

theorem Ty.chain_eq_nil {t : Ty} (h : ∀ n x, t = .named n x → False) : t.chain = [] := by
  cases t <;> first | rfl | exact (h _ _ rfl).elim

theorem cmpRank_eq (a b : Ty) : cmpRank a b = lexCmp cmpBytes a.chain b.chain := by
  fun_induction cmpRank a b
  case case1 ih => rw [ih]; rfl
  case case2 h => rw [Ty.chain_eq_nil h]; rfl
  case case3 h => rw [Ty.chain_eq_nil h]; rfl
  case case4 h _ h' => rw [Ty.chain_eq_nil h, Ty.chain_eq_nil h']; rfl

theorem rankLin (u : Ty) : Lin (fun t : Ty => t.under = u) cmpRank :=
  (bytesLin.lex.pullInj Ty.chain (fun _ _ _ _ => trivial) fun a b ha hb hc => by
    rw [← a.wrap_chain_under, ← b.wrap_chain_under, ha, hb, hc]).congr fun a b _ _ => cmpRank_eq a b

/-- `cmpS` only looks at the underlying type of its first argument -/
theorem cmpS_under : (a ub : Ty) → cmpS a ub = cmpS a.under ub
  | .named _ x, ub => by simp [cmpS, Ty.under, cmpS_under x ub]
  | .prim _, _ | .record _, _ | .array _, _ | .set _, _ | .map _ _, _ | .union _, _ | .enum _, _ | .error _, _ => rfl

theorem cmpTy_def (a b : Ty) :
    cmpTy a b = if a.under = b.under then cmpRank a b else cmpS a.under b.under := by
  unfold cmpTy cmpCombine
  rw [cmpS_under]

@[simp] theorem kind_prim (i : Nat) : (Ty.prim i).kind = 0 := by show Ty.kindIdx _ = _; decide +kernel
@[simp] theorem kind_record (fs) : (Ty.record fs).kind = 1 := by show Ty.kindIdx _ = _; decide +kernel
@[simp] theorem kind_array (t) : (Ty.array t).kind = 2 := by show Ty.kindIdx _ = _; decide +kernel
@[simp] theorem kind_set (t) : (Ty.set t).kind = 3 := by show Ty.kindIdx _ = _; decide +kernel
@[simp] theorem kind_map (k v) : (Ty.map k v).kind = 4 := by show Ty.kindIdx _ = _; decide +kernel
@[simp] theorem kind_union (ts) : (Ty.union ts).kind = 5 := by show Ty.kindIdx _ = _; decide +kernel
@[simp] theorem kind_enum (s) : (Ty.enum s).kind = 6 := by show Ty.kindIdx _ = _; decide +kernel
@[simp] theorem kind_error (t) : (Ty.error t).kind = 7 := by show Ty.kindIdx _ = _; decide +kernel

theorem cmpFs_cons (n x r m y s) : cmpFs (.cons n x r) (.cons m y s) = (cmpTy x y).then (cmpFs r s) := rfl
theorem cmpTs_cons (x r y s) : cmpTs (.cons x r) (.cons y s) = (cmpTy x y).then (cmpTs r s) := rfl

theorem cmpS_record (fs gs) : cmpS (.record fs) (.record gs) =
    (compare fs.length gs.length).then ((cmpFieldNames fs gs).then (cmpFs fs gs)) := rfl
theorem cmpS_array (x y) : cmpS (.array x) (.array y) = cmpTy x y := rfl
theorem cmpS_set (x y) : cmpS (.set x) (.set y) = cmpTy x y := rfl
theorem cmpS_error (x y) : cmpS (.error x) (.error y) = cmpTy x y := rfl
theorem cmpS_map (k v k' v') : cmpS (.map k v) (.map k' v') = (cmpTy k k').then (cmpTy v v') := rfl
theorem cmpS_union (ts us) : cmpS (.union ts) (.union us) = (compare ts.length us.length).then (cmpTs ts us) := rfl
theorem cmpS_enum (s s') : cmpS (.enum s) (.enum s') = (compare s.length s'.length).then (cmpNames s s') := rfl
theorem cmpS_prim (i j) : cmpS (.prim i) (.prim j) = compare i j := rfl

-- sealed: a failing `rfl` would evaluate the table look-ups
attribute [local irreducible] Ty.kindIdx in
theorem cmpS_kind (u v : Ty) (hu : u.isNamed = false) (h : u.kind ≠ v.kind) :
    cmpS u v = compare u.kind v.kind := by
  fun_cases cmpS u v
  case case1 => exact Bool.noConfusion hu
  all_goals first | rfl | exact absurd rfl h

theorem kind_eq_prim {i : Nat} {v : Ty} (hv : v.isNamed = false) (h : v.kind = (Ty.prim i).kind) :
    ∃ j, v = .prim j := by cases v <;> simp_all [Ty.isNamed]
theorem kind_eq_record {fs : Fields} {v : Ty} (hv : v.isNamed = false) (h : v.kind = (Ty.record fs).kind) :
    ∃ gs, v = .record gs := by cases v <;> simp_all [Ty.isNamed]
theorem kind_eq_array {x v : Ty} (hv : v.isNamed = false) (h : v.kind = (Ty.array x).kind) :
    ∃ y, v = .array y := by cases v <;> simp_all [Ty.isNamed]
theorem kind_eq_set {x v : Ty} (hv : v.isNamed = false) (h : v.kind = (Ty.set x).kind) :
    ∃ y, v = .set y := by cases v <;> simp_all [Ty.isNamed]
theorem kind_eq_map {k x v : Ty} (hv : v.isNamed = false) (h : v.kind = (Ty.map k x).kind) :
    ∃ p : Ty × Ty, v = .map p.1 p.2 := by cases v <;> simp_all [Ty.isNamed]
theorem kind_eq_union {ts : Tys} {v : Ty} (hv : v.isNamed = false) (h : v.kind = (Ty.union ts).kind) :
    ∃ us, v = .union us := by cases v <;> simp_all [Ty.isNamed]
theorem kind_eq_enum {s : List Name} {v : Ty} (hv : v.isNamed = false) (h : v.kind = (Ty.enum s).kind) :
    ∃ s', v = .enum s' := by cases v <;> simp_all [Ty.isNamed]
theorem kind_eq_error {x v : Ty} (hv : v.isNamed = false) (h : v.kind = (Ty.error x).kind) :
    ∃ y, v = .error y := by cases v <;> simp_all [Ty.isNamed]

theorem cmpS_by_kind (u v : Ty) (hu : u.isNamed = false) :
    cmpS u v = (compare u.kind v.kind).then (cmpS u v) := by
  rw [← ite_eq_then (cmpK := fun (k k' : Nat) => compare k k') Nat.compare_eq_eq]
  split
  · rfl
  · exact cmpS_kind u v hu ‹_›

end Zed

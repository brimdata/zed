import Zed.Model.Compare
import Zed.Proofs.Law
/-! `compareNumbers` on one exact scale (`Num.key`): the conversion to float is exact for integers within ±2^53. -/
namespace Zed
open Zed.Ord

def FVal.z : FVal → Int
  | .fin z => z
  | _ => 0

theorem cmpF_eq_lex (a b : FVal) : cmpF a b = (compare a.rank b.rank).then (compare a.z b.z) := by
  cases a <;> cases b <;> simp [cmpF, FVal.rank, FVal.z, Ordering.then] <;> decide

theorem fLin : Pre All cmpF :=
  ((natLin.pull FVal.rank fun _ _ => trivial).then fun _ _ => intLin.pull FVal.z fun _ _ => trivial).congr
    fun a b _ _ => cmpF_eq_lex a b

def Num.toInt : Num → Int
  | .int i => i
  | .uint u => u
  | .float _ => 0

theorem cmpNum_ints : (a b : Num) → a.isFloat = false → b.isFloat = false → cmpNum a b = compare a.toInt b.toInt
  | .int _, .int _, _, _ => rfl
  | .uint u, .uint v, _, _ => (compare_natCast u v).symm
  | .int i, .uint u, _, _ => by
    simp only [cmpNum, Num.toInt]
    split
    · exact (Int.compare_eq_lt.mpr (by omega)).symm
    · rw [← compare_natCast, Int.toNat_of_nonneg (by omega)]
  | .uint u, .int i, _, _ => by
    simp only [cmpNum, Num.toInt]
    split
    · exact (Int.compare_eq_gt.mpr (by omega)).symm
    · rw [← compare_natCast, Int.toNat_of_nonneg (by omega)]

/-- the exact value, scaled as `FVal` -/
def Num.key : Num → FVal
  | .float f => f
  | n => .fin (n.toInt * (scale : Int))

theorem roundNat_of_le (n : Nat) (h : n ≤ 2 ^ 53) : roundNat n = n := by
  by_cases h' : n < 2 ^ 53
  · simp [roundNat, h']
  · have : n = 2 ^ 53 := by omega
    subst this; decide

theorem toF_eq_key (a : Num) (h : IntSafe a = true) : a.toF = a.key := by
  cases a with
  | float f => rfl
  | uint u =>
    simp only [IntSafe, decide_eq_true_eq] at h
    simp only [Num.toF, Num.key, Num.toInt, roundNat_of_le u h]
  | int i =>
    simp only [IntSafe, decide_eq_true_eq] at h
    simp only [Num.toF, Num.key, Num.toInt]
    generalize scale = s
    split
    · rw [roundNat_of_le _ h, Int.natCast_mul, show (i.natAbs : Int) = -i by omega, Int.neg_mul, Int.neg_neg]
    · rw [roundNat_of_le _ (by omega), Int.natCast_mul, show (i.toNat : Int) = i by omega]

theorem compare_mul_scale (x y : Int) : compare (x * (scale : Int)) (y * (scale : Int)) = compare x y := by
  have hs : (0 : Int) < (scale : Int) := by
    exact_mod_cast (Nat.pow_pos (by decide) : 0 < scale)
  simp only [Int.compare_eq_ite_lt, Int.mul_lt_mul_right hs]

theorem cmpNum_float {a b : Num} (hf : a.isFloat = true ∨ b.isFloat = true) : cmpNum a b = cmpF a.toF b.toF := by
  cases a with
  | float x => simp only [cmpNum, Num.toF]
  | _ =>
    cases b with
    | float y => simp only [cmpNum, Num.toF]
    | _ => simp [Num.isFloat] at hf

theorem cmpNum_eq_exact (a b : Num) (h : NumOK a b) : cmpNum a b = cmpF a.key b.key := by
  by_cases hf : a.isFloat = true ∨ b.isFloat = true
  · rw [cmpNum_float hf, toF_eq_key a (h hf).1, toF_eq_key b (h hf).2]
  · simp only [not_or, Bool.not_eq_true] at hf
    rw [cmpNum_ints a b hf.1 hf.2]
    cases a <;> cases b <;> simp only [Num.isFloat, Bool.true_eq_false, and_false, false_and] at hf <;>
      simp only [Num.key, cmpF, compare_mul_scale]

end Zed

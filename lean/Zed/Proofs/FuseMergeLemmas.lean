import Zed.Proofs.FuseBasic
/-!
  C20 helper lemmas: `merge` neither loses nor invents a leaf path; what `firstSeen` and `mixinAll` do.
-/
namespace Zed.Fuse

def LeafJoin (m : Ty → Ty → Option Ty) : Prop :=
  ∀ a b c, m a b = some c → ∀ l, l ∈ tleaves c ↔ l ∈ tleaves a ∨ l ∈ tleaves b

theorem tleaves_under (t : Ty) : tleaves t.under = tleaves t := by
  fun_induction Ty.under t with
  | case1 _ t ih => rw [ih, tleaves]
  | case2 t _ => rfl

theorem tleaves_of_under_null {t : Ty} (h : t.under = tyNull) : tleaves t = [] := by
  rw [← tleaves_under, h]; simp [tyNull, tleaves, idNull]

theorem tpre_join {e : TEl} {X A B : List TLeaf} (h : ∀ l, l ∈ X ↔ l ∈ A ∨ l ∈ B) :
    ∀ l, l ∈ tpre e X ↔ l ∈ tpre e A ∨ l ∈ tpre e B := by
  intro l; simp only [tpre, List.mem_map, h, or_and_right, exists_or]

def lsOf (ts : List Ty) (l : TLeaf) : Prop := l ∈ ts.flatMap tleaves

theorem lsOf_iff (ts : List Ty) (l : TLeaf) : lsOf ts l ↔ ∃ t ∈ ts, l ∈ tleaves t := List.mem_flatMap

theorem lsOf_append (xs ys : List Ty) (l : TLeaf) : lsOf (xs ++ ys) l ↔ lsOf xs l ∨ lsOf ys l := by
  simp only [lsOf, List.flatMap_append, List.mem_append]

theorem lsOf_cons (t : Ty) (r : List Ty) (l : TLeaf) : lsOf (t :: r) l ↔ l ∈ tleaves t ∨ lsOf r l := by
  simp only [lsOf, List.flatMap_cons, List.mem_append]

theorem lsOf_singleton (t : Ty) (l : TLeaf) : lsOf [t] l ↔ l ∈ tleaves t := by
  simp [lsOf]

theorem lsOf_nil (l : TLeaf) : ¬ lsOf [] l := by simp [lsOf]

theorem mem_tleavesU (ts : Tys) (l : TLeaf) : l ∈ tleavesU ts ↔ lsOf ts.toList l := by
  fun_induction Tys.toList ts with
  | case1 => simp [tleavesU, lsOf_nil]
  | case2 t r ih => rw [tleavesU, List.mem_append, ih, lsOf_cons]

theorem Tys.toList_ofList : (ts : List Ty) → (Tys.ofList ts).toList = ts
  | [] => rfl
  | t :: r => by simp [Tys.ofList, Tys.toList, Tys.toList_ofList r]

theorem mem_insertSorted (x : Ty) (ys : List Ty) (y : Ty) : y ∈ insertSorted x ys ↔ y = x ∨ y ∈ ys := by
  induction ys with
  | nil => simp [insertSorted]
  | cons z zs ih =>
    simp only [insertSorted]
    split
    · simp
    · simp only [List.mem_cons, ih]
      exact or_left_comm

theorem mem_sortTypes (ts : List Ty) (y : Ty) : y ∈ sortTypes ts ↔ y ∈ ts := by
  induction ts with
  | nil => simp [sortTypes]
  | cons t r ih => simp [sortTypes, mem_insertSorted, ih]

theorem tleaves_lookupUnion (ts : List Ty) (l : TLeaf) : l ∈ tleaves (lookupUnion ts) ↔ lsOf ts l := by
  simp only [lookupUnion, tleaves, mem_tleavesU, Tys.toList_ofList, lsOf_iff, mem_sortTypes]

theorem lsOf_appendIfAbsent (ts : List Ty) (t : Ty) (l : TLeaf) :
    lsOf (appendIfAbsent ts t) l ↔ lsOf ts l ∨ l ∈ tleaves t := by
  unfold appendIfAbsent
  split
  · rename_i h
    constructor
    · exact Or.inl
    · rintro (h1 | h1)
      · exact h1
      · exact List.mem_flatMap.2 ⟨t, h, h1⟩
  · rw [lsOf_append, lsOf_singleton]

theorem lsOf_foldl_appendIfAbsent (bs ts : List Ty) (l : TLeaf) :
    lsOf (bs.foldl appendIfAbsent ts) l ↔ lsOf ts l ∨ lsOf bs l := by
  induction bs generalizing ts with
  | nil => simp [lsOf_nil]
  | cons b r ih =>
    simp only [List.foldl_cons, ih, lsOf_appendIfAbsent, lsOf_cons]
    exact or_assoc

theorem lsOf_set {xs : List Ty} {i : Nat} {r w : Ty} (hi : xs[i]? = some r) (l : TLeaf)
    (hw : l ∈ tleaves w ↔ l ∈ tleaves r ∨ X) :
    lsOf (xs.set i w) l ↔ lsOf xs l ∨ X := by
  obtain ⟨hlt, hr⟩ := List.getElem?_eq_some_iff.1 hi
  have hx : xs = xs.take i ++ r :: xs.drop (i + 1) := by
    rw [← hr, List.getElem_cons_drop, List.take_append_drop]
  have hs : xs.set i w = xs.take i ++ w :: xs.drop (i + 1) := by
    rw [List.set_eq_take_append_cons_drop]; simp [hlt]
  have e1 : ∀ (z : Ty), lsOf (xs.take i ++ z :: xs.drop (i + 1)) l ↔
      lsOf (xs.take i) l ∨ l ∈ tleaves z ∨ lsOf (xs.drop (i + 1)) l := by
    intro z
    rw [lsOf_append, lsOf_cons]
  rw [hs, e1 w]
  conv => rhs; rw [hx, e1 r]
  rw [hw, or_right_comm (a := l ∈ tleaves r), ← or_assoc]

theorem mergeAllRecords_leaves (m : Ty → Ty → Option Ty) (hm : LeafJoin m)
    (ts out : List Ty) (ri : Option Nat) (res : List Ty) (h : mergeAllRecords m ts out ri = some res)
    (l : TLeaf) : lsOf res l ↔ lsOf out l ∨ lsOf ts l := by
  fun_induction mergeAllRecords m ts out ri with
  | case1 out ri => obtain rfl := Option.some.inj h; simp [lsOf_nil]
  | case2 t rest out _ ih | case5 t rest out _ _ ih =>
    rw [ih h, lsOf_append, lsOf_singleton, lsOf_cons]
    exact or_assoc
  | case3 t rest out _ i hi => exact absurd h (by simp)
  | case4 t rest out _ i r hi ih =>
    obtain ⟨w, hw, h⟩ := Option.bind_eq_some_iff.1 h
    rw [ih w h, setAt, lsOf_set hi l (hm r t w hw l), lsOf_cons]
    exact or_assoc

theorem finishUnion_leaves (m : Ty → Ty → Option Ty) (hm : LeafJoin m) (types : List Ty) (c : Ty)
    (h : finishUnion m types = some c) : ∀ l, l ∈ tleaves c ↔ lsOf types l := by
  intro l
  simp only [finishUnion, Option.map_eq_some_iff] at h
  obtain ⟨ts, h1, h2⟩ := h
  have := mergeAllRecords_leaves m hm types [] none ts h1 l
  simp only [lsOf_nil, false_or] at this
  rw [← this]
  split at h2
  · subst h2; rw [lsOf_singleton]
  · subst h2; exact tleaves_lookupUnion ts l

theorem tleaves_eq_members {a : Ty} {as : Tys} (h : a.under = .union as) (l : TLeaf) :
    l ∈ tleaves a ↔ lsOf as.toList l := by
  rw [← tleaves_under, h, tleaves, mem_tleavesU]

theorem mergeUnion_leaves (m : Ty → Ty → Option Ty) (hm : LeafJoin m) (a b c : Ty)
    (h : mergeUnion m a b = some c) : ∀ l, l ∈ tleaves c ↔ l ∈ tleaves a ∨ l ∈ tleaves b := by
  intro l
  unfold mergeUnion at h
  split at h
  · rename_i as ha
    rw [finishUnion_leaves m hm _ c h l, tleaves_eq_members ha]
    split
    · rename_i bs hb
      rw [lsOf_foldl_appendIfAbsent, tleaves_eq_members hb]
    · rw [lsOf_appendIfAbsent]
  · split at h
    · rw [hm b a c h l]; exact Or.comm
    · simp only [Option.some.injEq] at h
      subst h
      rw [tleaves_lookupUnion, lsOf_cons, lsOf_singleton]

theorem mergeFieldInto_leaves (m : Ty → Ty → Option Ty) (hm : LeafJoin m) (name : Name) (t : Ty)
    (acc acc' : Fields) (h : mergeFieldInto m name t acc = some acc') (l : TLeaf) :
    l ∈ tleavesF acc' ↔ l ∈ tleavesF acc ∨ l ∈ tpre (.fld name) (tleaves t) := by
  fun_induction mergeFieldInto m name t acc generalizing acc' with
  | case1 => obtain rfl := Option.some.inj h; simp [tleavesF]
  | case2 rest =>
    obtain rfl := Option.some.inj h
    simp only [tleavesF, List.mem_append]
    constructor
    · exact Or.inl
    · rintro (h | h)
      · exact h
      · exact Or.inl h
  | case3 u rest hu =>
    obtain ⟨w, hw, rfl⟩ := Option.map_eq_some_iff.1 h
    simp only [tleavesF, List.mem_append, tpre_join (hm u t w hw) l]
    exact or_right_comm
  | case4 n u rest hn ih =>
    obtain ⟨r, hr, rfl⟩ := Option.map_eq_some_iff.1 h
    simp only [tleavesF, List.mem_append, ih r hr]
    exact or_assoc.symm

theorem mergeFields_leaves (m : Ty → Ty → Option Ty) (hm : LeafJoin m) (fb acc res : Fields)
    (h : mergeFields m acc fb = some res) (l : TLeaf) :
    l ∈ tleavesF res ↔ l ∈ tleavesF acc ∨ l ∈ tleavesF fb := by
  fun_induction mergeFields m acc fb with
  | case1 acc => obtain rfl := Option.some.inj h; simp [tleavesF]
  | case2 acc n t rest ih =>
    obtain ⟨acc', h1, h2⟩ := Option.bind_eq_some_iff.1 h
    rw [ih acc' h2, mergeFieldInto_leaves m hm n t acc acc' h1 l]
    simp only [tleavesF, List.mem_append]
    exact or_assoc

theorem tleaves_of_under {a u : Ty} (h : a.under = u) : tleaves a = tleaves u := by
  rw [← tleaves_under, h]

theorem tleaves_of_inner {a x : Ty} (h : a.inner? = some x) : tleaves a = tpre .elem (tleaves x) := by
  rw [← tleaves_under]
  rcases inner?_eq_some.1 h with hu | hu <;> rw [hu, tleaves]

/-- `merge` case by case.  The field loop and the union branch call `merge` back through a
    parameter `m`, of which they may assume `P`.  The `inner` case keeps only `c.inner? = some z`
    (array or set is forgotten), so the four array / set pairs are one case. -/
theorem merge_induct {P : Ty → Ty → Ty → Prop}
    (nullL : ∀ a b, a.under = tyNull → P a b b)
    (nullR : ∀ a b, b.under = tyNull → P a b a)
    (record : ∀ m, (∀ x y z, m x y = some z → P x y z) → ∀ a b fa fb fc,
      a.under = .record fa → b.under = .record fb → mergeFields m fa fb = some fc → P a b (.record fc))
    (inner : ∀ a b c x y z, a.inner? = some x → b.inner? = some y → c.inner? = some z → P x y z → P a b c)
    (map : ∀ a b k v k' v' kk vv, a.under = .map k v → b.under = .map k' v' → P k k' kk → P v v' vv →
      P a b (.map kk vv))
    (union : ∀ m, (∀ x y z, m x y = some z → P x y z) → ∀ a b c, mergeUnion m a b = some c → P a b c) :
    ∀ n a b c, merge n a b = some c → P a b c
  | 0, _, _, _, h => by simp [merge] at h
  | n + 1, a, b, c, h => by
    have ih := merge_induct nullL nullR record inner map union n
    simp only [merge] at h
    split at h
    next ha => exact Option.some.inj h ▸ nullL a b ha
    next =>
    split at h
    next hb => exact Option.some.inj h ▸ nullR a b hb
    next =>
    split at h
    case h_1 fa fb hfa hfb =>
      obtain ⟨fc, h1, rfl⟩ := Option.map_eq_some_iff.1 h
      exact record _ ih a b fa fb fc hfa hfb h1
    case h_6 k v k' v' hx hy =>
      simp only [Option.bind_eq_some_iff, Option.map_eq_some_iff] at h
      obtain ⟨kk, h1, vv, h2, rfl⟩ := h
      exact map a b k v k' v' kk vv hx hy (ih k k' kk h1) (ih v v' vv h2)
    case h_7 => exact union _ ih a b c h
    -- array / array, array / set, set / array, set / set
    all_goals
      rename_i x y hx hy
      obtain ⟨z, h1, rfl⟩ := Option.map_eq_some_iff.1 h
      exact inner a b _ x y z (by simp [Ty.inner?, hx]) (by simp [Ty.inner?, hy]) rfl (ih x y z h1)

/-- **merge neither loses nor invents a leaf**, for every fuel at which it answers. -/
theorem merge_leafJoin (n : Nat) : LeafJoin (merge n) := by
  refine merge_induct (P := fun a b c => ∀ l, l ∈ tleaves c ↔ l ∈ tleaves a ∨ l ∈ tleaves b)
    ?_ ?_ ?_ ?_ ?_ ?_ n
  · intro a b ha l; simp [tleaves_of_under_null ha]
  · intro a b hb l; simp [tleaves_of_under_null hb]
  · intro m hm a b fa fb fc hfa hfb h1 l
    rw [tleaves_of_under hfa, tleaves_of_under hfb]
    simp only [tleaves]
    exact mergeFields_leaves m hm fb fa fc h1 l
  · intro a b c x y z hx hy hz ih l
    rw [tleaves_of_inner hx, tleaves_of_inner hy, tleaves_of_inner hz]
    exact tpre_join ih l
  · intro a b k v k' v' kk vv hx hy ihk ihv l
    rw [tleaves_of_under hx, tleaves_of_under hy]
    simp only [tleaves, List.mem_append, tpre_join ihk l, tpre_join ihv l]
    exact or_or_or_comm
  · exact fun m hm a b c h => mergeUnion_leaves m hm a b c h

theorem mem_firstSeen (seen ts : List Ty) (t : Ty) :
    t ∈ firstSeen seen ts ↔ t ∈ ts ∧ t ∉ seen := by
  fun_induction firstSeen seen ts with
  | case1 => simp
  | case2 seen u r hu ih =>
    rw [ih, List.mem_cons]
    constructor
    · rintro ⟨h1, h2⟩
      exact ⟨Or.inr h1, h2⟩
    · rintro ⟨h1 | h1, h2⟩
      · subst h1; exact absurd hu h2
      · exact ⟨h1, h2⟩
  | case3 seen u r hu ih =>
    rw [List.mem_cons, ih, List.mem_cons, List.mem_cons]
    by_cases htu : t = u
    · subst htu; simp [hu]
    · simp [htu]

theorem firstSeen_nodup (seen ts : List Ty) : (firstSeen seen ts).Nodup := by
  induction ts generalizing seen with
  | nil => simp [firstSeen]
  | cons t r ih =>
    simp only [firstSeen]
    by_cases ht : t ∈ seen
    · simpa [ht] using ih seen
    · simp only [ht, if_false, List.nodup_cons]
      refine ⟨?_, ih _⟩
      intro hm
      have := (mem_firstSeen (t :: seen) r t).1 hm
      exact this.2 List.mem_cons_self

theorem mixinAll_leaves (fuel : Nat) (ts : List Ty) (s s' : Option Ty)
    (h : mixinAll fuel s ts = some s') : ∀ l, lsOf s'.toList l ↔ lsOf s.toList l ∨ lsOf ts l := by
  induction ts generalizing s with
  | nil =>
    obtain rfl := Option.some.inj h
    intro l; simp [lsOf_nil]
  | cons t r ih =>
    intro l
    simp only [mixinAll, Option.bind_eq_some_iff] at h
    obtain ⟨s1, h1, h2⟩ := h
    rw [ih s1 h2 l, lsOf_cons]
    cases s with
    | none =>
      obtain rfl : some t = s1 := Option.some.inj h1
      simp [lsOf_nil, lsOf_singleton]
    | some u =>
      simp only [mixin, Option.map_eq_some_iff] at h1
      obtain ⟨w, hw, rfl⟩ := h1
      rw [Option.toList_some, Option.toList_some, lsOf_singleton, lsOf_singleton, merge_leafJoin fuel u t w hw l]
      exact or_assoc

theorem mixinAll_none_of_some (fuel : Nat) (ts : List Ty) (t : Ty)
    (h : mixinAll fuel (some t) ts = some none) : False := by
  induction ts generalizing t with
  | nil => simp [mixinAll] at h
  | cons u r ih =>
    simp only [mixinAll, mixin, Option.bind_eq_some_iff, Option.map_eq_some_iff] at h
    obtain ⟨s1, ⟨w, _, rfl⟩, h2⟩ := h
    exact ih w h2

end Zed.Fuse

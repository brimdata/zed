import Zed.Proofs.VecLoadFull
/-! The vector read path of a whole object: several top-level types, order through the tags. -/
namespace Zed.Vng

theorem mapM_some {α β : Type} (f : α → Option β) (g : α → β) (l : List α)
    (h : ∀ x ∈ l, f x = some (g x)) : l.mapM f = some (l.map g) := by
  induction l with
  | nil => simp
  | cons x xs ih =>
    simp only [List.mapM_cons, h x (by simp), ih (fun y hy => h y (List.mem_cons_of_mem _ hy))]
    rfl

theorem projCrashes_all (c : Col) : projCrashes .all c = false := by
  cases c <;> rfl

/-- the columns of the seen types, loaded: lengths, types and slot contents. -/
theorem encTypes_vspec : ∀ (ts : List Ty) (k : Nat) (ps : List (Nat × Val)),
    (∀ p ∈ ps, k ≤ p.1 → ConfAt ts (p.1 - k) p.2) →
    okTypes ts k ps = true →
    ∃ vvs : List Vec, (encTypes ts k ps).mapM (fun c => load c none 0 none) = some vvs ∧
      vvs.map vecType = ts ∧
      vvs.map Vec.len = (List.range' k ts.length).map (fun i => (partitionBy i ps).length) ∧
      ∀ j, j < ts.length → ∀ v, vvs[j]? = some v → ∀ i, i < (partitionBy (k + j) ps).length →
        serialize v i = (partitionBy (k + j) ps)[i]?
  | [], k, ps => fun _ _ => ⟨[], rfl, rfl, rfl, fun j hj => absurd hj (Nat.not_lt_zero j)⟩
  | t :: rest, k, ps => by
    intro h hok
    have hok : okV t (partitionBy k ps) false = true ∧ okTypes rest (k + 1) ps = true :=
      Bool.and_eq_true_iff.mp hok
    obtain ⟨cv, hcv, hcty, hcl, _, hcs⟩ := (loadReader.enc t (partitionBy k ps) fun v hv => by
      simpa [ConfAt] using tagged_head (ConfAt (t :: rest)) h v hv).top
      hok.1
    obtain ⟨vvs, hvv, hvty, hvl, hvs⟩ := encTypes_vspec rest (k + 1) ps
      (tagged_tail (ConfAt (t :: rest)) h) hok.2
    refine ⟨cv :: vvs, ?_, by rw [List.map_cons, hcty, hvty], ?_, ?_⟩
    · simp only [encTypes, List.mapM_cons, hcv, hvv]
      rfl
    · rw [List.map_cons, hcl, hvl, List.length_cons, List.range'_succ, List.map_cons]
    · intro j hj v hv i hi
      cases j with
      | zero => cases hv; exact hcs i hi
      | succ j =>
        rw [show k + (j + 1) = k + 1 + j by omega] at hi ⊢
        exact hvs j (Nat.lt_of_succ_lt_succ hj) v hv i hi

theorem sum_ite_range (n t : Nat) (ht : t < n) :
    ((List.range n).map fun k => if t = k then 1 else 0).sum = 1 := by
  induction n with
  | zero => omega
  | succ n ih =>
    rw [List.range_succ, List.map_append, List.sum_append]
    by_cases h : t = n
    · subst h
      have : ((List.range t).map fun k => if t = k then 1 else 0) = (List.range t).map fun _ => 0 := by
        apply List.map_congr_left
        intro k hk
        have : k < t := List.mem_range.mp hk
        simp; omega
      rw [this, List.map_const', List.sum_replicate_nat]; simp
    · rw [ih (by omega)]; simp [h]

/-- the per-tag partitions together have the length of the sequence. -/
theorem sum_partition_lengths {α : Type} (n : Nat) (ps : List (Nat × α)) (h : ∀ p ∈ ps, p.1 < n) :
    ((List.range n).map fun k => (partitionBy k ps).length).sum = ps.length := by
  induction ps with
  | nil => simp [partitionBy, List.map_const', List.sum_replicate_nat]
  | cons p ps ih =>
    obtain ⟨t, a⟩ := p
    have ht : t < n := h (t, a) (by simp)
    have hsplit : ((List.range n).map fun k => (partitionBy k ((t, a) :: ps)).length) =
        (List.range n).map fun k => (partitionBy k ps).length + (if t = k then 1 else 0) := by
      apply List.map_congr_left
      intro k _
      rw [partitionBy_cons]
      by_cases hk : t = k <;> simp [hk]
    rw [hsplit]
    have hadd : ∀ (l : List Nat) (f g : Nat → Nat), (l.map fun k => f k + g k).sum = (l.map f).sum + (l.map g).sum := by
      intro l f g
      induction l with
      | nil => rfl
      | cons x xs ih2 => simp [ih2]; omega
    rw [hadd, ih (fun p hp => h p (List.mem_cons_of_mem _ hp)), sum_ite_range n t ht]
    simp

/-- **the vector read path of a whole object** (no projection): any number of top-level
    types interleaved in any order; the tags restore the order. -/
theorem readVec_encTop (vs : List (Ty × Val)) (h : ∀ p ∈ vs, conforms p.1 p.2 = true)
    (hok : seqOK vs = true) : readVec [] (encTop vs) = some vs := by
  have hok : okTypes (seenTypes [] vs) 0 (tagged vs) = true := hok
  by_cases hs : ∃ t, seenTypes [] vs = [t]
  · obtain ⟨t, hty⟩ := hs
    obtain ⟨hpart, hpt⟩ := tagged_single hty
    rw [hty, okTypes, okTypes, Bool.and_true, hpart] at hok
    rw [encTop_single hty, readVec_single [] t (vs.map (·.2)) (by
        intro v hv
        obtain ⟨p, hp, rfl⟩ := List.mem_map.mp hv
        rw [← hpt p hp]; exact h p hp) hok (projCrashes_all _)]
    exact congrArg some (map_snd_pair hpt)
  · rw [encTop_dynamic fun t ht => hs ⟨t, ht⟩]
    obtain ⟨vvs, hvv, hvty, hvl, hvs⟩ := encTypes_vspec _ 0 _ (tagged_conf vs h) hok
    have hlenT : (tagged vs).length = vs.length := List.length_map _
    have hvlen : vvs.length = (seenTypes [] vs).length := by rw [← hvty, List.length_map]
    have hfun : (fun c => (load c none 0 none).map (projVec .all)) = fun c => load c none 0 none := by
      funext c; cases load c none 0 none <;> rfl
    have hsum : (vvs.map Vec.len).sum = ((tagged vs).map (·.1)).length := by
      rw [hvl, ← List.range_eq_range', sum_partition_lengths _ _ (tagged_lt vs), List.length_map]
    have hall : mkProj [] = Proj.all := rfl
    simp only [readVec, hall, projCrashes_all, List.any_eq_true, Bool.false_eq_true, and_false,
      exists_false, if_false, hfun, hvv, hsum, bne_self_eq_false, List.length_map]
    rw [mapM_some _ (fun slot => vs.getD slot (.prim 29, .null)) (List.range (tagged vs).length)]
    · congr 1
      apply List.ext_getElem?
      intro i
      by_cases hi : i < vs.length
      · simp [hlenT, hi, List.getD_eq_getElem?_getD]
      · simp [hlenT, hi]
    · intro slot hslot
      have hs : slot < (tagged vs).length := List.mem_range.mp hslot
      have hsv : slot < vs.length := hlenT ▸ hs
      obtain ⟨e1, e2⟩ := tagged_getElem vs slot hsv
      have hlt := tagged_lt vs _ (List.getElem_mem hs)
      have hvj : ((tagged vs)[slot]).1 < vvs.length := hvlen ▸ hlt
      -- the vector the tag selects has the type of the slot's value …
      have hvt : vecType (vvs[((tagged vs)[slot]).1]) = (vs[slot]).1 := by
        have := congrArg (fun l => l[((tagged vs)[slot]).1]?) hvty
        simp only [List.getElem?_map, List.getElem?_eq_getElem hvj, Option.map_some, e1] at this
        exact Option.some.inj this
      -- … and holds that value at the slot's forward index
      have hser := hvs _ hlt _ (List.getElem?_eq_getElem hvj) _
        (by rw [Nat.zero_add]; exact forwardOf_lt (tagged vs) slot hs)
      rw [Nat.zero_add, partition_forward (tagged vs) slot hs, e2] at hser
      simp only [List.getD_eq_getElem?_getD, List.getElem?_map, List.getElem?_eq_getElem hs,
        Option.map_some, Option.getD_some, List.getElem?_eq_getElem hvj, hser, hvt,
        List.getElem?_eq_getElem hsv]

end Zed.Vng
